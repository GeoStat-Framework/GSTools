/-
  C07 — conditioned random fields honour the data and never reuse stale kriging results.
-/
import GSV.Model.Cond
import GSV.RealInst
namespace GSV.Props.C07
open GSV GSV.Model.Cond

theorem scaling_of_not_pos {kvar var nugget : ℝ} (hn : ¬ 0 < nugget) :
    scaling kvar var nugget = (Real.sqrt (kvar / var), 0) := by
  unfold scaling
  rw [Nat.cast_zero, if_neg hn]
  rfl

/-- `get_scaling` with a nugget: the structured part carries `max (kvar − nugget) 0` of the kriging variance -/
theorem scaling_of_pos {kvar var nugget : ℝ} (hn : 0 < nugget) :
    scaling kvar var nugget =
      (Real.sqrt (max (kvar - nugget) 0 / var), Real.sqrt ((kvar - max (kvar - nugget) 0) / nugget)) := by
  unfold scaling maxz
  rw [Nat.cast_zero, if_pos hn, ← max_def_lt]
  rfl

/-- at a location where the kriging variance is zero the conditioned value is the kriging estimate —
    for every unconditional field value and every nugget noise, i.e. for every seed -/
theorem honours_data (krige raw var nugget noise : ℝ) :
    condValue krige 0 raw var nugget noise = krige := by
  unfold condValue
  by_cases h : 0 < nugget
  · rw [scaling_of_pos h, max_eq_right (sub_nonpos.2 h.le)]
    simp only [sub_zero, zero_div, Real.sqrt_zero, zero_mul, add_zero]
  · rw [scaling_of_not_pos h]
    simp only [zero_div, Real.sqrt_zero, zero_mul, add_zero]

/-- the formula of the docstring: `krige + sqrt(kvar / var) · raw` for nugget-free models -/
theorem formula_no_nugget (krige kvar raw var noise : ℝ) :
    condValue krige kvar raw var 0 noise = krige + Real.sqrt (kvar / var) * raw := by
  rw [condValue, scaling_of_not_pos (lt_irrefl 0), zero_mul, add_zero]

/-- with a nugget and `kvar ≥ nugget`: the structured part is scaled by `sqrt((kvar − nugget)/var)`, the
    nugget noise enters unscaled -/
theorem formula_nugget (krige kvar raw var nugget noise : ℝ) (hn : 0 < nugget) (hk : nugget ≤ kvar) :
    condValue krige kvar raw var nugget noise = krige + Real.sqrt ((kvar - nugget) / var) * raw + noise := by
  rw [condValue, scaling_of_pos hn, max_eq_left (sub_nonneg.2 hk), sub_sub_cancel, div_self hn.ne',
    Real.sqrt_one, one_mul]

/-- far from the data under simple kriging (kriging variance = sill, raw estimate 0) the conditioned
    value is the unconditional field plus its nugget noise -/
theorem far_field_simple (raw var nugget noise : ℝ) (hv : 0 < var) (hn : 0 ≤ nugget) :
    condValue 0 (var + nugget) raw var nugget noise = raw + (if 0 < nugget then noise else 0) := by
  rcases hn.lt_or_eq with h | rfl
  · rw [formula_nugget 0 _ raw var nugget noise h (le_add_of_nonneg_left hv.le), if_pos h, add_sub_cancel_right,
      div_self hv.ne', Real.sqrt_one, one_mul, zero_add]
  · rw [formula_no_nugget, if_neg (lt_irrefl 0), add_zero, div_self hv.ne', Real.sqrt_one, one_mul, zero_add, add_zero]

/-- `honours_data` on numbers: estimate `2`, kriging variance `0`, raw field `5`, variance `1`, nugget `0.25`, noise `7` -/
example : condValue (2:ℝ) 0 5 1 0.25 7 = 2 := honours_data 2 5 1 0.25 7

/-! ## the cache state machine

  `raw_krige` is stored in the CondSRF object, `krige_var` in the Krige object (each under a field name), positions are
  shared; stored arrays carry an object identity and the CondSRF object remembers the pair stored by its last kriging run
  (`ref`).  `step` uses the reuse rule of the code (`Rule.bothRef`: both stored arrays are the remembered pair);
  `stepWith .present` / `stepWith .varRef` are the two weaker rules, shown insufficient by the examples of this section. -/

/-- **Link invariant** (holds in EVERY reachable state, whatever the operations): object identities are below the
    counter, and a stored raw field / stored variance that are the remembered pair hold the result of one kriging run -/
def LinkInv (s : State) : Prop :=
  (∀ n r, s.raw n = some r → r.obj < s.nextObj) ∧
  (∀ n v, s.var n = some v → v.obj < s.nextObj) ∧
  (∀ i j, s.ref = some (i, j) → i < s.nextObj ∧ j < s.nextObj) ∧
  (∀ n m r v, s.raw n = some r → s.var m = some v → s.ref = some (r.obj, v.obj) → r.tok = v.tok)

theorem set_eq_some {b : Bool} {m : FieldStore} {n k : Nat} {v w : Stored}
    (h : (if b then m.set n v else m) k = some w) : w = v ∨ m k = some w := by
  cases b
  · exact .inr h
  · change (if k = n then some v else m k) = some w at h
    split at h
    · exact .inl (Option.some.inj h).symm
    · exact .inr h

/-- a freshly built object satisfies the link invariant (nothing stored, nothing remembered) -/
theorem init_linkInv (c m mu : Nat) : LinkInv (init c m mu) :=
  ⟨nofun, nofun, nofun, nofun⟩

/-- an operation that leaves the remembered pair alone, only drops raw fields, and drops variances or stores them under
    new identities keeps the link invariant: a new variance is not the remembered one -/
theorem LinkInv.mono {s s' : State} (h : LinkInv s) (hn : s.nextObj ≤ s'.nextObj) (hf : s'.ref = s.ref)
    (hr : ∀ n r, s'.raw n = some r → s.raw n = some r)
    (hv : ∀ n v, s'.var n = some v → s.var n = some v ∨ (s.nextObj ≤ v.obj ∧ v.obj < s'.nextObj)) : LinkInv s' := by
  obtain ⟨h1, h2, h3, h4⟩ := h
  refine ⟨fun n r e => Nat.lt_of_lt_of_le (h1 n r (hr n r e)) hn, fun n v e => ?_, fun i j e => ?_, fun n m r v er ev e => ?_⟩
  · rcases hv n v e with e' | e'
    · exact Nat.lt_of_lt_of_le (h2 n v e') hn
    · exact e'.2
  · exact (h3 i j (hf ▸ e)).imp (Nat.lt_of_lt_of_le · hn) (Nat.lt_of_lt_of_le · hn)
  · rw [hf] at e
    rcases hv m v ev with ev' | ev'
    · exact h4 n m r v (hr n r er) ev' e
    · exact absurd (h3 _ _ e).2 (Nat.not_lt.2 ev'.1)

theorem setPos_linkInv {s : State} (h : LinkInv s) (p : Nat) : LinkInv (setPos s p) := by
  unfold setPos
  split
  · exact h
  · exact h.mono (Nat.le_refl _) rfl nofun nofun

theorem krigeSetPos_linkInv {s : State} (h : LinkInv s) (p : Nat) : LinkInv (krigeSetPos s p) := by
  unfold krigeSetPos
  split
  · exact h
  · exact h.mono (Nat.le_refl _) rfl (fun _ _ e => e) nofun

/-- a fresh kriging run keeps the link invariant (any store / krige_store combination, any names): the pair it remembers
    carries two new identities, so it can only be matched by the two arrays this run stored -/
theorem freshRun_linkInv {s : State} (h : LinkInv s) {p rn : Nat} {st : Bool} {vn : Nat} {kst : Bool} :
    LinkInv (freshRun s p rn st vn kst) := by
  obtain ⟨h1, h2, _, _⟩ := h
  have href : ∀ i j, (freshRun s p rn st vn kst).ref = some (i, j) → i = s.nextObj ∧ j = s.nextObj + 1 :=
    fun i j e => Prod.mk.inj (Option.some.inj (Option.ite_none_right_eq_some.1 e).2).symm
  refine ⟨fun n r e => ?_, fun n v e => ?_, fun i j e => ?_, fun n m r v er ev e => ?_⟩
  · rcases set_eq_some e with rfl | e'
    · exact Nat.lt_add_of_pos_right (by decide)
    · exact Nat.lt_add_right 2 (h1 n r e')
  · rcases set_eq_some e with rfl | e'
    · exact Nat.lt_succ_self _
    · exact Nat.lt_add_right 2 (h2 n v e')
  · obtain ⟨rfl, rfl⟩ := href i j e
    exact ⟨Nat.lt_add_of_pos_right (by decide), Nat.lt_succ_self _⟩
  · have := href _ _ e
    rcases set_eq_some er with rfl | er'
    · rcases set_eq_some ev with rfl | ev'
      · rfl
      · exact absurd (h2 m v ev') (this.2 ▸ Nat.not_succ_lt_self)
    · exact absurd (h1 n r er') (this.1 ▸ Nat.lt_irrefl _)

/-- a call raises (no positions), reuses a stored pair, or makes a fresh kriging run at the newly set positions -/
theorem call_outcome (rule : Rule) (s : State) (p? : Option Nat) (rn : Nat) (st : Bool) (vn : Nat) (kst : Bool) :
    (targetPos s p? = none ∧ stepWith rule s (.call p? rn st vn kst) = (s, none)) ∨
    (∃ p r v, targetPos s p? = some p ∧ reusable rule (setPos s p) rn vn = some (r, v) ∧
      stepWith rule s (.call p? rn st vn kst) = (setPos s p, some (r.tok, v.tok, true))) ∨
    (∃ p, targetPos s p? = some p ∧ reusable rule (setPos s p) rn vn = none ∧
      stepWith rule s (.call p? rn st vn kst) =
        (freshRun (setPos s p) p rn st vn kst, some (computeTok (setPos s p) p, computeTok (setPos s p) p, false))) := by
  cases hp : targetPos s p? with
  | none => exact .inl ⟨rfl, by simp only [stepWith, hp]⟩
  | some p =>
    cases hr : reusable rule (setPos s p) rn vn with
    | none => exact .inr (.inr ⟨p, rfl, hr, by simp only [stepWith, hp, callAt, hr]⟩)
    | some rv => exact .inr (.inl ⟨p, rv.1, rv.2, rfl, hr, by simp only [stepWith, hp, callAt, hr]⟩)

theorem out_some_isCall {rule : Rule} {s : State} {op : Op} {o : KrigeTok × KrigeTok × Bool}
    (h : (stepWith rule s op).2 = some o) : ∃ p? rn st vn kst, op = .call p? rn st vn kst := by
  cases op with
  | call p? rn st vn kst => exact ⟨p?, rn, st, vn, kst, rfl⟩
  | krigeCall p? store =>
    simp only [stepWith] at h
    split at h <;> cases h
  | _ => cases h

/-- the reuse test `bothRef` succeeds only on the remembered pair -/
theorem reusable_some {s : State} {rn vn : Nat} {r v : Stored} (h : reusable .bothRef s rn vn = some (r, v)) :
    s.raw rn = some r ∧ s.var vn = some v ∧ s.ref = some (r.obj, v.obj) := by
  unfold reusable at h
  split at h
  · next r' v' hr hv =>
    simp only [Option.ite_none_right_eq_some, Option.some.injEq, Prod.mk.injEq] at h
    obtain ⟨hok, rfl, rfl⟩ := h
    split at hok
    · next i j hf =>
      rw [Bool.and_eq_true, decide_eq_true_eq, decide_eq_true_eq] at hok
      exact ⟨hr, hv, by rw [hf, hok.1, hok.2]⟩
    · cases hok
  · cases h

/-- **the link invariant is preserved by every operation** — harmless or not, under every reuse rule -/
theorem stepWith_linkInv (rule : Rule) (s : State) (op : Op) (h : LinkInv s) : LinkInv (stepWith rule s op).1 := by
  cases op with
  | call p? rn st vn kst =>
    rcases call_outcome rule s p? rn st vn kst with ⟨_, e⟩ | ⟨p, r, v, _, _, e⟩ | ⟨p, _, _, e⟩ <;> rw [e]
    · exact h
    · exact setPos_linkInv h p
    · exact freshRun_linkInv (setPos_linkInv h p)
  | krigeCall p? store =>
    simp only [stepWith]
    split
    · exact h
    · next p _ =>
      cases store with
      | none => exact krigeSetPos_linkInv h p
      | some vn =>
        -- the stored variance carries a new identity
        refine (krigeSetPos_linkInv h p).mono (Nat.le_succ _) rfl (fun _ _ e => e) fun n v e => ?_
        rcases set_eq_some (b := true) e with rfl | e'
        · exact .inr ⟨Nat.le_refl _, Nat.lt_succ_self _⟩
        · exact .inl e'
  | setPos p => exact setPos_linkInv h p
  | krigeSetPos p => exact krigeSetPos_linkInv h p
  | setCondition _ | krigeDeleteFields => exact h.mono (Nat.le_refl _) rfl (fun _ _ e => e) nofun
  | modelChange _ | setMean _ => exact h
  | deleteFields => exact h.mono (Nat.le_refl _) rfl nofun (fun _ _ e => .inl e)

theorem step_linkInv (s : State) (op : Op) (h : LinkInv s) : LinkInv (step s op).1 :=
  stepWith_linkInv .bothRef s op h

/-- the link invariant survives every history -/
theorem run_linkInv (ops : List Op) (s : State) (h : LinkInv s) : LinkInv (run s ops).1 := by
  induction ops generalizing s with
  | nil => exact h
  | cons op ops ih => exact ih _ (step_linkInv s op h)

/-- **reuse implies one kriging run**: in a state satisfying the link invariant (every reachable state), whatever a call
    uses as raw kriging field and as kriging variance — reused or freshly computed — stems from the
    same kriging run -/
theorem call_same_run (s : State) (p? : Option Nat) (rn : Nat) (st : Bool) (vn : Nat) (kst : Bool) (h : LinkInv s)
    (tr tv : KrigeTok) (reused : Bool)
    (hout : (step s (.call p? rn st vn kst)).2 = some (tr, tv, reused)) : tr = tv := by
  unfold step at hout
  rcases call_outcome .bothRef s p? rn st vn kst with ⟨_, e⟩ | ⟨p, r, v, _, hr, e⟩ | ⟨p, _, _, e⟩ <;> rw [e] at hout
  · cases hout
  · cases hout
    obtain ⟨h1, h2, h3⟩ := reusable_some hr
    exact (setPos_linkInv h p).2.2.2 rn vn r v h1 h2 h3
  · cases hout
    rfl

/-- **reuse implies linked**: when a call reuses stored results, the raw kriging field and the
    kriging variance it uses are the stored arrays the CondSRF object remembers as the pair of its last kriging run -/
theorem call_reuse_linked (s : State) (p? : Option Nat) (rn : Nat) (st : Bool) (vn : Nat) (kst : Bool)
    (tr tv : KrigeTok) (hout : (step s (.call p? rn st vn kst)).2 = some (tr, tv, true)) :
    ∃ r v, (step s (.call p? rn st vn kst)).1.raw rn = some r ∧ (step s (.call p? rn st vn kst)).1.var vn = some v ∧
      (step s (.call p? rn st vn kst)).1.ref = some (r.obj, v.obj) ∧ tr = r.tok ∧ tv = v.tok := by
  unfold step at hout ⊢
  rcases call_outcome .bothRef s p? rn st vn kst with ⟨_, e⟩ | ⟨p, r, v, _, hr, e⟩ | ⟨p, _, _, e⟩ <;> rw [e] at hout ⊢
  · cases hout
  · cases hout
    obtain ⟨h1, h2, h3⟩ := reusable_some hr
    exact ⟨r, v, h1, h2, h3, rfl, rfl⟩
  · cases hout

/-- all call outputs of a run use a raw kriging field and a kriging variance of one kriging run -/
def AllSameRun : State → List Op → Prop
  | _, [] => True
  | s, op :: ops =>
    (∀ tr tv reused, (step s op).2 = some (tr, tv, reused) → tr = tv) ∧ AllSameRun (step s op).1 ops

/-- **C07, no mixing of kriging runs**: in EVERY history from a freshly built object — including direct kriging calls,
    store / krige_store options with custom names, deletions on either object, in-place model and mean changes without
    refresh — every conditioned field is built from a raw kriging field and a kriging variance of the same kriging run -/
theorem histories_same_run (ops : List Op) (s : State) (h : LinkInv s) : AllSameRun s ops := by
  induction ops generalizing s with
  | nil => trivial
  | cons op ops ih =>
    refine ⟨fun tr tv reused hout => ?_, ih _ (step_linkInv s op h)⟩
    obtain ⟨p?, rn, st, vn, kst, rfl⟩ := out_some_isCall hout
    exact call_same_run s p? rn st vn kst h tr tv reused hout

/-- the object is in sync: the kriging matrix was built from the current conditions and model, and every kriging
    variance stored in the Krige object belongs to the current positions and is what a fresh object computes.
    (Nothing is required of the stored raw fields: they may be stale — they are only used through the link.  The driver's
    diagnostic `syncedUpTo k` tests the same over the field names `< k`.) -/
def Synced (s : State) : Prop :=
  s.matCond = s.cond ∧ s.matModel = s.model ∧
  ∀ n v, s.var n = some v → (s.pos = some v.tok.pos ∧ v.tok = freshTok s v.tok.pos)

/-- a freshly constructed object is in sync -/
theorem init_synced (c m mu : Nat) : Synced (init c m mu) := ⟨rfl, rfl, nofun⟩

theorem synced_of_var_empty {s : State} (h1 : s.matCond = s.cond) (h2 : s.matModel = s.model)
    (hv : s.var = FieldStore.empty) : Synced s :=
  ⟨h1, h2, fun n v e => by rw [hv] at e; cases e⟩

theorem setPos_pos (s : State) (p : Nat) : (setPos s p).pos = some p := by
  unfold setPos; split <;> trivial

theorem krigeSetPos_pos (s : State) (p : Nat) : (krigeSetPos s p).pos = some p := by
  unfold krigeSetPos; split <;> trivial

theorem setPos_synced {s : State} (h : Synced s) (p : Nat) : Synced (setPos s p) := by
  unfold setPos
  split
  · exact h
  · exact synced_of_var_empty h.1 h.2.1 rfl

theorem krigeSetPos_synced {s : State} (h : Synced s) (p : Nat) : Synced (krigeSetPos s p) := by
  unfold krigeSetPos
  split
  · exact h
  · exact synced_of_var_empty h.1 h.2.1 rfl

/-- in a synced state `krige(pos)` computes what a fresh object computes -/
theorem computeTok_fresh {s : State} (h : Synced s) (p : Nat) : computeTok s p = freshTok s p := by
  rw [computeTok, freshTok, h.1, h.2.1]

theorem Synced.set_var {s : State} (h : Synced s) {p : Nat} (hp : s.pos = some p) {b : Bool} {vn o n : Nat} {v : Stored}
    (e : (if b then s.var.set vn ⟨computeTok s p, o⟩ else s.var) n = some v) :
    s.pos = some v.tok.pos ∧ v.tok = freshTok s v.tok.pos := by
  rcases set_eq_some e with rfl | e'
  · exact ⟨hp, computeTok_fresh h p⟩
  · exact h.2.2 n v e'

/-- **every call made in a synced state returns what a freshly built object returns** — raw kriging field AND
    kriging variance, reused or not, whatever the store / krige_store options and names — and leaves the object synced -/
theorem call_fresh_of_synced (s : State) (p? : Option Nat) (rn : Nat) (st : Bool) (vn : Nat) (kst : Bool)
    (hl : LinkInv s) (h : Synced s) :
    (∀ tr tv r, (step s (.call p? rn st vn kst)).2 = some (tr, tv, r) →
        ∃ p, (step s (.call p? rn st vn kst)).1.pos = some p ∧
          tr = freshTok (step s (.call p? rn st vn kst)).1 p ∧ tv = freshTok (step s (.call p? rn st vn kst)).1 p) ∧
    Synced (step s (.call p? rn st vn kst)).1 := by
  unfold step
  rcases call_outcome .bothRef s p? rn st vn kst with ⟨_, e⟩ | ⟨p, r, v, _, hr, e⟩ | ⟨p, _, _, e⟩ <;> rw [e]
  · exact ⟨nofun, h⟩
  · -- the reused pair is linked, hence of one run; its variance is fresh because the state is synced
    obtain ⟨h1, h2, h3⟩ := reusable_some hr
    have hrv : r.tok = v.tok := (setPos_linkInv hl p).2.2.2 rn vn r v h1 h2 h3
    obtain ⟨hvp, hv⟩ := (setPos_synced h p).2.2 vn v h2
    refine ⟨fun tr tv b heq => ?_, setPos_synced h p⟩
    cases heq
    exact ⟨v.tok.pos, hvp, hrv.trans hv, hv⟩
  · have hs := setPos_synced h p
    refine ⟨fun tr tv b heq => ?_, hs.1, hs.2.1, fun n v e => hs.set_var (setPos_pos s p) e⟩
    cases heq
    exact ⟨p, setPos_pos s p, computeTok_fresh hs p, computeTok_fresh hs p⟩

/-- a direct kriging call on the underlying Krige object (given or stored positions, stored under any name or not at
    all) keeps a synced object synced -/
theorem krigeCall_synced (s : State) (p? : Option Nat) (store : Option Nat) (h : Synced s) :
    Synced (step s (.krigeCall p? store)).1 := by
  simp only [step, stepWith]
  split
  · exact h
  · next p _ =>
    have hs := krigeSetPos_synced h p
    cases store with
    | none => exact hs
    | some vn => exact ⟨hs.1, hs.2.1, fun n v e => hs.set_var (krigeSetPos_pos s p) (b := true) e⟩

/-- **the documented refresh (`krige.set_condition(...)`, with or without new data) always re-syncs**,
    whatever happened before: the matrix is rebuilt and the stored kriging variances are dropped (a raw kriging field
    that stays behind in the CondSRF object can no longer be reused: its partner is gone) -/
theorem refresh_syncs (s : State) (c? : Option Nat) : Synced (step s (.setCondition c?)).1 :=
  synced_of_var_empty rfl rfl rfl

/-- operations that keep an object in sync -/
def Harmless : Op → Prop
  | .call .. | .krigeCall .. | .setPos _ | .krigeSetPos _ | .setCondition _ | .deleteFields | .krigeDeleteFields => True
  | .modelChange _ | .setMean _ => False

/-- a harmless operation (anything but an in-place model or mean change) keeps an object in sync -/
theorem step_synced (s : State) (op : Op) (hop : Harmless op) (hl : LinkInv s) (h : Synced s) :
    Synced (step s op).1 := by
  cases op with
  | call p rn st vn kst => exact (call_fresh_of_synced s p rn st vn kst hl h).2
  | krigeCall p store => exact krigeCall_synced s p store h
  | setPos p => exact setPos_synced h p
  | krigeSetPos p => exact krigeSetPos_synced h p
  | setCondition c => exact refresh_syncs s c
  | deleteFields => exact h
  | krigeDeleteFields => exact synced_of_var_empty h.1 h.2.1 rfl
  | modelChange _ | setMean _ => exact hop.elim

/-- all call outputs of a run are the fresh ones (raw kriging field and kriging variance) -/
def AllFresh : State → List Op → Prop
  | _, [] => True
  | s, op :: ops =>
    (∀ tr tv r, (step s op).2 = some (tr, tv, r) →
        ∃ q, (step s op).1.pos = some q ∧ tr = freshTok (step s op).1 q ∧ tv = freshTok (step s op).1 q) ∧
    AllFresh (step s op).1 ops

/-- **C07, cache coherence**: starting from a synced object (e.g. a freshly built one, or any object right after the
    documented refresh), every history of CondSRF calls (new seeds/positions, every `store` / `krige_store` combination,
    custom field names), direct kriging calls on the underlying Krige object (same or other positions, stored or not),
    `set_pos` on either object, `set_condition` (new data or refresh) and field deletions on either object returns, at
    every CondSRF call, exactly what a freshly built object returns. -/
theorem histories_fresh (ops : List Op) (hops : ∀ op ∈ ops, Harmless op) (s : State) (hl : LinkInv s) (h : Synced s) :
    AllFresh s ops := by
  induction ops generalizing s with
  | nil => trivial
  | cons op ops ih =>
    obtain ⟨hop, hops⟩ := List.forall_mem_cons.1 hops
    refine ⟨fun tr tv r hout => ?_, ih hops _ (step_linkInv s op hl) (step_synced s op hop hl h)⟩
    obtain ⟨p?, rn, st, vn, kst, rfl⟩ := out_some_isCall hout
    exact (call_fresh_of_synced s p? rn st vn kst hl h).1 tr tv r hout

/-- after ANY history (of any operations) of an object whose link invariant holds (e.g. a freshly built one), a refresh
    followed by harmless operations yields fresh results again -/
theorem refresh_then_fresh (pre : List Op) (c? : Option Nat) (post : List Op)
    (hpost : ∀ op ∈ post, Harmless op) (s : State) (hl : LinkInv s) :
    AllFresh (step (run s pre).1 (.setCondition c?)).1 post :=
  histories_fresh post hpost _ (step_linkInv _ _ (run_linkInv pre s hl)) (refresh_syncs _ c?)

/-- why the refresh is needed (documented behaviour, not a defect): after an in-place model change a
    stored result is reused although a fresh object would compute something else -/
example : let s := (run (init 1 1 1) [.call (some 7) 0 true 0 true, .modelChange 2]).1
    ∃ t, (step s (.call none 0 true 0 true)).2 = some (t, t, true) ∧ t ≠ freshTok s 7 := by
  refine ⟨_, rfl, by decide⟩

/-- **the link test is necessary** (history 1): under the rule "both fields merely
    present", `crf(pos); krige.set_condition(new); crf(store=False); crf()` — the `store=False` call re-stores the
    kriging variance but not the raw kriging field — the last call REUSES the raw kriging field of the old conditions
    together with the variance of the new ones; under `bothRef` the same history computes afresh. -/
example : let h : List Op := [.call (some 7) 0 true 0 true, .setCondition (some 2), .call none 0 false 0 true]
    let s := (runWith .present (init 1 1 1) h).1
    (∃ tr tv, (stepWith .present s (.call none 0 true 0 true)).2 = some (tr, tv, true) ∧ tr ≠ tv ∧ tr ≠ freshTok s 7) ∧
    (stepWith .bothRef (runWith .bothRef (init 1 1 1) h).1 (.call none 0 true 0 true)).2
      = some (freshTok s 7, freshTok s 7, false) := by
  refine ⟨⟨_, _, rfl, by decide, by decide⟩, by decide⟩

/-- history 2: a direct kriging call re-stores the variance — same stale reuse under the rule `present` -/
example : let h : List Op := [.call (some 7) 0 true 0 true, .setCondition (some 2), .krigeCall none (some 0)]
    let s := (runWith .present (init 1 1 1) h).1
    ∃ tr tv, (stepWith .present s (.call none 0 true 0 true)).2 = some (tr, tv, true) ∧ tr ≠ tv ∧ tr ≠ freshTok s 7 := by
  exact ⟨_, _, rfl, by decide, by decide⟩

/-- a direct kriging call at OTHER positions moves the shared positions and stores a variance for them while the CondSRF
    object keeps its raw kriging field: the rule `present` pairs a raw field at positions 7 with a variance at positions 8 -/
example : let h : List Op := [.call (some 7) 0 true 0 true, .krigeCall (some 8) (some 0)]
    let s := (runWith .present (init 1 1 1) h).1
    ∃ tr tv, (stepWith .present s (.call none 0 true 0 true)).2 = some (tr, tv, true) ∧ tr.pos = 7 ∧ tv.pos = 8 := by
  exact ⟨_, _, rfl, by decide, by decide⟩

/-- **remembering the variance object alone is not enough** (custom field names): the second
    run stores its raw kriging field under another name and its variance under the default name; a rule that only tests
    "the stored variance is the remembered variance object" then reuses the OLD default-name raw kriging field with it.
    The rule `bothRef` (both stored arrays are the remembered pair) computes afresh. -/
example : let h : List Op := [.call (some 7) 0 true 0 true, .setCondition (some 2), .call none 1 true 0 true]
    let s := (runWith .varRef (init 1 1 1) h).1
    (∃ tr tv, (stepWith .varRef s (.call none 0 true 0 true)).2 = some (tr, tv, true) ∧ tr ≠ tv ∧ tr ≠ freshTok s 7) ∧
    (stepWith .bothRef (runWith .bothRef (init 1 1 1) h).1 (.call none 0 true 0 true)).2
      = some (freshTok s 7, freshTok s 7, false) := by
  refine ⟨⟨_, _, rfl, by decide, by decide⟩, by decide⟩

/-- the rule `bothRef` still reuses when nothing changed (the reuse the package's own test asserts) -/
example : (step (run (init 1 1 1) [.call (some 7) 0 true 0 true]).1 (.call none 0 true 0 true)).2
    = some (freshTok (init 1 1 1) 7, freshTok (init 1 1 1) 7, true) := by decide

/-- the hypotheses are satisfiable by non-trivial histories -/
example : AllFresh (init 1 1 1)
    [.call (some 7) 0 true 0 true, .setCondition (some 2), .call none 0 false 0 true, .call none 0 true 0 true,
     .krigeCall (some 8) (some 0), .call none 1 true 0 true, .setPos 8, .call none 0 true 0 true] :=
  histories_fresh _ (by intro op h; simp at h; rcases h with rfl | rfl | rfl | rfl | rfl | rfl | rfl | rfl <;> trivial) _
    (init_linkInv 1 1 1) (init_synced 1 1 1)

/-- `histories_same_run` needs no harmless history: an in-place model change and a direct kriging call between two calls -/
example : AllSameRun (init 1 1 1) [.call (some 7) 0 true 0 true, .modelChange 2, .krigeCall none (some 0), .call none 0 true 0 true] :=
  histories_same_run _ _ (init_linkInv 1 1 1)

/-! ## stored-field bookkeeping over several meshes (`field_names` of both objects)

  `XState` adds, to the cache state, the names of the stored fields whose contents are never read back (conditioned field,
  unconditional field, kriging field).  `crfStored x slot n` / `krigeStored x slot n` say whether the CondSRF / Krige object
  stores a field in slot `slot` under name `n`.  The harness compares `field_names` of both real objects with these
  predicates after EVERY operation of every history. -/

/-- the extended machine is the cache machine plus bookkeeping: every theorem about `step` / `run` transfers to
    `xstep` / `xrun` -/
theorem xstep_core (x : XState) (op : Op) (a : Aux) :
    (xstep x op a).1.core = (step x.core op).1 ∧ (xstep x op a).2 = (step x.core op).2 := ⟨rfl, rfl⟩

theorem xrun_core (l : List (Op × Aux)) (x : XState) : (xrun x l).core = (run x.core (l.map Prod.fst)).1 := by
  induction l generalizing x with
  | nil => rfl
  | cons oa l ih => exact ih _

theorem crfStored_eq_false {x : XState} (h0 : x.names.fld = NameSet.empty) (h1 : x.names.rawf = NameSet.empty)
    (h2 : x.core.raw = FieldStore.empty) {slot n : Nat} : crfStored x slot n = false := by
  unfold crfStored
  rw [h0, h1, h2]
  split <;> rfl

theorem krigeStored_eq_false {x : XState} (h0 : x.names.kfld = NameSet.empty) (h1 : x.core.var = FieldStore.empty)
    {slot n : Nat} : krigeStored x slot n = false := by
  unfold krigeStored
  rw [h0, h1]
  split <;> rfl

/-- **`crf.delete_fields()` leaves no stored field in the CondSRF object** (whatever was stored, under whatever names, in
    whatever order) -/
theorem delete_clears (x : XState) (a : Aux) (slot n : Nat) :
    crfStored (xstep x .deleteFields a).1 slot n = false :=
  crfStored_eq_false rfl rfl rfl

/-- **`crf.krige.delete_fields()` leaves no stored field in the Krige object** -/
theorem krigeDelete_clears (x : XState) (a : Aux) (slot n : Nat) :
    krigeStored (xstep x .krigeDeleteFields a).1 slot n = false :=
  krigeStored_eq_false rfl rfl

/-- **`krige.set_condition(...)` (new data or refresh) leaves no stored field in the Krige object** -/
theorem setCondition_clears (x : XState) (c? : Option Nat) (a : Aux) (slot n : Nat) :
    krigeStored (xstep x (.setCondition c?) a).1 slot n = false :=
  krigeStored_eq_false rfl rfl

/-- **`crf.set_pos(new positions)` leaves no stored field in either object** -/
theorem setPos_change_clears (x : XState) (p : Nat) (a : Aux) (hp : x.core.pos ≠ some p) (slot n : Nat) :
    crfStored (xstep x (.setPos p) a).1 slot n = false ∧ krigeStored (xstep x (.setPos p) a).1 slot n = false := by
  simp only [xstep, xstepWith, stepWith, namesStep, setPos, if_neg hp]
  exact ⟨crfStored_eq_false rfl rfl rfl, krigeStored_eq_false rfl rfl⟩

/-- `crf.krige.set_pos(new positions)` leaves no stored field in the Krige object (the CondSRF object keeps its fields:
    they are protected by the link test, `histories_fresh`) -/
theorem krigeSetPos_change_clears (x : XState) (p : Nat) (a : Aux) (hp : x.core.pos ≠ some p) (slot n : Nat) :
    krigeStored (xstep x (.krigeSetPos p) a).1 slot n = false := by
  simp only [xstep, xstepWith, stepWith, namesStep, krigeSetPos, if_neg hp]
  exact krigeStored_eq_false rfl rfl

theorem saveName_empty {save : Bool} {k n : Nat} : saveName NameSet.empty save k n = (save && decide (n = k)) := by
  cases save <;> simp [saveName, NameSet.add, NameSet.empty]

theorem isSome_set_empty {b : Bool} {k n : Nat} {v : Stored} :
    ((if b then FieldStore.empty.set k v else FieldStore.empty) n).isSome = (b && decide (n = k)) := by
  cases b
  · rfl
  · by_cases h : n = k <;> simp [FieldStore.set, FieldStore.empty, h]

/-- **a CondSRF call on a new mesh keeps nothing of the earlier meshes**: after `crf(new positions, store=…,
    krige_store=…)` the fields stored in both objects are exactly the ones this call stored — however many meshes were
    used before, whatever was stored on them and under whatever names.  (So no later operation can find a field of an
    earlier mesh.) -/
theorem call_change_stores_exactly (x : XState) (p rn : Nat) (st : Bool) (vn : Nat) (kst : Bool) (a : Aux)
    (hp : x.core.pos ≠ some p) (n : Nat) :
    let x' := (xstep x (.call (some p) rn st vn kst) a).1
    (crfStored x' 0 n = (a.fSave && decide (n = a.fName))) ∧
    (crfStored x' 1 n = (a.rfSave && decide (n = a.rfName))) ∧
    (crfStored x' 2 n = (st && decide (n = rn))) ∧
    (krigeStored x' 0 n = (a.kfSave && decide (n = a.kfName))) ∧
    (krigeStored x' 1 n = (kst && decide (n = vn))) := by
  -- the new positions empty both objects, so nothing is reusable and the call makes a fresh run on empty stores
  have hre : reusable .bothRef { x.core with pos := some p, raw := FieldStore.empty, var := FieldStore.empty } rn vn
      = none := rfl
  simp only [xstep, xstepWith, stepWith, targetPos, callAt, setPos, if_neg hp, hre, namesStep, Names.empty, crfStored,
    krigeStored, freshRun]
  exact ⟨saveName_empty, saveName_empty, isSome_set_empty, saveName_empty, isSome_set_empty⟩

/-- a direct kriging call on a new mesh keeps nothing of the earlier meshes in the Krige object -/
theorem krigeCall_change_stores_exactly (x : XState) (p : Nat) (store : Option Nat) (a : Aux)
    (hp : x.core.pos ≠ some p) (n : Nat) :
    let x' := (xstep x (.krigeCall (some p) store) a).1
    (krigeStored x' 0 n = (a.kfSave && decide (n = a.kfName))) ∧
    (krigeStored x' 1 n = decide (store = some n)) := by
  simp only [xstep, xstepWith, stepWith, targetPos, krigeCallAt, krigeSetPos, if_neg hp, namesStep, krigeStored]
  refine ⟨saveName_empty, ?_⟩
  cases store with
  | none => rfl
  | some vn => simpa [eq_comm] using @isSome_set_empty true vn n _

/-- **several meshes, then an invalidation, then a call WITHOUT positions**: the histories of the property's second
    half.  After any history `pre` (any number of meshes, names, direct kriging calls …) of a freshly built object,
    `set_condition` (new data or refresh) followed by harmless operations returns fresh results at every call, and
    right after the `set_condition` the Krige object stores nothing — in particular no kriging variance of an earlier
    mesh or of the earlier conditions can be paired with a surviving raw kriging field. -/
theorem meshes_then_refresh (c m mu : Nat) (pre : List (Op × Aux)) (c? : Option Nat) (a : Aux) (post : List Op)
    (hpost : ∀ op ∈ post, Harmless op) :
    let x := (xstep (xrun (xinit c m mu) pre) (.setCondition c?) a).1
    (∀ slot n, krigeStored x slot n = false) ∧ AllFresh x.core post := by
  have hl : LinkInv (xrun (xinit c m mu) pre).core := by
    rw [xrun_core]
    exact run_linkInv _ _ (init_linkInv c m mu)
  exact ⟨setCondition_clears _ c? a, histories_fresh post hpost _ (step_linkInv _ _ hl) (refresh_syncs _ c?)⟩

/-- the scenario class on concrete identifiers: two meshes (7, then 8), new conditioning data, call without positions —
    nothing of mesh 7 or of the old data is left, the call computes afresh and equals the fresh object -/
example : let x := xrun (xinit 1 1 1) [(.call (some 7) 0 true 0 true, {}), (.call (some 8) 0 true 0 true, {}),
                                       (.setCondition (some 2), {})]
    (∀ slot n, krigeStored x slot n = false) ∧
    (xstep x (.call none 0 true 0 true) {}).2 = some (freshTok x.core 8, freshTok x.core 8, false) := by
  refine ⟨?_, by decide⟩
  intro slot n
  exact setCondition_clears _ (some 2) {} slot n

/-- two meshes, then a third one through `set_pos`: both objects are empty afterwards -/
example : let x := xrun (xinit 1 1 1) [(.call (some 7) 0 true 0 true, {}), (.call (some 8) 1 true 1 true, { fName := 1 }),
                                       (.setPos 9, {})]
    (∀ slot n, crfStored x slot n = false ∧ krigeStored x slot n = false) := by
  intro x slot n
  exact setPos_change_clears _ 9 {} (by decide) slot n

end GSV.Props.C07
