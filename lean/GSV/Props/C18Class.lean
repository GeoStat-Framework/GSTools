/-
  C18 — "the pipeline is exact" for EVERY field class.

  `Model.Norm.slots` says which constructor argument of a class (`Simple`, `Ordinary`, `Universal`, `ExtDrift`,
  `Detrended`, the generic `Krige`, `SRF`; a `CondSRF` has the slots of its Krige object) becomes which slot of the
  mean / normalizer / trend pipeline; `classOutput` / `classCond` are a cell of the object's output and a prepared
  conditioning value in terms of the CALLER's arguments.
-/
import GSV.Props.C18
namespace GSV.Props.C18
open GSV GSV.Model.Norm GSV.Lemmas.Norm Real

/-- the normalizer an object of class `c` uses when the caller passes `k` -/
def classKind (c : FieldClass) (k : Kind) : Kind := if c.hasNorm then k else .identity
/-- the mean an object of class `c` uses when the caller passes `mean` -/
def classMean (c : FieldClass) (mean : ℝ) : ℝ := if c.hasMean then mean else 0

/-- a class hands the pipeline the caller's normalizer if it has one (else the identity), the caller's mean if it
    has one (else `0`), and the trend -/
theorem slots_real (c : FieldClass) (k : Kind) (mean trend : ℝ) :
    slots c k mean trend = (classKind c k, classMean c mean, trend) := by
  simp [slots, classKind, classMean]

/-- every class: a cell of the output is `trend + denormalize(mean' + raw)` in terms of the caller's arguments,
    masked exactly when `denormalize` masks -/
theorem class_output (c : FieldClass) (k : Kind) (p : Par ℝ) (mean trend raw : ℝ) :
    classOutput c k p mean trend raw =
      if valid (denormRange (classKind c k) p) (classMean c mean + raw) = true
      then some (trend + denormRaw (classKind c k) p (classMean c mean + raw)) else none := by
  simp only [classOutput, slots_real]
  exact pipeline_apply _ _ _ _ _

/-- `Ordinary`, `Universal`, `ExtDrift` (no `mean` argument): the trend is added AFTER de-normalisation -/
theorem class_output_no_mean (c : FieldClass) (hm : c.hasMean = false) (hn : c.hasNorm = true)
    (k : Kind) (p : Par ℝ) (mean trend raw : ℝ) :
    classOutput c k p mean trend raw =
      if valid (denormRange k p) raw = true then some (trend + denormRaw k p raw) else none := by
  rw [class_output]
  simp [classKind, classMean, hm, hn]

example : FieldClass.extDrift.hasMean = false ∧ FieldClass.extDrift.hasNorm = true := ⟨rfl, rfl⟩
example : FieldClass.ordinary.hasMean = false ∧ FieldClass.universal.hasMean = false := ⟨rfl, rfl⟩

/-- `Detrended`: neither mean nor normalizer — output = trend + raw, whatever else the caller might pass -/
theorem detrended_output (k : Kind) (p : Par ℝ) (mean trend raw : ℝ) :
    classOutput .detrended k p mean trend raw = some (trend + raw) := by
  rw [class_output]
  simp [classKind, classMean, FieldClass.hasMean, FieldClass.hasNorm, denormRange, denormRaw, valid_full]

/-- every class: a conditioning value enters the kriging system as `normalize(cond_val − trend) − mean'` -/
theorem class_cond (c : FieldClass) (k : Kind) (p : Par ℝ) (mean trend v : ℝ) :
    classCond c k p mean trend v = (normalize (classKind c k) p (v - trend)).map (· - classMean c mean) := by
  simp only [classCond, slots_real, removeTNM]

/-- every class: a raw value equal to the prepared datum is returned as the datum -/
theorem class_roundtrip (c : FieldClass) (k : Kind) (p : Par ℝ) (mean trend v : ℝ)
    (h : valid (normRange (classKind c k) p) (v - trend) = true) :
    (classCond c k p mean trend v).bind (classOutput c k p mean trend) = some v := by
  have hf : classOutput c k p mean trend = applyMNT (classKind c k) p (classMean c mean) trend := by
    funext raw
    simp only [classOutput, slots_real]
  rw [hf]
  simp only [classCond, slots_real]
  exact pipeline_apply_remove _ _ _ _ _ h

example : valid (normRange (classKind .extDrift .logNormal) (⟨1, 0⟩ : Par ℝ)) (3 - 1) = true := by
  rw [classKind]; simp only [FieldClass.hasNorm, if_true]
  exact (valid_norm_logNormal _ _).mpr (by norm_num)

/-- the trend slot is not the mean slot: an object that receives the caller's trend as its MEAN (and no trend)
    produces `denormalize(trend + raw)` instead of `trend + denormalize(raw)`; witness LogNormal, trend 1, raw 0:
    `e` instead of `2`. -/
theorem trend_is_not_mean :
    classOutput .extDrift .logNormal (⟨1, 0⟩ : Par ℝ) 0 1 0 ≠ applyMNT .logNormal (⟨1, 0⟩ : Par ℝ) 1 0 0 := by
  rw [class_output_no_mean _ rfl rfl, pipeline_apply]
  simp only [denormRange, valid_full, if_true, denormRaw, exp_real, add_zero, zero_add, Real.exp_zero, ne_eq,
    Option.some.injEq]
  exact (Real.add_one_lt_exp one_ne_zero).ne

end GSV.Props.C18
