/-
  C10 — variogram fitting recovers the generating parameters and honours constraints.

  The definitions reasoned about are those of `GSV/Model/Fit.lean` (the same text the driver runs on `Rat`
  against the real `gstools.covmodel.fit.fit_variogram` with a scripted optimiser), instantiated at `ℝ`.
  `scipy.optimize.curve_fit` is a parameter: `fit … script popt` evaluates the curve at the points of an
  ARBITRARY finite list `script` and then receives an ARBITRARY `popt`; as in the code (since the repair of
  defect D9) the curve is then evaluated once more at `popt` and `_post_fitting` runs.  The model class is a
  parameter too: `c.fac` (`var_factor`, constant 1 for every class except the TPL family) and `c.corr` (the
  normalised correlation) are uninterpreted functions.

  Not proved: that `curve_fit` converges to the generating parameters ("from a start near the truth").
-/
import GSV.Lemmas.Fit
import Mathlib.Tactic.Linarith
import Mathlib.Tactic.NormNum
namespace GSV.Props.C10
open GSV GSV.Model.Fit GSV.Lemmas.Fit

/-! ## statements that are generic in the carrier (so that the witnesses can be computed on `Rat`) -/

section statements
variable {α : Type} [Arith α] [DecidableLT α] [DecidableLE α]

/-- the returned dictionary equals the model state after the call -/
def DictEqModel (c : Cfg α) (r : Result α) : Prop :=
  r.dict.var = r.st.var c ∧ r.dict.len = r.st.len ∧ r.dict.nug = r.st.nug ∧ r.dict.opt = r.st.opt ∧
    r.dict.anis = (if r.dir then some r.st.anis else none)

/-- parameters that are not fitted end with the value `_pre_para` gave them (`pre` = result of `_pre_para`);
    the nugget counts as "not fitted" only if it is not tied to a fitted variance by a constrained sill -/
def Untouched (c : Cfg α) (pre : Pre α) (r : Result α) : Prop :=
  (pre.para.var = false → r.st.var c = pre.st.var c) ∧
  (pre.para.len = false → r.st.len = pre.st.len) ∧
  (pre.para.nug = false → (pre.sill = none ∨ pre.para.var = false) → r.st.nug = pre.st.nug) ∧
  (∀ i, pre.para.opt.getD i true = false → r.st.opt[i]? = pre.st.opt[i]?) ∧
  ((r.dir && r.anisFit) = false → r.st.anis = pre.st.anis)

end statements

/-- the wanted statement about the sill: whenever a sill is prescribed, `variance + nugget = sill` after the call,
    whatever `popt` the optimiser returns.  It is false (`not_sill_exact_full`): a `popt` whose tied nugget `sill - var` lies
    outside the nugget bounds takes the punishment branch in the final evaluation and the nugget of an earlier
    evaluation survives.  `sill_exact_partial` excludes exactly that. -/
def sill_exact_full (α : Type) [Arith α] [DecidableLT α] [DecidableLE α] : Prop :=
  ∀ (c : Cfg α) (s0 : St α) (sel : List (Par × Sel α)) (sl : α) (anis : AnisArg α) (ig : IG α) (w : Weights α)
    (x y : List α) (script : List (List α)) (popt : List α) (r : Result α),
    (∀ l o, c.fac l o = one) → checkAll c s0 = true →
    fit c s0 sel (.value sl) anis ig w true x y script popt = .ok r → r.st.var c + r.st.nug = sl

/-- the claim of `sill_exact_partial` (at variance factor 1) about a variant `f` of `fit_variogram`; refuted by
    `old_code_breaks_sill` for `fitCore false`, the code before the D9 repair -/
def SillExactFor (α : Type) [Arith α] [DecidableLT α] [DecidableLE α]
    (f : Cfg α → St α → List (Par × Sel α) → SillArg α → AnisArg α → IG α → Weights α → Bool → List α → List α →
      List (List α) → List α → Except Err (Result α)) : Prop :=
  ∀ (c : Cfg α) (s0 : St α) (sel : List (Par × Sel α)) (sl : α) (anis : AnisArg α) (ig : IG α) (w : Weights α)
    (x y : List α) (script : List (List α)) (popt : List α) (r : Result α),
    (∀ l o, c.fac l o = one) → checkAll c s0 = true →
    f c s0 sel (.value sl) anis ig w true x y script popt = .ok r →
    punished c r.para r.sill popt = false → r.st.var c + r.st.nug = sl

/-- the claim of `dict_eq_model` about a variant `f` of `fit_variogram` (refuted for `fitCore false` by
    `old_code_breaks_dict`) -/
def DictEqModelFor (α : Type) [Arith α] [DecidableLT α] [DecidableLE α]
    (f : Cfg α → St α → List (Par × Sel α) → SillArg α → AnisArg α → IG α → Weights α → Bool → List α → List α →
      List (List α) → List α → Except Err (Result α)) : Prop :=
  ∀ (c : Cfg α) (s0 : St α) (sel : List (Par × Sel α)) (sill : SillArg α) (anis : AnisArg α) (ig : IG α)
    (w : Weights α) (x y : List α) (script : List (List α)) (popt : List α) (r : Result α),
    (∀ l o, c.fac l o ≠ zero) → checkAll c s0 = true →
    f c s0 sel sill anis ig w true x y script popt = .ok r → DictEqModel c r

/-- the claim of `untouched` about a variant `f` of `fit_variogram` (refuted for `fitCore false` by
    `old_code_breaks_untouched`) -/
def UntouchedFor (α : Type) [Arith α] [DecidableLT α] [DecidableLE α]
    (f : Cfg α → St α → List (Par × Sel α) → SillArg α → AnisArg α → IG α → Weights α → Bool → List α → List α →
      List (List α) → List α → Except Err (Result α)) : Prop :=
  ∀ (c : Cfg α) (s0 : St α) (sel : List (Par × Sel α)) (sill : SillArg α) (anis : AnisArg α) (ig : IG α)
    (w : Weights α) (x y : List α) (script : List (List α)) (popt : List α) (r : Result α) (pre : Pre α),
    (∀ l o, c.fac l o ≠ zero) → checkAll c s0 = true →
    f c s0 sel sill anis ig w true x y script popt = .ok r → prePara c s0 sel sill anis = .ok pre →
    Untouched c pre r

section thms
variable {c : Cfg ℝ} {s0 : St ℝ} {sel : List (Par × Sel ℝ)} {sill : SillArg ℝ} {anis : AnisArg ℝ}
  {ig : IG ℝ} {w : Weights ℝ} {mOk : Bool} {x y : List ℝ} {script : List (List ℝ)} {popt : List ℝ}
  {r : Result ℝ}

/-- a successful, non-punished call `curve(x, *args)` leaves the model with `args` installed — fitted variance,
    length scale, nugget and optional arguments are the given ones, the nugget is `sill - var` under a constrained
    sill, a variance that is not fitted is reset to the saved one, fitted anisotropy ratios are the normalised last
    entries — and for non-directional data (`dir = false`) the values the optimiser sees (`runScript` records
    `curveOut` of exactly this state) are the model's own variogram `var - var * cor(r) + nugget`. -/
theorem curve_faithful {pa : Para} {sl : Option ℝ} {anisFit dir : Bool} {varSave : ℝ} {s s' : St ℝ}
    {args : List ℝ} (hf : ∀ l o, c.fac l o ≠ 0)
    (h : curveState c pa sl anisFit dir varSave s args = .ok (some s')) :
    (pa.var = true → s'.var c = args.getD 0 0) ∧
    (pa.var = false → s'.var c = varSave) ∧
    (pa.len = true → s'.len = args.getD pa.iLen 0) ∧
    (pa.nug = true → s'.nug = args.getD pa.iNug 0) ∧
    (∀ v, pa.var = true → pa.nug = false → sl = some v → s'.var c + s'.nug = v) ∧
    s'.opt = installOpts s.opt pa.opt 0 (args.drop pa.iOpt) ∧
    ((dir && anisFit) = true → s'.anis = normAnis c (lastAnis c args)) ∧
    (∀ xs, curveOut c false xs s' = xs.map fun r => s'.var c - s'.var c * c.corr s'.len s'.opt r + s'.nug) ∧
    checkAll c s' = true := by
  obtain ⟨rfl, ck⟩ := curveState_ok h
  refine ⟨fun h1 => by rw [curveTarget_var hf, h1]; rfl, fun h1 => by rw [curveTarget_var hf, h1]; rfl, ?_, ?_, ?_, rfl, ?_,
    fun _ => rfl, ck⟩
  · intro h1; simp only [curveTarget, h1, ↓reduceIte, zero_real]
  · intro h1; simp only [curveTarget, h1, ↓reduceIte, zero_real]
  · intro v h1 h2 h3
    rw [curveTarget_var hf, h1]
    simp only [curveTarget, h1, h2, h3, tiedNug, ↓reduceIte, Bool.false_eq_true, zero_real, add_sub_cancel]
  · intro h1; simp only [curveTarget, h1, ↓reduceIte]

example : ∃ (c : Cfg ℝ) (s s' : St ℝ), (∀ l o, c.fac l o ≠ 0) ∧
    curveState c ⟨true, false, false, []⟩ (some 2) false false 1 s [1] = .ok (some s') := by
  refine ⟨⟨1, false, 1, ⟨.fin 0, .pinf, false, false⟩, ⟨.fin 0, .pinf, false, false⟩, ⟨.fin 0, .pinf, true, false⟩,
    ⟨.fin 0, .pinf, false, false⟩, [], fun _ _ => 1, fun _ _ _ => 0⟩, ⟨1, 1, 0, [], []⟩, ⟨1, 1, 2 - 1, [], []⟩,
    fun _ _ => one_ne_zero, ?_⟩
  simp [curveState, punished, inBnd, ltE, leE, eLe, setNug, setVar, setOpts, chk, checkAll, St.var, optsIn,
    Except.bind, zero_real]

/-- **r2 on noise-free data**: if the data are the model's own curve values, `_r2_score` returns 1
    (for `ss_tot ≠ 0` this is the true quotient; for `ss_tot = 0` Python returns nan/inf) -/
theorem r2_noise_free (dir : Bool) (xs : List ℝ) (s : St ℝ) :
    r2Score c dir xs (curveOut c dir xs s) s = 1 := by
  unfold r2Score
  rw [ssRes_self]
  simp

/-- **`_pre_para` honours the selection**: it keeps the model inside its bounds, produces one flag per optional
    argument, deselects the nugget whenever a sill is constrained, and marks as "not fitted" every parameter the
    caller deselected (`name=False`) or fixed (`name=value`). -/
theorem pre_para_honours_selection {pre : Pre ℝ} (h : prePara c s0 sel sill anis = .ok pre) :
    (checkAll c s0 = true → checkAll c pre.st = true) ∧
    pre.para.opt.length = pre.st.opt.length ∧
    (pre.sill.isSome = true → pre.para.nug = false) ∧
    (∀ p, (deselected sel).contains p = true → paraGet pre.para p = false) := prePara_ok h

/-- **`_pre_para` and the sill**: with a constrained sill and the variance not fitted, `_pre_para` itself leaves
    `variance + nugget = sill`. -/
theorem pre_para_sill {pre : Pre ℝ} {sl : ℝ} (hf : ∀ l o, c.fac l o ≠ 0)
    (h : prePara c s0 sel sill anis = .ok pre) (hs : pre.sill = some sl) (hv : pre.para.var = false) :
    pre.st.var c + pre.st.nug = sl := by
  obtain ⟨s1, vl, s2, s3, des', an, -, -, h3, hsill, hpara, hst, -⟩ := prePara_phases h
  rw [← hsill, hs] at h3
  have hvar : pre.para.var = (!des'.contains .var && true) := by
    rw [hpara]
    exact paraGet_foldl_desel (s := s3) des' _ .var rfl (List.length_map _)
  rw [hst]
  show s3.var c + s3.nug = sl
  exact preSill_sum hf h3 (by simpa [hv] using hvar.symm)

/-- the optional arguments keep their number through all curve evaluations -/
theorem opt_length_script {pa : Para} {sl : Option ℝ} {anisFit dir : Bool} {varSave : ℝ} {xs : List ℝ}
    {s s1 : St ℝ} {scr : List (List ℝ)} {outs : List (Option (List ℝ))}
    (h : runScript c pa sl anisFit dir varSave xs s scr = .ok (s1, outs)) : s1.opt.length = s.opt.length :=
  runScript_induct (fun t => t.opt.length = s.opt.length)
    (fun _ _ _ e _ hP => e ▸ (installOpts_length ..).trans hP) h rfl

/-- the phases of a successful call, with the invariants every later theorem needs: `s1` is the state after
    the optimiser's evaluations, `s1'` the state after the final evaluation at `popt` -/
theorem fit_phases (h : fit c s0 sel sill anis ig w mOk x y script popt = .ok r) :
    ∃ pre s1 outs s1' o2,
      prePara c s0 sel sill anis = .ok pre ∧ r.para = pre.para ∧ r.sill = pre.sill ∧
      runScript c pre.para pre.sill r.anisFit r.dir (pre.st.var c) r.xdata pre.st script = .ok (s1, outs) ∧
      runScript c pre.para pre.sill r.anisFit r.dir (pre.st.var c) r.xdata s1 [popt] = .ok (s1', o2) ∧
      postFitting c pre.para r.anisFit r.dir s1' popt = .ok (r.st, r.dict) ∧
      pre.para.opt.length = s1'.opt.length ∧ r.outs = outs ∧
      r.r2 = r2Score c r.dir r.xdata y r.st := by
  obtain ⟨pre, dir, s1, outs, s1', hpre, _, _, hrun, hev, hpost, hpa, hsl, hdir, haf, hout, hx, hr2⟩ := fitCore_ok h
  simp only [↓reduceIte] at hev
  obtain ⟨o2, hev⟩ := hev
  obtain ⟨_, hlen, _, _⟩ := prePara_ok hpre
  rw [haf, hdir, hx]
  refine ⟨pre, s1, outs, s1', o2, hpre, hpa, hsl, hrun, hev, hpost, ?_, hout, hr2⟩
  rw [hlen, opt_length_script hev, opt_length_script hrun]

/-- a successful call ends with every parameter inside the bounds of the model
    (`check_arg_bounds` passes on the final state: `var`, `len_scale`, `nugget`, every anisotropy ratio and every
    optional argument satisfy their interval, open or closed as declared), whatever the optimiser did. -/
theorem within_bounds (h : fit c s0 sel sill anis ig w mOk x y script popt = .ok r)
    (h0 : checkAll c s0 = true) : checkAll c r.st = true := by
  obtain ⟨pre, s1, outs, s1', o2, hpre, _, _, hrun, hev, hpost, hlen, _⟩ := fit_phases h
  obtain ⟨cpre, _, _, _⟩ := prePara_ok hpre
  have c1 : checkAll c s1 = true :=
    runScript_induct (P := fun t => checkAll c t = true) (fun _ _ _ _ ck _ => ck) hrun (cpre h0)
  have c2 : checkAll c s1' = true :=
    runScript_induct (P := fun t => checkAll c t = true) (fun _ _ _ _ ck _ => ck) hev c1
  exact (postFitting_ok hpost hlen).2.2 c2

/-- what `checkAll` says for one parameter with finite bounds -/
theorem inBnd_fin_iff (a b v : ℝ) (lc hc : Bool) :
    inBnd ⟨.fin a, .fin b, lc, hc⟩ v = true ↔ (if lc then a ≤ v else a < v) ∧ (if hc then v ≤ b else v < b) := by
  cases lc <;> cases hc <;> simp [inBnd, ltE, leE, eLt, eLe]

/-- with a constrained sill the upper bound handed to `curve_fit` for the variance is the sill -/
theorem var_top_is_sill (pa : Para) (g : Guess ℝ) (sl : ℝ) (af : Bool) (hv : pa.var = true) :
    ∃ p0 rest, initCurveFitPara c pa g (some sl) af = (c.varB.lo, .fin sl, p0) :: rest := by
  simp [initCurveFitPara, hv]

/-- **fitted parameters end with popt**: after a successful call the fitted variance, length scale and nugget
    are the entries of `popt` at their positions, and the optional arguments are `popt`'s installed over some
    list (the unfitted ones are pinned down by `untouched`). -/
theorem fitted_eq_popt (hf : ∀ l o, c.fac l o ≠ 0)
    (h : fit c s0 sel sill anis ig w mOk x y script popt = .ok r) :
    (r.para.var = true → r.st.var c = popt.getD 0 0) ∧
    (r.para.len = true → r.st.len = popt.getD r.para.iLen 0) ∧
    (r.para.nug = true → r.st.nug = popt.getD r.para.iNug 0) ∧
    (∃ o, r.st.opt = installOpts o r.para.opt 0 (popt.drop r.para.iOpt)) ∧
    ((r.dir && r.anisFit) = true → r.st.anis = normAnis c (lastAnis c popt)) := by
  obtain ⟨pre, s1, outs, s1', o2, hpre, hpa, _, hrun, hev, hpost, hlen, _⟩ := fit_phases h
  rw [hpa, (postFitting_ok hpost hlen).1]
  refine ⟨fun h1 => postTarget_var hf h1 .., fun h1 => ?_, fun h1 => ?_, ⟨s1'.opt, rfl⟩, fun h1 => ?_⟩ <;>
    simp only [postTarget, h1, ↓reduceIte, zero_real]

/-- **var ≤ sill**: with a constrained sill and a fitted variance, a `popt` that respects the upper bound it
    was given (`var_top_is_sill`) leaves `variance ≤ sill`. -/
theorem var_le_sill (hf : ∀ l o, c.fac l o ≠ 0)
    (h : fit c s0 sel sill anis ig w mOk x y script popt = .ok r) {sl : ℝ} (_hs : r.sill = some sl)
    (hv : r.para.var = true) (hp : popt.getD 0 0 ≤ sl) : r.st.var c ≤ sl := by
  rw [(fitted_eq_popt hf h).1 hv]; exact hp

/-- unless `popt` takes the punishment branch (fitted variance, constrained sill and
    `sill - popt_var` outside the nugget bounds), the model ends in the state of the curve evaluation at `popt`:
    `_post_fitting` changes nothing any more. `s1` is the state the optimiser's own evaluations left. -/
theorem final_state (h : fit c s0 sel sill anis ig w mOk x y script popt = .ok r)
    (hp : punished c r.para r.sill popt = false) :
    ∃ pre s1 outs, prePara c s0 sel sill anis = .ok pre ∧ r.para = pre.para ∧ r.sill = pre.sill ∧
      runScript c pre.para pre.sill r.anisFit r.dir (pre.st.var c) r.xdata pre.st script = .ok (s1, outs) ∧
      r.st = curveTarget c pre.para pre.sill r.anisFit r.dir (pre.st.var c) s1 popt := by
  obtain ⟨pre, s1, outs, s1', o2, hpre, hpa, hsl, hrun, hev, hpost, hlen, _⟩ := fit_phases h
  rw [hpa, hsl] at hp
  obtain ⟨e1, e⟩ := postFitting_after_eval hev hp hpost hlen
  exact ⟨pre, s1, outs, hpre, hpa, hsl, hrun, e.trans e1⟩

/-- for every class with non-vanishing variance factor, EVERY script and EVERY popt,
    the returned dictionary equals the model state after the call. -/
theorem dict_eq_model (hf : ∀ l o, c.fac l o ≠ 0)
    (h : fit c s0 sel sill anis ig w mOk x y script popt = .ok r) : DictEqModel c r := by
  obtain ⟨pre, s1, outs, s1', o2, hpre, hpa, hsl, hrun, hev, hpost, hlen, _⟩ := fit_phases h
  obtain ⟨e, ed, _⟩ := postFitting_ok hpost hlen
  unfold DictEqModel
  rw [ed]
  refine ⟨?_, rfl, rfl, rfl, rfl⟩
  simp only [postDict]
  cases hv : pre.para.var
  · -- variance not fitted: the final evaluation cannot be punished, `_post_fitting` is a no-op on it
    rw [(postFitting_after_eval hev (punished_false_of_var hv) hpost hlen).2]
    rfl
  · rw [e, postTarget_var hf hv, if_pos rfl, zero_real]

/-- for every class with non-vanishing variance factor, EVERY script and EVERY popt,
    parameters that are not fitted end with the value `_pre_para` gave them, and `_pre_para` marks as not fitted
    everything the caller deselected or fixed (`paraGet pre.para p = false`).  (`AnisWF`: the anisotropy list has
    the form every setter leaves it in.) -/
theorem untouched (hf : ∀ l o, c.fac l o ≠ 0)
    (h : fit c s0 sel sill anis ig w mOk x y script popt = .ok r) :
    ∃ pre, prePara c s0 sel sill anis = .ok pre ∧
      (∀ p, (deselected sel).contains p = true → paraGet pre.para p = false) ∧
      (AnisWF c pre.st.anis → Untouched c pre r) := by
  obtain ⟨pre, s1, outs, s1', o2, hpre, hpa, hsl, hrun, hev, hpost, hlen, _⟩ := fit_phases h
  obtain ⟨_, _, _, hdes⟩ := prePara_ok hpre
  refine ⟨pre, hpre, hdes, fun hwf => ?_⟩
  -- the curve evaluations and `_post_fitting` keep what is not fitted; the variance is handled by the final evaluation
  have hu1 := runScript_induct (Unfit pre.para pre.sill (r.dir && r.anisFit) pre.st)
    (fun _ _ _ e _ hu => hu.step hwf (Or.inl e)) hrun ⟨fun _ => rfl, fun _ _ => rfl, fun _ _ => rfl, fun _ => rfl⟩
  obtain ⟨p2, p3, p4, p5⟩ := (runScript_induct _ (fun _ _ _ e _ hu => hu.step hwf (Or.inl e)) hev hu1).step
    (varSave := pre.st.var c) hwf (Or.inr (postFitting_ok hpost hlen).1)
  refine ⟨fun hv => ?_, p2, p3, p4, p5⟩
  obtain ⟨e1, e⟩ := postFitting_after_eval hev (punished_false_of_var hv) hpost hlen
  rw [e, e1, curveTarget_var hf, hv]
  rfl

/-- a prescribed sill is met exactly by `variance + nugget` after the call — any class
    with non-vanishing variance factor, EVERY script — provided `popt` itself is not in the punishment region
    (its tied nugget `sill - popt_var` lies inside the nugget bounds; automatic when the variance is not fitted).
    Without the proviso the statement is false: `not_sill_exact_full`. -/
theorem sill_exact_partial {sl : ℝ} (hf : ∀ l o, c.fac l o ≠ 0)
    (h : fit c s0 sel sill anis ig w mOk x y script popt = .ok r) (hs : r.sill = some sl)
    (hp : punished c r.para r.sill popt = false) : r.st.var c + r.st.nug = sl := by
  obtain ⟨pre, s1, outs, hpre, hpa, hsl, hrun, hst⟩ := final_state h hp
  obtain ⟨_, _, hnug, _⟩ := prePara_ok hpre
  rw [hsl] at hs
  have hn : pre.para.nug = false := hnug (by rw [hs]; rfl)
  cases hvar : pre.para.var
  · -- variance not fitted: the nugget was never touched, `_pre_para` made the sum right
    have hnug1 : s1.nug = pre.st.nug := by
      refine runScript_induct (P := fun t => t.nug = pre.st.nug) ?_ hrun rfl
      intro t a t' e _ hP
      rw [e]
      simp [curveTarget, hn, hvar, hP]
    rw [hst, curveTarget_var hf, hvar]
    simp only [Bool.false_eq_true, ↓reduceIte, curveTarget, hn, hvar, hnug1]
    exact pre_para_sill hf hpre hs hvar
  · rw [hst, curveTarget_var hf, hvar]
    simp [curveTarget, hn, hvar, hs, tiedNug]

/-- **sill with the variance not fitted**: no proviso at all (the punishment branch needs a fitted variance). -/
theorem sill_exact_var_fixed {sl : ℝ} (hf : ∀ l o, c.fac l o ≠ 0)
    (h : fit c s0 sel sill anis ig w mOk x y script popt = .ok r) (hs : r.sill = some sl)
    (hv : r.para.var = false) : r.st.var c + r.st.nug = sl :=
  sill_exact_partial hf h hs (punished_false_of_var hv)

/-- two parameter states that agree on everything the variogram depends on -/
def SameParams (c : Cfg ℝ) (g s : St ℝ) : Prop :=
  g.var c = s.var c ∧ g.len = s.len ∧ g.nug = s.nug ∧ g.anis = s.anis ∧ g.opt = s.opt

theorem curveOut_congr {g s : St ℝ} (hgs : SameParams c g s) (dir : Bool) (xs : List ℝ) :
    curveOut c dir xs g = curveOut c dir xs s := by
  obtain ⟨h1, h2, h3, h4, h5⟩ := hgs
  have hv : vario c g = vario c s := by funext z; simp only [vario, h1, h2, h3, h5]
  have ha : varioAxis c g = varioAxis c s := by funext i z; simp only [varioAxis, hv, h4]
  simp only [curveOut, hv, ha]

/-- if the data are the variogram values of the same model family at a generating state `g`, and
    the call ends with the generating parameters (fitted ones: `fitted_eq_popt` with `popt` = the generating
    values; the others: `untouched`), then the reported `r2` is 1. -/
theorem recovers {g : St ℝ} (h : fit c s0 sel sill anis ig w mOk x y script popt = .ok r)
    (hg : SameParams c g r.st) (hy : y = curveOut c r.dir r.xdata g) : r.r2 = 1 := by
  obtain ⟨_, _, _, _, _, _, _, _, _, _, _, _, _, hr2⟩ := fit_phases h
  rw [hr2, hy, curveOut_congr hg]
  exact r2_noise_free r.dir r.xdata r.st

end thms

/-! ## concrete scripted-optimiser witnesses (computed on `Rat` by kernel evaluation of the model) -/

section witnesses

/-- default bounds of `CovModel`: var, len_scale, anis in (0, ∞), nugget in [0, ∞) -/
def wBndOpen : Bnd Rat := ⟨.fin 0, .pinf, false, false⟩
def wBndNug : Bnd Rat := ⟨.fin 0, .pinf, true, false⟩

/-- a 1-d class without optional arguments and without variance factor; triangular correlation -/
def wPlain : Cfg Rat :=
  { dim := 1, latlon := false, rescale := 1, varB := wBndOpen, lenB := wBndOpen, nugB := wBndNug,
    anisB := wBndOpen, optB := [], fac := fun _ _ => one,
    corr := fun len _ r => if 1 - r / len < 0 then 0 else 1 - r / len }

/-- `wPlain` with custom nugget bounds `[0, 1/2]` (`set_arg_bounds(nugget=[0, 0.5])`) -/
def wNugBnd : Cfg Rat := { wPlain with nugB := ⟨.fin 0, .fin (1 / 2), true, true⟩ }

/-- `wPlain` with a TPL-like variance factor `var = var_raw * (len_scale² + 1)` -/
def wFac : Cfg Rat := { wPlain with fac := fun len _ => len * len + 1 }

def wS0 : St Rat := { varRaw := 1, len := 1, nug := 0, anis := [], opt := [] }
def wIG : IG Rat := { dflt := 0, badName := false, var := none, len := none, nug := none, anis := none, opt := [] }

def okAnd (e : Except Err (Result Rat)) (p : Result Rat → Bool) : Bool :=
  match e with
  | .ok r => p r
  | .error _ => false

theorem okAnd_spec {e : Except Err (Result Rat)} {p : Result Rat → Bool} (h : okAnd e p = true) :
    ∃ r, e = .ok r ∧ p r = true := by
  cases e with
  | ok r => exact ⟨r, rfl, h⟩
  | error _ => cases h

/-- `fit_variogram(x, y, sill=2, len_scale=False)` with nugget bounds `[0, 1/2]`: the optimiser evaluates the
    curve at var = 7/4 (nugget 1/4) and returns popt = [1], whose tied nugget 1 is out of bounds -/
def wSillRun : Except Err (Result Rat) :=
  fit wNugBnd wS0 [(.len, .flag false)] (.value 2) (.flag true) wIG .none true [1, 2] [1, 2] [[7 / 4]] [1]

/-- **the unrestricted sill statement is false**: a `popt` in the punishment region leaves var = 1 (from popt)
    and nugget = 1/4 (from the earlier evaluation), `var + nugget = 5/4 ≠ 2`.  (Real `curve_fit` cannot return
    such a popt as an optimum — its residual is infinite — but nothing in `fit_variogram` checks it; the related
    reachable failure is the known finding `fit:sill-vs-bounds:*`.) -/
theorem not_sill_exact_full : ¬ sill_exact_full Rat := by
  intro h
  have hw : okAnd wSillRun (fun r => !decide (r.st.var wNugBnd + r.st.nug = 2)) = true := by decide +kernel
  obtain ⟨r, hr, hc⟩ := okAnd_spec hw
  have h2 := h wNugBnd wS0 [(.len, .flag false)] 2 (.flag true) wIG .none [1, 2] [1, 2] [[7 / 4]] [1] r
    (fun _ _ => rfl) (by decide +kernel) hr
  simp [h2] at hc

/-! ### regression: the code before the D9 repair (`fitCore false`: no final evaluation at `popt`) -/

/-- `fit_variogram(x, y, sill=2, len_scale=False)`; the optimiser evaluates the curve at var = 1 and returns
    popt = [3/2] (not punished: tied nugget 1/2 ≥ 0) -/
def wOldSillRun : Except Err (Result Rat) :=
  fitCore false wPlain wS0 [(.len, .flag false)] (.value 2) (.flag true) wIG .none true [1, 2] [1, 2] [[1]] [3 / 2]

/-- without the final evaluation the sill identity fails even for a harmless popt: var = 3/2 from popt,
    nugget = 2 − 1 from the last evaluation (defect D9a as it was; the search key
    `fit:last-evaluation-state:fixed-sill-var-only` watches for its return) -/
theorem old_code_breaks_sill : ¬ SillExactFor Rat (fitCore false) := by
  intro h
  have hw : okAnd wOldSillRun (fun r => !decide (r.st.var wPlain + r.st.nug = 2) &&
      !punished wPlain r.para r.sill [3 / 2]) = true := by decide +kernel
  obtain ⟨r, hr, hc⟩ := okAnd_spec hw
  simp only [Bool.and_eq_true, Bool.not_eq_eq_eq_not, Bool.not_true, decide_eq_false_iff_not] at hc
  exact hc.1 (h wPlain wS0 [(.len, .flag false)] 2 (.flag true) wIG .none [1, 2] [1, 2] [[1]] [3 / 2] r
    (fun _ _ => rfl) (by decide +kernel) hr hc.2)

/-- `fit`, which evaluates the curve once more at `popt`, meets the sill on the script of `wOldSillRun` -/
example : okAnd (fit wPlain wS0 [(.len, .flag false)] (.value 2) (.flag true) wIG .none true [1, 2] [1, 2] [[1]] [3 / 2])
    (fun r => decide (r.st.var wPlain + r.st.nug = 2)) = true := by decide +kernel

theorem wFac_ne_zero : ∀ (l : Rat) (o : List Rat), wFac.fac l o ≠ zero := by
  intro l _
  show l * l + 1 ≠ ((0 : Nat) : Rat)
  have := mul_self_nonneg l
  simp only [Nat.cast_zero]
  linarith

/-- `fit_variogram(x, y, var=False)` on a class with variance factor; the optimiser evaluates the curve at
    (len_scale, nugget) = (2, 0) and returns popt = [1, 0] -/
def wOldFacRun : Except Err (Result Rat) :=
  fitCore false wFac wS0 [(.var, .flag false)] .none (.flag true) wIG .none true [1, 2] [1, 2] [[2, 0]] [1, 0]

/-- without the final evaluation `dict["var"] = 2` (read while the model still had the last evaluation's length
    scale) but `model.var = 4/5` (defect D9b as it was) -/
theorem old_code_breaks_dict : ¬ DictEqModelFor Rat (fitCore false) := by
  intro h
  have hw : okAnd wOldFacRun (fun r => !decide (r.dict.var = r.st.var wFac)) = true := by decide +kernel
  obtain ⟨r, hr, hc⟩ := okAnd_spec hw
  have h2 := h wFac wS0 [(.var, .flag false)] .none (.flag true) wIG .none [1, 2] [1, 2] [[2, 0]] [1, 0] r
    wFac_ne_zero (by decide +kernel) hr
  simp [h2.1] at hc

def wUntCheck : Bool :=
  match wOldFacRun, prePara wFac wS0 [(.var, .flag false)] SillArg.none (AnisArg.flag true) with
  | .ok r, .ok pre => !decide (r.st.var wFac = pre.st.var wFac) && !pre.para.var
  | _, _ => false

/-- without the final evaluation the deselected variance 2 of a TPL-like class ends as 4/5 (defect D9b as it was) -/
theorem old_code_breaks_untouched : ¬ UntouchedFor Rat (fitCore false) := by
  intro h
  have hw : wUntCheck = true := by decide +kernel
  unfold wUntCheck at hw
  split at hw
  · rename_i r pre hr hpre
    have h2 := h wFac wS0 [(.var, .flag false)] .none (.flag true) wIG .none [1, 2] [1, 2] [[2, 0]] [1, 0] r pre
      wFac_ne_zero (by decide +kernel) hr hpre
    simp only [Bool.and_eq_true, Bool.not_eq_eq_eq_not, Bool.not_true, decide_eq_false_iff_not] at hw
    exact hw.1 (h2.1 hw.2)
  · cases hw

/-! hypotheses of the theorems are satisfiable by non-trivial objects (rational instances of the same model):
    successful runs with a constrained sill / a deselected variance under a variance factor / noise-free data -/

example : ∃ r, fit wPlain wS0 [(.len, .flag false)] (.value 2) (.flag true) wIG .none true [1, 2] [1, 2]
      [[1], [5 / 4]] [3 / 2] = .ok r ∧
      (decide (r.sill = some 2) && !punished wPlain r.para r.sill [3 / 2] &&
        decide (r.st.var wPlain + r.st.nug = 2) && decide (r.para = ⟨true, false, false, []⟩)) = true :=
  okAnd_spec (by decide +kernel)

example : ∃ r, fit wFac wS0 [(.var, .flag false)] .none (.flag true) wIG .none true [1, 2] [1, 2]
      [[2, 0]] [1, 0] = .ok r ∧
      (decide (r.dict.var = r.st.var wFac) && decide (r.st.var wFac = 2) &&
        decide (r.para = ⟨false, true, true, []⟩)) = true :=
  okAnd_spec (by decide +kernel)

/-- noise-free data: the curve values of the family at (var, len_scale, nugget) = (3/2, 4, 7/4) as data and the
    optimiser returning those parameters give r2 = 1 on the rational model too -/
example : ∃ r, fit wPlain wS0 [] .none (.flag true) wIG .none true [1, 2] [17 / 8, 5 / 2]
      [[1, 1, 1]] [3 / 2, 4, 7 / 4] = .ok r ∧ (decide (r.r2 = 1)) = true :=
  okAnd_spec (by decide +kernel)

end witnesses

end GSV.Props.C10
