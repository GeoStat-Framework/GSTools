/-
  C08 (geometric part) — `_separate_dirs_test` is a sound trigger of the kernel's first-hit rule.

  `directional` (estimator.pyx) credits a pair only to the FIRST listed direction that accepts it when the Python glue
  decided that the directions are "separated" (`_separate_dirs_test`: `arccos(min(|e_i . e_j|, 1)) >= 2 * angles_tol` for
  all i < j).  By `C08.separate_dirs_sound` that is harmless if at most one direction accepts each pair; here this is
  proved over ℝ from the glue's test, by the triangle inequality of undirected angles.  The proof forces two hypotheses:
  the pair has positive length (a zero-length pair passes every direction test, finding D15) and the tolerance is positive
  (with tolerance 0 two parallel directions both accept a parallel pair; the kernel itself rejects `angles_tol <= 0`).
-/
import GSV.Props.C08
import GSV.Model.Vario
import Mathlib.Geometry.Euclidean.Angle.Unoriented.TriangleInequality
import Mathlib.Analysis.InnerProductSpace.PiL2
namespace GSV.Props.C08Geo
open GSV GSV.Transc GSV.Estimator GSV.Props GSV.Props.C08 Finset InnerProductGeometry
open scoped RealInnerProductSpace

section abstract
variable {V : Type*} [NormedAddCommGroup V] [InnerProductSpace ℝ V]

theorem arccos_abs_cos {a : ℝ} (h0 : 0 ≤ a) (hπ : a ≤ Real.pi) :
    Real.arccos |Real.cos a| = min a (Real.pi - a) := by
  rcases le_total a (Real.pi / 2) with h | h
  · rw [abs_of_nonneg (Real.cos_nonneg_of_mem_Icc ⟨(neg_nonpos.2 Real.pi_div_two_pos.le).trans h0, h⟩),
      Real.arccos_cos h0 hπ, min_eq_left (le_sub_iff_add_le.2 ((add_le_add h h).trans_eq (add_halves _)))]
  · rw [abs_of_nonpos (Real.cos_nonpos_of_pi_div_two_le_of_le h (hπ.trans (le_add_of_nonneg_right Real.pi_div_two_pos.le))),
      Real.arccos_neg, Real.arccos_cos h0 hπ,
      min_eq_right (sub_le_iff_le_add.2 ((add_halves _).symm.le.trans (add_le_add h h)))]

/-- the angle between the LINES spanned by `x` and `y` -/
noncomputable def lineAngle (x y : V) : ℝ := Real.arccos |Real.cos (angle x y)|

theorem lineAngle_eq_min (x y : V) : lineAngle x y = min (angle x y) (Real.pi - angle x y) :=
  arccos_abs_cos (angle_nonneg x y) (angle_le_pi x y)

theorem lineAngle_le_angle (x y : V) : lineAngle x y ≤ angle x y :=
  (lineAngle_eq_min x y).trans_le (min_le_left _ _)

theorem lineAngle_comm (x y : V) : lineAngle x y = lineAngle y x := by
  unfold lineAngle; rw [angle_comm]

/-- a line does not change when its spanning vector is rescaled or reversed -/
theorem lineAngle_smul_right (x y : V) {s : ℝ} (hs : s ≠ 0) : lineAngle x (s • y) = lineAngle x y := by
  unfold lineAngle
  rcases lt_or_gt_of_ne hs with h | h
  · rw [angle_smul_right_of_neg x y h, angle_neg_right, Real.cos_pi_sub, abs_neg]
  · rw [angle_smul_right_of_pos x y h]

/-- some orientation of `y` realises the line angle -/
theorem exists_sign_angle (x y : V) : ∃ s : ℝ, s ≠ 0 ∧ angle x (s • y) = lineAngle x y := by
  rw [lineAngle_eq_min, ← angle_neg_right]
  rcases le_total (angle x y) (angle x (-y)) with h | h
  · exact ⟨1, one_ne_zero, by rw [one_smul, min_eq_left h]⟩
  · exact ⟨-1, neg_ne_zero.2 one_ne_zero, by rw [neg_one_smul, min_eq_right h]⟩

/-- **triangle inequality for line angles**: orient `x` and `y` so that their angles to `v` are the line angles and use
    the triangle inequality of the angles of vectors -/
theorem lineAngle_triangle (v x y : V) : lineAngle x y ≤ lineAngle v x + lineAngle v y := by
  obtain ⟨s, hs, h1⟩ := exists_sign_angle v x
  obtain ⟨t, ht, h2⟩ := exists_sign_angle v y
  calc lineAngle x y = lineAngle (s • x) (t • y) := by
        rw [lineAngle_smul_right _ y ht, lineAngle_comm (s • x) y, lineAngle_smul_right y x hs, lineAngle_comm x y]
    _ ≤ angle (s • x) (t • y) := lineAngle_le_angle _ _
    _ ≤ angle (s • x) v + angle v (t • y) := angle_le_angle_add_angle _ _ _
    _ = lineAngle v x + lineAngle v y := by rw [angle_comm (s • x) v, h1, h2]

/-- the quantity the kernel computes: `arccos(|<v,e>| / ‖v‖)` for a unit vector `e` is the line angle -/
theorem lineAngle_unit (v e : V) (he : ‖e‖ = 1) :
    lineAngle v e = Real.arccos (|⟪v, e⟫| / ‖v‖) := by
  unfold lineAngle
  rw [cos_angle, he, mul_one, abs_div, abs_norm]

theorem lineAngle_unit_unit (x y : V) (hx : ‖x‖ = 1) (hy : ‖y‖ = 1) :
    lineAngle x y = Real.arccos (min |⟪x, y⟫| 1) := by
  rw [lineAngle_unit x y hy, hx, div_one, min_eq_left]
  exact (abs_real_inner_le_norm x y).trans_eq (by rw [hx, hy, mul_one])

/-- what a direction test accepts is `lineAngle v e < tol`: the kernel tests `arccos(|<v,e>|/‖v‖) < tol` unless
    `|<v,e>|/‖v‖ ≥ 1`, and then the angle is 0 -/
theorem lineAngle_lt_of_test (v e : V) (he : ‖e‖ = 1) {tol : ℝ} (htol : 0 < tol)
    (h : |⟪v, e⟫| / ‖v‖ < 1 → Real.arccos (|⟪v, e⟫| / ‖v‖) < tol) : lineAngle v e < tol := by
  rw [lineAngle_unit v e he]
  by_cases hlt : |⟪v, e⟫| / ‖v‖ < 1
  · exact h hlt
  · rw [Real.arccos_eq_zero.2 (not_lt.1 hlt)]; exact htol

/-- **at most one of two separated lines is within `tol` of a non-zero vector**: what each direction test accepts is
    `lineAngle v e < tol` or `|<v,e>|/‖v‖ ≥ 1` (then the angle is 0) -/
theorem not_both_within (v x y : V) (hx : ‖x‖ = 1) (hy : ‖y‖ = 1) {tol : ℝ} (htol : 0 < tol)
    (hsep : 2 * tol ≤ Real.arccos (min |⟪x, y⟫| 1))
    (h1 : |⟪v, x⟫| / ‖v‖ < 1 → Real.arccos (|⟪v, x⟫| / ‖v‖) < tol)
    (h2 : |⟪v, y⟫| / ‖v‖ < 1 → Real.arccos (|⟪v, y⟫| / ‖v‖) < tol) : False := by
  rw [← lineAngle_unit_unit x y hx hy] at hsep
  exact absurd (hsep.trans (lineAngle_triangle v x y)) (not_le.2 <|
    (add_lt_add (lineAngle_lt_of_test v x hx htol h1) (lineAngle_lt_of_test v y hy htol h2)).trans_eq (two_mul tol).symm)

end abstract

/-- the scalar product accumulated by `dir_test` -/
noncomputable def sprod (dim : Nat) (pos : Nat → Nat → ℝ) (direction : Nat → Nat → ℝ) (i j d : Nat) : ℝ :=
  ∑ c ∈ range dim, (pos c i - pos c j) * direction d c

section stages
variable (dim : Nat) (pos : Nat → Nat → ℝ) (ds : ℝ) (direction : Nat → Nat → ℝ) (tol bw : ℝ) (i j d : Nat)

/-- `dir_test` is cut into three stages, each definitionally the generated text.  This one: after the scalar-product loop -/
noncomputable def stage1 : dir_test.St ℝ :=
  forRange 0 dim ({ s_prod := ((0:Nat):ℝ), b_dist := ((0:Nat):ℝ), in_band := true, in_angle := true, tmp := ((0:Nat):ℝ) } : dir_test.St ℝ)
    fun k (st : dir_test.St ℝ) => { st with s_prod := (st.s_prod + ((pos k i - pos k j) * direction d k)) }

/-- after the optional bandwidth test -/
noncomputable def stage2 : dir_test.St ℝ :=
  if (bw > ((0:Nat):ℝ)) then
    let st : dir_test.St ℝ :=
      forRange 0 dim (stage1 dim pos direction i j d) fun k (st : dir_test.St ℝ) =>
        let st : dir_test.St ℝ := { st with tmp := ((pos k i - pos k j) - (st.s_prod * direction d k)) }
        let st : dir_test.St ℝ := { st with b_dist := (st.b_dist + (st.tmp * st.tmp)) }
        st
    { st with in_band := (decide (sqrt st.b_dist < bw)) }
  else stage1 dim pos direction i j d

/-- after the angle test -/
noncomputable def stage3 (st : dir_test.St ℝ) : dir_test.St ℝ :=
  if (ds > ((0:Nat):ℝ)) then
    let st : dir_test.St ℝ := { st with tmp := (fabs st.s_prod / ds) }
    if (st.tmp < ((1:Nat):ℝ)) then { st with in_angle := (decide (acos st.tmp < tol)) } else st
  else st

theorem dir_test_stages (p0 p1 d0 d1 : Nat) :
    dir_test dim pos p0 p1 ds direction d0 d1 tol bw i j d =
      decide (((stage3 ds tol (stage2 dim pos direction bw i j d)).in_band = true) ∧
              ((stage3 ds tol (stage2 dim pos direction bw i j d)).in_angle = true)) := by
  -- both sides are the same text once the `let`s are substituted; `unfold` and `dsimp only` do that substitution, which a
  -- bare `rfl` would leave to the unifier
  unfold dir_test stage3 stage2 stage1
  dsimp only

theorem stage1_s_prod : (stage1 dim pos direction i j d).s_prod = sprod dim pos direction i j d := by
  unfold stage1
  rw [forRange_proj (fun (s : dir_test.St ℝ) => s.s_prod) _
    (fun k acc => acc + (pos k i - pos k j) * direction d k) (fun _ _ => rfl)]
  exact forRange_cast_zero_add_eq_sum dim _

theorem stage1_in_angle : (stage1 dim pos direction i j d).in_angle = true := by
  unfold stage1
  exact forRange_keep (fun (s : dir_test.St ℝ) => s.in_angle) _ (by intros; rfl) 0 dim _

theorem stage2_s_prod : (stage2 dim pos direction bw i j d).s_prod = sprod dim pos direction i j d := by
  unfold stage2
  split
  · exact (forRange_keep (fun (s : dir_test.St ℝ) => s.s_prod) _ (by intros; rfl) 0 dim _).trans
      (stage1_s_prod dim pos direction i j d)
  · exact stage1_s_prod dim pos direction i j d

theorem stage2_in_angle : (stage2 dim pos direction bw i j d).in_angle = true := by
  unfold stage2
  split
  · exact (forRange_keep (fun (s : dir_test.St ℝ) => s.in_angle) _ (by intros; rfl) 0 dim _).trans
      (stage1_in_angle dim pos direction i j d)
  · exact stage1_in_angle dim pos direction i j d

theorem stage3_in_band (st : dir_test.St ℝ) : (stage3 ds tol st).in_band = st.in_band := by
  unfold stage3
  split
  · simp only []
    split <;> rfl
  · rfl

/-- the angle test is made only for a positive distance and `|s|/dist < 1` -/
theorem stage3_in_angle (st : dir_test.St ℝ) (h : st.in_angle = true) :
    (stage3 ds tol st).in_angle = true ↔
      (0 < ds → |st.s_prod| / ds < 1 → Real.arccos (|st.s_prod| / ds) < tol) := by
  unfold stage3
  simp only [gt_iff_lt, Nat.cast_zero, Nat.cast_one, fabs_real, acos_real]
  split_ifs with hds hlt
  · exact decide_eq_true_iff.trans ⟨fun h _ _ => h, fun h => h hds hlt⟩
  · exact iff_of_true h fun _ hlt' => absurd hlt' hlt
  · exact iff_of_true h fun hds' => absurd hds' hds

end stages

/-- what `dir_test` returning `true` says about the angle: if the distance is positive and `|s|/dist < 1`, the
    angle `arccos(|s|/dist)` is below the tolerance (the bandwidth test only restricts further) -/
theorem dir_test_angle (dim : Nat) (pos : Nat → Nat → ℝ) (p0 p1 : Nat) (ds : ℝ) (direction : Nat → Nat → ℝ)
    (d0 d1 : Nat) (tol bw : ℝ) (i j d : Nat)
    (h : dir_test dim pos p0 p1 ds direction d0 d1 tol bw i j d = true) (hds : 0 < ds)
    (hlt : |sprod dim pos direction i j d| / ds < 1) :
    Real.arccos (|sprod dim pos direction i j d| / ds) < tol := by
  rw [dir_test_stages, decide_eq_true_eq,
    stage3_in_angle ds tol _ (stage2_in_angle dim pos direction bw i j d), stage2_s_prod] at h
  exact h.2 hds hlt

/-- coordinates of the pair vector / of a direction as points of Euclidean space -/
noncomputable def vecOf (dim : Nat) (f : Nat → ℝ) : EuclideanSpace ℝ (Fin dim) := WithLp.toLp 2 fun c => f c

theorem inner_vecOf (dim : Nat) (f g : Nat → ℝ) : ⟪vecOf dim f, vecOf dim g⟫ = ∑ c ∈ range dim, f c * g c := by
  rw [vecOf, vecOf, EuclideanSpace.inner_toLp_toLp, Finset.sum_range]
  exact Finset.sum_congr rfl fun c _ => mul_comm _ _

theorem norm_vecOf (dim : Nat) (f : Nat → ℝ) : ‖vecOf dim f‖ = Real.sqrt (∑ c ∈ range dim, f c ^ 2) := by
  rw [EuclideanSpace.norm_eq, Finset.sum_range]
  exact congrArg Real.sqrt (Finset.sum_congr rfl fun c _ => sq_abs _)

/-- the kernel's scalar product and distance for the pair `(j, k)`, read in Euclidean space: the inner product of the
    separation vector with the direction, and the separation vector's norm -/
theorem sprod_eq_inner (dim : Nat) (pos direction : Nat → Nat → ℝ) (j k d : Nat) :
    sprod dim pos direction k j d = ⟪vecOf dim fun c => pos c k - pos c j, vecOf dim (direction d)⟫ :=
  (inner_vecOf dim _ _).symm

theorem dist_eq_norm (dim : Nat) (pos : Nat → Nat → ℝ) (p0 p1 j k : Nat) :
    dist_euclid dim pos p0 p1 j k = ‖vecOf dim fun c => pos c k - pos c j‖ := by
  rw [C09.dist_euclid_real, norm_vecOf]
  exact congrArg Real.sqrt (Finset.sum_congr rfl fun c _ => by ring)

/-- if the directions are unit vectors and pass the glue's separation test
    (`arccos(min(|e_a . e_b|, 1)) ≥ 2 tol` for all `a < b`), then for a positive tolerance at most one direction
    accepts a pair of positive length — for every dimension, bandwidth and number of directions. -/
theorem separate_dirs_geometric (dim : Nat) (pos : Nat → Nat → ℝ) (np : Nat) (direction : Nat → Nat → ℝ)
    (nd dc : Nat) (tol bw : ℝ) (j k : Nat) (htol : 0 < tol)
    (hunit : ∀ d, d < nd → ∑ c ∈ range dim, direction d c ^ 2 = 1)
    (hsep : ∀ a b, a < b → b < nd →
      2 * tol ≤ Real.arccos (min |∑ c ∈ range dim, direction a c * direction b c| 1))
    (hlen : 0 < dist_euclid dim pos dim np j k) :
    ∀ d₁ d₂, d₁ < nd → d₂ < nd →
      dirOK dim pos np direction nd dc tol bw (dist_euclid dim pos dim np j k) j k d₁ →
      dirOK dim pos np direction nd dc tol bw (dist_euclid dim pos dim np j k) j k d₂ → d₁ = d₂ := by
  -- two different listed directions `a < b` cannot both accept: their lines are `2 tol` apart
  have key : ∀ a b, a < b → b < nd →
      dirOK dim pos np direction nd dc tol bw (dist_euclid dim pos dim np j k) j k a →
      dirOK dim pos np direction nd dc tol bw (dist_euclid dim pos dim np j k) j k b → False := by
    intro a b hab hb oka okb
    have ha := hab.trans hb
    exact not_both_within (vecOf dim fun c => pos c k - pos c j) (vecOf dim (direction a)) (vecOf dim (direction b))
      (by rw [norm_vecOf, hunit a ha, Real.sqrt_one]) (by rw [norm_vecOf, hunit b hb, Real.sqrt_one]) htol
      (by rw [inner_vecOf]; exact hsep a b hab hb)
      (by rw [← sprod_eq_inner dim pos direction j k a, ← dist_eq_norm dim pos dim np]
          exact dir_test_angle dim pos dim np _ direction nd dc tol bw k j a oka hlen)
      (by rw [← sprod_eq_inner dim pos direction j k b, ← dist_eq_norm dim pos dim np]
          exact dir_test_angle dim pos dim np _ direction nd dc tol bw k j b okb hlen)
  intro d₁ d₂ h1 h2 ok1 ok2
  rcases Nat.lt_trichotomy d₁ d₂ with h | h | h
  · exact (key d₁ d₂ h h2 ok1 ok2).elim
  · exact h
  · exact (key d₂ d₁ h h1 ok2 ok1).elim

/-- **the first-hit rule is harmless under the glue's test** (positive-length pairs): with separated unit
    directions the kernel run with `separate_dirs = True` selects, for every direction and bin, exactly the pairs
    the run with `separate_dirs = False` selects -/
theorem separated_first_hit_eq_all (dim : Nat) (pos : Nat → Nat → ℝ) (np : Nat) (bins : Nat → ℝ)
    (direction : Nat → Nat → ℝ) (nd dc : Nat) (tol bw : ℝ) (d i : Nat) (p : Nat × Nat) (htol : 0 < tol)
    (hunit : ∀ d, d < nd → ∑ c ∈ range dim, direction d c ^ 2 = 1)
    (hsep : ∀ a b, a < b → b < nd →
      2 * tol ≤ Real.arccos (min |∑ c ∈ range dim, direction a c * direction b c| 1))
    (hlen : 0 < dist_euclid dim pos dim np p.1 p.2) :
    inDirBin dim pos np bins direction nd dc tol bw true d i p = inDirBin dim pos np bins direction nd dc tol bw false d i p :=
  separate_dirs_sound dim pos np bins direction nd dc tol bw d i p
    (separate_dirs_geometric dim pos np direction nd dc tol bw p.1 p.2 htol hunit hsep hlen)

theorem orthogonal_separated {s tol : ℝ} (h : s = 0) (htol : tol ≤ Real.pi / 4) :
    2 * tol ≤ Real.arccos (min |s| 1) := by
  rw [h, abs_zero, min_eq_left zero_le_one, Real.arccos_zero]
  exact (mul_le_mul_of_nonneg_left htol zero_le_two).trans_eq (by ring)

theorem pi_div_eight_le : Real.pi / 8 ≤ Real.pi / 4 :=
  div_le_div_of_nonneg_left Real.pi_pos.le (by norm_num) (by norm_num)

/-- non-vacuity: two orthogonal unit directions in the plane pass the separation test with `tol = π/8` -/
example : 2 * (Real.pi / 8) ≤ Real.arccos (min |∑ c ∈ range 2, (if c = 0 then (1:ℝ) else 0) * (if c = 1 then (1:ℝ) else 0)| 1) :=
  orthogonal_separated (by simp) pi_div_eight_le

/-- the executable model of the glue's `_separate_dirs_test` (`Model.Vario.separateDirs`, tied to it by correspondence)
    returns `true` iff every pair `a < b` of listed directions satisfies the separation inequality -/
theorem separateDirs_spec (dirs : List (List ℝ)) (tol : ℝ) :
    Model.Vario.separateDirs dirs tol = true ↔
      ∀ a b, a < b → b < dirs.length →
        2 * tol ≤ Real.arccos (min |Model.Vario.dotL (dirs.getD a []) (dirs.getD b [])| 1) := by
  -- the model clamps `|e_a . e_b|` at 1 by a comparison
  have clamp : ∀ s : ℝ, (if ((1:Nat):ℝ) < s then ((1:Nat):ℝ) else s) = min s 1 := fun s => by
    simp only [Nat.cast_one, min_def, ← not_lt, ite_not]
  unfold Model.Vario.separateDirs
  simp only [List.all_eq_true, List.mem_range, fabs_real, acos_real, clamp, Nat.cast_ofNat, ge_iff_le]
  constructor
  · intro h a b hab hb
    simpa only [if_pos hab, decide_eq_true_eq] using h a (hab.trans hb) b hb
  · intro h a _ b hb
    split_ifs with hab
    · exact decide_eq_true (h a b hab hb)
    · rfl

/-- `dotL` of two lists of the same length is the coordinate sum in which `separate_dirs_geometric` states the test -/
theorem dotL_eq_sum (a b : List ℝ) (h : a.length = b.length) :
    Model.Vario.dotL a b = ∑ c ∈ range a.length, a.getD c 0 * b.getD c 0 := by
  unfold Model.Vario.dotL
  rw [foldl_add_eq_sum, Nat.cast_zero, zero_add]
  induction a generalizing b with
  | nil => simp
  | cons x a ih =>
    cases b with
    | nil => simp at h
    | cons y b =>
      rw [List.length_cons, Finset.sum_range_succ', List.zip_cons_cons, List.map_cons, List.sum_cons, add_comm]
      simp only [List.getD_cons_zero, List.getD_cons_succ]
      rw [ih b (by simpa using h)]

/-- with tolerance 0 the model of the glue's separation test accepts two identical unit directions.  (Both then accept
    every pair parallel to them, which is why `separate_dirs_geometric` needs `0 < tol`; that part is not stated here.) -/
theorem separateDirs_zero_tol_duplicate : Model.Vario.separateDirs [[(1:ℝ), 0], [1, 0]] 0 = true := by
  rw [separateDirs_spec]
  intro a b _ _
  exact (mul_zero 2).le.trans (Real.arccos_nonneg _)

end GSV.Props.C08Geo
