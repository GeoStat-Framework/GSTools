/-
  C08 — empirical variogram estimates equal their mathematical definition.

  The kernel specifications of `KernelVario` (regenerated source = loop nest per cell, any schedule)
  are turned into the *definition by enumeration*: the list of qualifying (pair, field) triples in
  lexicographic order, its length (pair counts) and the fold of the estimator terms over it.
  These statements are law-free (hold for IEEE doubles); on `ℝ` the fold is the usual sum.
-/
import GSV.Props.KernelVario
import GSV.Lemmas.Sum
import Mathlib.Tactic.Ring
namespace GSV.Props.C08
open GSV GSV.Transc GSV.Estimator GSV.Props

set_option linter.unusedSectionVars false
variable {α : Type} [Arith α] [Transc α] [DecidableLT α] [DecidableLE α]

/-- all index pairs `j < k < np`, in the kernel's (lexicographic) order -/
def pairs (np : Nat) : List (Nat × Nat) :=
  (idxRange 0 (np - 1)).flatMap fun j => (idxRange (j + 1) np).map fun k => (j, k)

theorem mem_pairs {np : Nat} {p : Nat × Nat} : p ∈ pairs np ↔ p.1 < p.2 ∧ p.2 < np := by
  obtain ⟨j, k⟩ := p
  simp only [pairs, List.mem_flatMap, List.mem_map, mem_idxRange, Prod.mk.injEq]
  constructor
  · rintro ⟨a, _, b, hb, rfl, rfl⟩; exact hb
  · rintro ⟨h1, h2⟩; exact ⟨j, ⟨Nat.zero_le _, Nat.lt_sub_of_add_lt (Nat.lt_of_le_of_lt h1 h2)⟩, k, ⟨h1, h2⟩, rfl, rfl⟩

theorem nodup_pairs (np : Nat) : (pairs np).Nodup := by
  unfold pairs
  rw [List.nodup_flatMap]
  refine ⟨fun j _ => (nodup_idxRange _ _).map fun a b h => (Prod.mk.inj h).2, ?_⟩
  refine List.Pairwise.imp_of_mem ?_ (nodup_idxRange 0 (np - 1))
  intro a b _ _ hab x hx1 hx2
  simp only [List.mem_map] at hx1 hx2
  obtain ⟨_, _, rfl⟩ := hx1
  obtain ⟨_, _, h⟩ := hx2
  exact hab (congrArg Prod.fst h).symm

/-- fields in which both values of the pair are present -/
def validFields (f : Nat → Nat → α) (nf j k : Nat) : List Nat :=
  (idxRange 0 nf).filter fun m => decide (¬ (isnan (f m k) = true ∨ isnan (f m j) = true))

/-- over ℝ no value is NaN: every field is usable for every pair -/
theorem validFields_real (f : Nat → Nat → ℝ) (nf j k : Nat) : validFields f nf j k = idxRange 0 nf := by
  unfold validFields
  simp

/-- the (j, k, m) triples that enter a cell, given which pairs `sel` selects -/
def triples (f : Nat → Nat → α) (nf np : Nat) (sel : Nat × Nat → Bool) : List (Nat × Nat × Nat) :=
  ((pairs np).filter sel).flatMap fun p => (validFields f nf p.1 p.2).map fun m => (p.1, p.2, m)

/-- so over ℝ the triples of a cell do not depend on the field values -/
theorem triples_real (f g : Nat → Nat → ℝ) (nf np : Nat) (sel : Nat × Nat → Bool) :
    triples f nf np sel = triples g nf np sel := by
  unfold triples
  simp only [validFields_real]

/-- the pair loops of the point-list kernels run through `pairs np` in order -/
theorem forRange_pairs {σ : Type} (np : Nat) (G : σ → Nat × Nat → σ) (a : σ) :
    (forRange 0 (np - 1) a fun j acc => forRange (j + 1) np acc fun k acc => G acc (j, k)) = (pairs np).foldl G a := by
  simp only [forRange, foldIdx, pairs, List.foldl_flatMap, List.foldl_map]

theorem foldl_sum_count {β : Type} (h : β → α) (l : List β) (acc : α × Int) :
    l.foldl (fun a t => (a.1 + h t, a.2 + (1:Int))) acc = (l.foldl (fun a t => a + h t) acc.1, acc.2 + (l.length : Int)) := by
  induction l generalizing acc with
  | nil => simp
  | cons t l ih => rw [List.foldl_cons, ih, List.foldl_cons, List.length_cons, Int.natCast_succ, Int.add_assoc, Int.add_comm 1]

/-- accumulate estimator terms and counts over a triple list -/
def accum (f : Nat → Nat → α) (est : α → α) (l : List (Nat × Nat × Nat)) (acc : α × Int) : α × Int :=
  l.foldl (fun a t => (a.1 + est (f t.2.2 t.2.1 - f t.2.2 t.1), a.2 + (1:Int))) acc

theorem accum_zero (f : Nat → Nat → α) (est : α → α) (l : List (Nat × Nat × Nat)) :
    accum f est l (((0:Nat):α), (0:Int)) =
      (l.foldl (fun a t => a + est (f t.2.2 t.2.1 - f t.2.2 t.1)) ((0:Nat):α), (l.length : Int)) := by
  rw [accum, foldl_sum_count, Int.zero_add]

theorem pairAcc_eq_accum (f : Nat → Nat → α) (nf : Nat) (est : α → α) (j k : Nat) (acc : α × Int) :
    pairAcc f nf est j k acc = accum f est ((validFields f nf j k).map fun m => (j, k, m)) acc := by
  unfold pairAcc accum validFields forRange foldIdx
  rw [List.foldl_map, List.foldl_filter]
  congr 1
  funext a m
  simp only [decide_eq_true_eq]

/-- a generic pair loop nest with a per-pair selection equals accumulation over the triple list -/
theorem nest_eq_accum (f : Nat → Nat → α) (nf : Nat) (est : α → α) (np : Nat) (sel : Nat × Nat → Bool) (acc : α × Int) :
    (forRange 0 (np - 1) acc fun j acc =>
      forRange (j + 1) np acc fun k acc =>
        if sel (j, k) = true then pairAcc f nf est j k acc else acc) =
    accum f est (triples f nf np sel) acc := by
  rw [forRange_pairs np fun acc p => if sel p = true then pairAcc f nf est p.1 p.2 acc else acc, ← List.foldl_filter]
  unfold accum triples
  rw [List.foldl_flatMap]
  exact congrArg (fun G => List.foldl G acc _) (funext fun a => funext fun p => pairAcc_eq_accum f nf est p.1 p.2 a)

/-- pair `(j,k)` falls into the half-open bin `[bins i, bins (i+1))` -/
def inBin (dist : Nat → Nat → α) (bins : Nat → α) (i : Nat) (p : Nat × Nat) : Bool :=
  decide (¬ (dist p.1 p.2 < bins i ∨ dist p.1 p.2 ≥ bins (i + 1)))

theorem binCell_eq_accum (f : Nat → Nat → α) (nf : Nat) (est : α → α) (dist : Nat → Nat → α) (bins : Nat → α)
    (np i : Nat) (acc : α × Int) :
    binCell f nf est dist bins np i acc = accum f est (triples f nf np (inBin dist bins i)) acc := by
  rw [← nest_eq_accum]
  simp only [binCell, inBin, decide_eq_true_eq, ite_not]

/-- for every admissible schedule and every carrier (no law of arithmetic is used), bin `i` of `unstructured` holds
    (a) as count the number of qualifying (pair, field) triples — pairs `j<k` whose distance lies in
    `[edge_i, edge_{i+1})`, fields where neither value is NaN — and (b) as value the normalisation of the
    estimator terms folded over exactly those triples. -/
theorem unstructured_eq_definition (sched : Sched) (hs : sched.Admissible)
    (f : Nat → Nat → α) (nf f1 : Nat) (bins : Nat → α) (nb : Nat) (pos : Nat → Nat → α) (dim np : Nat)
    (et dt : String) (i : Nat) (hi : i < nb - 1) :
    let T := triples f nf np (inBin (distOf dt dim pos dim np) bins i)
    (unstructured sched f nf f1 bins nb pos dim np et dt).2 i = (T.length : Int) ∧
    (unstructured sched f nf f1 bins nb pos dim np et dt).1 i =
      normOf et (T.foldl (fun a t => a + choose_estimator_func et (f t.2.2 t.2.1 - f t.2.2 t.1)) ((0:Nat):α)) (T.length : Int) := by
  have h := unstructured_spec sched hs f nf f1 bins nb pos dim np et dt i
  rw [if_pos hi, binCell_eq_accum, accum_zero] at h
  exact ⟨(Prod.mk.inj h).2, (Prod.mk.inj h).1⟩

/-- cells beyond the last bin are never written -/
theorem unstructured_outside (sched : Sched) (hs : sched.Admissible)
    (f : Nat → Nat → α) (nf f1 : Nat) (bins : Nat → α) (nb : Nat) (pos : Nat → Nat → α) (dim np : Nat)
    (et dt : String) (i : Nat) (hi : ¬ i < nb - 1) :
    (unstructured sched f nf f1 bins nb pos dim np et dt).2 i = 0 := by
  have h := unstructured_spec sched hs f nf f1 bins nb pos dim np et dt i
  rw [if_neg hi] at h
  exact congrArg Prod.snd h

/-- pair selected for direction `d`, bin `i` -/
def inDirBin (dim : Nat) (pos : Nat → Nat → α) (np : Nat) (bins : Nat → α) (direction : Nat → Nat → α) (nd dc : Nat)
    (tol bw : α) (sep : Bool) (d i : Nat) (p : Nat × Nat) : Bool :=
  inBin (dist_euclid dim pos dim np) bins i p &&
  decide (d < nd ∧ dirOK dim pos np direction nd dc tol bw (dist_euclid dim pos dim np p.1 p.2) p.1 p.2 d ∧
    (sep = true → ∀ d', d' < d → ¬ dirOK dim pos np direction nd dc tol bw (dist_euclid dim pos dim np p.1 p.2) p.1 p.2 d'))

theorem inDirBin_iff (dim : Nat) (pos : Nat → Nat → α) (np : Nat) (bins : Nat → α) (direction : Nat → Nat → α) (nd dc : Nat)
    (tol bw : α) (sep : Bool) (d i : Nat) (p : Nat × Nat) :
    inDirBin dim pos np bins direction nd dc tol bw sep d i p = true ↔
      ¬ (dist_euclid dim pos dim np p.1 p.2 < bins i ∨ dist_euclid dim pos dim np p.1 p.2 ≥ bins (i + 1)) ∧
      d < nd ∧ dirOK dim pos np direction nd dc tol bw (dist_euclid dim pos dim np p.1 p.2) p.1 p.2 d ∧
        (sep = true → ∀ d', d' < d → ¬ dirOK dim pos np direction nd dc tol bw (dist_euclid dim pos dim np p.1 p.2) p.1 p.2 d') := by
  simp only [inDirBin, inBin, Bool.and_eq_true, decide_eq_true_eq]

theorem dirCell_eq_accum (f : Nat → Nat → α) (nf : Nat) (est : α → α) (dim : Nat) (pos : Nat → Nat → α) (np : Nat)
    (bins : Nat → α) (direction : Nat → Nat → α) (nd dc : Nat) (tol bw : α) (sep : Bool) (d i : Nat) (acc : α × Int) :
    dirCell f nf est dim pos np bins direction nd dc tol bw sep d i acc =
      accum f est (triples f nf np (inDirBin dim pos np bins direction nd dc tol bw sep d i)) acc := by
  rw [← nest_eq_accum]
  simp only [dirCell, dirPair, inDirBin, inBin, Bool.and_eq_true, decide_eq_true_eq, ite_and, ite_not]

/-- for every admissible schedule and every carrier, cell `(d, i)` of `directional` counts / accumulates exactly the
    triples whose pair lies in bin `i`, passes the direction test for `d`, and — with separated directions — passes it
    for no earlier listed direction. -/
theorem directional_eq_definition (sched : Sched) (hs : sched.Admissible)
    (f : Nat → Nat → α) (nf f1 : Nat) (bins : Nat → α) (nb : Nat) (pos : Nat → Nat → α) (dim np : Nat)
    (direction : Nat → Nat → α) (nd dc : Nat) (tol bw : α) (sep : Bool) (et : String) (d i : Nat)
    (hi : i < nb - 1) (hd : d < nd) :
    let T := triples f nf np (inDirBin dim pos np bins direction nd dc tol bw sep d i)
    (directional sched f nf f1 bins nb pos dim np direction nd dc tol bw sep et).2 d i = (T.length : Int) ∧
    (directional sched f nf f1 bins nb pos dim np direction nd dc tol bw sep et).1 d i =
      normOf et (T.foldl (fun a t => a + choose_estimator_func et (f t.2.2 t.2.1 - f t.2.2 t.1)) ((0:Nat):α)) (T.length : Int) := by
  have h := directional_spec sched hs f nf f1 bins nb pos dim np direction nd dc tol bw sep et d i
  rw [if_pos hi, dirCell_eq_accum, accum_zero] at h
  simp only [if_pos hd] at h
  exact ⟨(Prod.mk.inj h).2, (Prod.mk.inj h).1⟩

/-- if at most one direction accepts a pair, crediting only the first accepting direction (`sep`)
    selects the same pairs as crediting every accepting direction -/
theorem separate_dirs_sound (dim : Nat) (pos : Nat → Nat → α) (np : Nat) (bins : Nat → α) (direction : Nat → Nat → α)
    (nd dc : Nat) (tol bw : α) (d i : Nat) (p : Nat × Nat)
    (huniq : ∀ d₁ d₂, d₁ < nd → d₂ < nd →
      dirOK dim pos np direction nd dc tol bw (dist_euclid dim pos dim np p.1 p.2) p.1 p.2 d₁ →
      dirOK dim pos np direction nd dc tol bw (dist_euclid dim pos dim np p.1 p.2) p.1 p.2 d₂ → d₁ = d₂) :
    inDirBin dim pos np bins direction nd dc tol bw true d i p = inDirBin dim pos np bins direction nd dc tol bw false d i p := by
  rw [Bool.eq_iff_iff, inDirBin_iff, inDirBin_iff]
  refine and_congr_right fun _ => and_congr_right fun h1 => and_congr_right fun h2 => ?_
  -- `d` accepts: an earlier accepting direction would be `d` itself
  exact ⟨fun _ h => absurd h Bool.false_ne_true,
    fun _ _ d' hd' hok => absurd (huniq d' d (hd'.trans h1) h1 hok h2) hd'.ne⟩

/-- grid cells `(i, j)` that have a partner `(i + k, j)` and satisfy `ok` (`n0 - 1 + 1` as in `structCell`) -/
def gridPairs (n0 n1 k : Nat) (ok : Nat × Nat → Bool) : List (Nat × Nat) :=
  ((idxRange 0 (n0 - 1)).flatMap fun i => (idxRange 0 n1).map fun j => (i, j)).filter
    fun p => decide (1 ≤ k ∧ k < n0 - 1 + 1 - p.1) && ok p

theorem gridNest_eq (f : Nat → Nat → α) (est : α → α) (n0 n1 k : Nat) (ok : Nat × Nat → Bool) (acc : α × Int) :
    (forRange 0 (n0 - 1) acc fun i acc =>
      forRange 0 n1 acc fun j acc =>
        if (decide (1 ≤ k ∧ k < n0 - 1 + 1 - i) && ok (i, j)) = true
        then (acc.1 + est (f i j - f (i + k) j), acc.2 + (1:Int)) else acc) =
    (gridPairs n0 n1 k ok).foldl (fun a p => (a.1 + est (f p.1 p.2 - f (p.1 + k) p.2), a.2 + (1:Int))) acc := by
  unfold gridPairs
  rw [List.foldl_filter]
  simp only [forRange, foldIdx, List.foldl_flatMap, List.foldl_map]

/-- lag `k` of `structured` pairs every cell `(i, j)` with `(i+k, j)`: the value is the normalised fold of the estimator
    terms over these cells, normalised with their number. -/
theorem structured_eq_definition (sched : Sched) (hs : sched.Admissible)
    (f : Nat → Nat → α) (n0 n1 : Nat) (et : String) (k : Nat) (hk : k < n0 - 1 + 1) :
    let T := gridPairs n0 n1 k (fun _ => true)
    structured sched f n0 n1 et k =
      normOf et (T.foldl (fun a p => a + choose_estimator_func et (f p.1 p.2 - f (p.1 + k) p.2)) ((0:Nat):α)) (T.length : Int) := by
  have h := gridNest_eq f (choose_estimator_func et) n0 n1 k (fun _ => true) (((0:Nat):α), (0:Int))
  simp only [Bool.and_true, decide_eq_true_eq] at h
  rw [structured_spec sched hs, if_pos hk, structCell, h, foldl_sum_count, Int.zero_add]

/-- `ma_structured` skips masked cells: the pair `(i, j)`, `(i+k, j)` enters lag `k` iff both ends are unmasked. -/
theorem ma_structured_eq_definition (sched : Sched) (hs : sched.Admissible)
    (f : Nat → Nat → α) (n0 n1 : Nat) (mask : Nat → Nat → Nat) (m0 m1 : Nat) (et : String) (k : Nat) (hk : k < n0 - 1 + 1) :
    let T := gridPairs n0 n1 k (fun p => decide (mask p.1 p.2 = 0 ∧ mask (p.1 + k) p.2 = 0))
    ma_structured sched f n0 n1 mask m0 m1 et k =
      normOf et (T.foldl (fun a p => a + choose_estimator_func et (f p.1 p.2 - f (p.1 + k) p.2)) ((0:Nat):α)) (T.length : Int) := by
  have h := gridNest_eq f (choose_estimator_func et) n0 n1 k
    (fun p => decide (mask p.1 p.2 = 0 ∧ mask (p.1 + k) p.2 = 0)) (((0:Nat):α), (0:Int))
  simp only [Bool.and_eq_true, decide_eq_true_eq, ite_and] at h
  rw [ma_structured_spec sched hs, if_pos hk]
  simp only [maStructCell, ite_and]
  rw [h, foldl_sum_count, Int.zero_add]

/-- Matheron: `γ = Σ (Δf)² / (2 N)` (with the `max(N, 1)` guard against empty bins) -/
theorem matheron_real (v : ℝ) (c : Int) : normOf "m" v c = v / (2 * (max c 1 : Int)) := by
  unfold normOf normMatheron
  rw [if_pos (by decide), Nat.cast_ofNat]

theorem matheron_estimator_real (x : ℝ) : (choose_estimator_func "m" : ℝ → ℝ) x = x ^ 2 := by
  simp [choose_estimator_func, estimator_matheron]; ring

/-- Cressie–Hawkins: `γ = ½ (Σ |Δf|^½ / N)⁴ / (0.457 + 0.494/N + 0.045/N²)` -/
theorem cressie_real (v : ℝ) (c : Int) :
    normOf "c" v c = (1/2) * ((1 / ((max c 1 : Int) : ℝ)) * v) ^ 4 /
      (0.457 + 0.494 / ((max c 1 : Int) : ℝ) + 0.045 / (((max c 1 : Int) : ℝ)) ^ 2) := by
  unfold normOf normCressie
  rw [if_neg (by decide), npow_real, Nat.cast_one, Int.cast_pow, show (0.5:ℝ) = 1 / 2 by norm_num]

theorem cressie_estimator_real (x : ℝ) : (choose_estimator_func "c" : ℝ → ℝ) x = Real.sqrt |x| := by
  simp [choose_estimator_func, estimator_cressie]

end GSV.Props.C08

-- The kernel's distance over ℝ is used by the geometric part of C08 (C08Geo, C08Zero) and by C09 alike; it is stated here,
-- below both, under the name by which C09 is checked.
namespace GSV.Props.C09
open GSV.Transc GSV.Estimator Finset

/-- `dist_euclid` is the Euclidean distance -/
theorem dist_euclid_real (dim : Nat) (pos : Nat → Nat → ℝ) (p0 p1 i j : Nat) :
    dist_euclid dim pos p0 p1 i j = Real.sqrt (∑ d ∈ range dim, (pos d i - pos d j) ^ 2) := by
  unfold dist_euclid
  dsimp only
  rw [sqrt_real, forRange_proj (fun (s : dist_euclid.St ℝ) => s.dist_squared) _
    (fun d acc => acc + (pos d i - pos d j) * (pos d i - pos d j)) (fun _ _ => rfl), forRange_cast_zero_add_eq_sum]
  exact congrArg Real.sqrt (Finset.sum_congr rfl fun d _ => (sq _).symm)

end GSV.Props.C09
