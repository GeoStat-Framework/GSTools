/-
  C12 — functional drift terms (universal kriging) under the change of coordinates.  The kriging matrix uses
  `f_k(*cond_pos)` on the raw conditioning positions, the right-hand sides use `f_k(*model.anisometrize(iso_pos))`
  (`GSV/Model/Pipe.lean`: `driftMat`, `driftPos`, `driftRhs`): the drift functions always see raw positions, so
  universal kriging with `g` equals universal kriging of the isotropic unrotated model with `g ∘ anisometrize`; and the
  back-transformation cannot be skipped, neither for an anisotropic unrotated nor for a rotated isotropic model.
-/
import GSV.Props.C12Compose
namespace GSV.Props.C12
open GSV GSV.Model.Geo GSV.Lemmas.Geo GSV.Model.Pipe GSV.Model.Krige Matrix

/-- a family of drift functions of a `d`-dimensional position: reads the first `d` coordinates only -/
def DriftLocal (d : Nat) (g : Nat → (Nat → ℝ) → ℝ) : Prop := ∀ k u v, toV d u = toV d v → g k u = g k v

theorem toV_anisometrize_congr (d : Nat) (angles anis : List ℝ) (u v : Nat → ℝ) (h : toV d u = toV d v) :
    toV d (anisometrize d angles anis u) = toV d (anisometrize d angles anis v) := by
  simp only [anisometrize, toV_applyMat, h]

/-- the drift functions of the right-hand sides see the raw target positions: `anisometrize(pre_pos(pos))[:, p] = pos[:, p]`
    for every dimension, every angle list and every list of positive ratios -/
theorem driftPos_raw (d : Nat) (angles anis : List ℝ) (h : ∀ a ∈ anis, 0 < a) (tpos : Nat → Nat → ℝ) (p : Nat) :
    toV d (colOf (driftPos d angles anis tpos) p) = toV d (colOf tpos p) :=
  (iso_aniso_roundtrip d angles anis h (colOf tpos p)).1

/-- the drift rows of the right-hand sides are the drift functions' values at the raw target positions (drift
    functions that read the first `d` coordinates only, positive ratios) -/
theorem driftRhs_raw (d : Nat) (g : Nat → (Nat → ℝ) → ℝ) (hg : DriftLocal d g) (angles anis : List ℝ) (h : ∀ a ∈ anis, 0 < a)
    (tpos : Nat → Nat → ℝ) (k p : Nat) :
    driftRhs g d angles anis tpos k p = g k (colOf tpos p) :=
  hg k _ _ (driftPos_raw d angles anis h tpos p)

/-- the drift functions written in the isotropic coordinates: `g ∘ anisometrize` -/
noncomputable def driftInIso (d : Nat) (angles anis : List ℝ) (g : Nat → (Nat → ℝ) → ℝ) : Nat → (Nat → ℝ) → ℝ :=
  fun k y => g k (anisometrize d angles anis y)

theorem driftInIso_local (d : Nat) (angles anis : List ℝ) (g : Nat → (Nat → ℝ) → ℝ) (hg : DriftLocal d g) :
    DriftLocal d (driftInIso d angles anis g) :=
  fun k u v h => hg k _ _ (toV_anisometrize_congr d angles anis u v h)

/-- matrix side: the isotropic object's drift columns on `isometrize cpos` with `g ∘ anisometrize` are the anisotropic
    object's drift columns on `cpos` with `g` -/
theorem driftMat_iso (d : Nat) (g : Nat → (Nat → ℝ) → ℝ) (hg : DriftLocal d g) (angles anis : List ℝ) (h : ∀ a ∈ anis, 0 < a)
    (cpos : Nat → Nat → ℝ) :
    driftMat (driftInIso d angles anis g) (isoPos d angles anis cpos) = driftMat g cpos := by
  funext k i
  exact hg k _ _ (driftPos_raw d angles anis h cpos i)

/-- right-hand sides: the isotropic unrotated object at `isometrize tpos` with `g ∘ anisometrize` evaluates the same drift values -/
theorem driftRhs_iso (d : Nat) (g : Nat → (Nat → ℝ) → ℝ) (hg : DriftLocal d g) (angles anis : List ℝ) (h : ∀ a ∈ anis, 0 < a)
    (tpos : Nat → Nat → ℝ) :
    driftRhs (driftInIso d angles anis g) d ([] : List ℝ) [] (isoPos d angles anis tpos) = driftRhs g d angles anis tpos := by
  funext k p
  rw [driftRhs_raw d _ (driftInIso_local d angles anis g hg) [] [] (by simp) _ k p,
    driftRhs_raw d g hg angles anis h tpos k p]
  exact hg k _ _ (driftPos_raw d angles anis h tpos p)

/-- universal kriging (functional drift): the Krige object with drift functions `g` of a model
    with `(angles, anis)` on conditioning positions `cpos`, evaluated at `tpos`, and the Krige object of the isotropic
    unrotated model on `isometrize cpos` with the drift functions `g ∘ anisometrize`, evaluated at `isometrize tpos`, return
    the same estimate and the same kriging variance (each with its own inverse, chunk size and schedule).  No hypothesis on
    the angles: all zero, some zero, none zero alike; ratios positive (1 allowed). -/
theorem krige_drift_aniso_eq_iso (sched sched' : Sched) (hs : sched.Admissible) (hs' : sched'.Admissible)
    (L : Layout) (cov cf : ℝ → ℝ) (d : Nat) (angles anis : List ℝ) (ha : ∀ a ∈ anis, 0 < a) (cpos tpos : Nat → Nat → ℝ)
    (err : Nat → ℝ) (g : Nat → (Nat → ℝ) → ℝ) (hg : DriftLocal d g) (E e : Nat → Nat → ℝ) (M M' : Nat → Nat → ℝ)
    (hM : C05.toMat L.size M * C05.toMat L.size (krigeDriftMatAt L cov d angles anis cpos err g E) = 1)
    (hM' : C05.toMat L.size M' * C05.toMat L.size
      (krigeDriftMatAt L cov d ([] : List ℝ) [] (isoPos d angles anis cpos) err (driftInIso d angles anis g) E) = 1)
    (cond : Nat → ℝ) (sill : ℝ) (pnt cs cs' : Nat) (hcs : 0 < cs) (hcs' : 0 < cs') (p : Nat) (hp : p < pnt) :
    (krigeDriftAt sched L cf d angles anis cpos tpos g e M cond sill pnt cs).1 p =
      (krigeDriftAt sched' L cf d ([] : List ℝ) [] (isoPos d angles anis cpos) (isoPos d angles anis tpos)
        (driftInIso d angles anis g) e M' cond sill pnt cs').1 p ∧
    (krigeDriftAt sched L cf d angles anis cpos tpos g e M cond sill pnt cs).2 p =
      (krigeDriftAt sched' L cf d ([] : List ℝ) [] (isoPos d angles anis cpos) (isoPos d angles anis tpos)
        (driftInIso d angles anis g) e M' cond sill pnt cs').2 p := by
  unfold krigeDriftMatAt at hM hM'
  rw [driftMat_iso d g hg angles anis ha cpos] at hM'
  unfold krigeDriftAt
  rw [driftRhs_iso d g hg angles anis ha tpos]
  exact krige_aniso_eq_iso sched sched' hs hs' L cov cf d angles anis cpos tpos err (driftMat g cpos) E
    (driftRhs g d angles anis tpos) e M M' hM hM' cond sill pnt cs cs' hcs hcs' p hp


/-! ## the back-transformation cannot be skipped

The isometrized position differs from the raw one as soon as one ratio differs from 1 (whatever the angles, also all zero), and,
for a model without ratios, as soon as the rotation matrix is not the identity. -/

/-- anisotropy alone moves positions: if the ratio of main axis `i` is not 1, the unit vector along that axis is not
    a fixed point of `isometrize` — for every angle list, in particular `angles = 0` -/
theorem isometrize_moves_main_axis (d : Nat) (angles anis : List ℝ) (h : ∀ a ∈ anis, 0 < a) (i : Fin d)
    (hi : stretch d anis i ≠ 1) :
    toV d (isometrize d angles anis (fun k => 1 * mainAxes d angles i k)) ≠ toV d (fun k => 1 * mainAxes d angles i k) := by
  intro heq
  have h1 := main_axis_scale d angles anis h i 1
  rw [← stretch_eq_getElem, isoRad, norm2_eq, heq] at h1
  have hax : toV d (fun k => 1 * mainAxes d angles i k) = toV d (mainAxes d angles i) := funext fun _ => one_mul _
  rw [hax, main_axes_orthonormal d angles i i] at h1
  simp only [if_true, Real.sqrt_one, abs_one] at h1
  rw [eq_comm, one_div, inv_eq_one] at h1
  exact hi h1

/-- if the ratio of some main axis is not 1 (any angles), there are a position `x` and a coordinate `k` with
    `isometrize(x)_k ≠ x_k`: the coordinate function `x ↦ x_k`, taken as a linear drift, differs between the isometrized and
    the raw position -/
theorem drift_at_isometrized_pos_differs (d : Nat) (angles anis : List ℝ) (h : ∀ a ∈ anis, 0 < a) (i : Fin d)
    (hi : stretch d anis i ≠ 1) :
    ∃ (x : Nat → ℝ) (k : Fin d), isometrize d angles anis x k ≠ x k := by
  refine ⟨fun k => 1 * mainAxes d angles i k, ?_⟩
  have hne := isometrize_moves_main_axis d angles anis h i hi
  by_contra hall
  push Not at hall
  exact hne (funext fun k => hall k)

/-- rotation alone moves positions: without ratios (`anis = []`) there are a position `x` and a coordinate `k` with
    `isometrize(x)_k ≠ x_k` as soon as the rotation matrix is not the identity -/
theorem drift_at_rotated_pos_differs (d : Nat) (angles : List ℝ) (hR : toM d (matrixRotate d angles) ≠ 1) :
    ∃ (x : Nat → ℝ) (k : Fin d), isometrize d angles [] x k ≠ x k := by
  by_contra hall
  push Not at hall
  apply hR
  -- `Rᵀ` fixes every vector
  have hT : (toM d (matrixRotate d angles))ᵀ = 1 := by
    rw [Matrix.ext_iff_mulVec]
    intro v
    obtain ⟨x, rfl⟩ := toV_surjective d v
    rw [← isometrize_without_anis, ← toV_applyMat, Matrix.one_mulVec]
    exact funext fun k => hall x k
  rw [← Matrix.transpose_transpose (toM d (matrixRotate d angles)), hT, Matrix.transpose_one]

/-- a 2-D rotation by an angle with `sin a ≠ 0` is not the identity: the hypothesis of `drift_at_rotated_pos_differs` is met by every
    2-D model with such an angle and ratio 1 -/
example (a : ℝ) (ha : Real.sin a ≠ 0) : toM 2 (matrixRotate 2 [a]) ≠ 1 := by
  rw [rot2d_ccw]
  intro h
  have := congrFun (congrFun h 1) 0
  simp at this
  exact ha this

/-- `anis = [2]` in 2-D: the second main axis has ratio 2 ≠ 1 — the hypothesis of `drift_at_isometrized_pos_differs` is met with all angles 0 -/
example : stretch 2 [2] (1 : Fin 2) ≠ 1 := by
  simp [stretch, setAnis]

/-- linear drift `g_k(x) = x_k` is local -/
example : DriftLocal 3 (fun k x => if k < 3 then x k else 0) := by
  intro k u v h
  by_cases hk : k < 3
  · simp only [hk, if_true]
    exact congrFun h ⟨k, hk⟩
  · simp [hk]

end GSV.Props.C12
