/-
  C13 — geographic and spatio-temporal coordinates are consistent across modules.

  The statements are about the executable model `GSV.Model.LatLon` (tied to gstools by differential
  execution) and about the *generated* haversine kernel `GSV.Estimator.dist_haversine`, instantiated at ℝ;
  `bins_in_geo_scale` and `orthogonal_is_isometry` are real arithmetic / linear algebra without a model term.
  Angles are in degrees on the lat-lon side, `R` is `geo_scale`.
-/
import GSV.Lemmas.LatLon
namespace GSV.Props.C13
open GSV GSV.Model.LatLon
open scoped Real

/-! ### positions lie on the sphere of radius `geo_scale` -/

/-- `‖latlon2pos R lat lon‖² = R²` for every latitude / longitude (no range restriction) -/
theorem on_sphere_sq (R lat lon : ℝ) : P3.normSq (latlon2pos R lat lon) = R * R := by
  rw [latlon2pos_real]
  simp only [P3.normSq]
  linear_combination (R * R * Real.cos (deg2rad lat) ^ 2) * Real.sin_sq_add_cos_sq (deg2rad lon)
    + (R * R) * Real.sin_sq_add_cos_sq (deg2rad lat)

/-- `‖latlon2pos R lat lon‖ = R` for `R = geo_scale ≥ 0` -/
theorem on_sphere {R : ℝ} (hR : 0 ≤ R) (lat lon : ℝ) :
    Real.sqrt (P3.normSq (latlon2pos R lat lon)) = R := by
  rw [on_sphere_sq, Real.sqrt_mul_self hR]

example : (0:ℝ) ≤ 6371 := by norm_num

/-! ### chord ↔ haversine -/

/-- key identity: `‖p₁ − p₂‖² = 4R²·a`, `a` the argument of the haversine formula -/
theorem chord_is_haversine (R lat1 lon1 lat2 lon2 : ℝ) :
    P3.normSq (P3.sub (latlon2pos R lat1 lon1) (latlon2pos R lat2 lon2))
      = 4 * (R * R) * havArg lat1 lon1 lat2 lon2 := by
  simp only [latlon2pos_real, havArg, P3.sub, P3.normSq, deg2rad_sub, sin_real, cos_real, Nat.cast_ofNat, sin_half_sq,
    Real.cos_sub]
  generalize deg2rad lat1 = a1, deg2rad lat2 = a2, deg2rad lon1 = b1, deg2rad lon2 = b2
  linear_combination (R * R * Real.cos a1 ^ 2) * Real.sin_sq_add_cos_sq b1
    + (R * R * Real.cos a2 ^ 2) * Real.sin_sq_add_cos_sq b2
    + (R * R) * Real.sin_sq_add_cos_sq a1 + (R * R) * Real.sin_sq_add_cos_sq a2

/-- `0 ≤ a ≤ 1` for all inputs (also for latitudes outside [−90, 90]) -/
theorem havArg_mem (lat1 lon1 lat2 lon2 : ℝ) :
    0 ≤ havArg lat1 lon1 lat2 lon2 ∧ havArg lat1 lon1 lat2 lon2 ≤ 1 := by
  -- on the unit sphere `4a` is a squared chord, and no chord is longer than the diameter
  have h := chord_is_haversine 1 lat1 lon1 lat2 lon2
  have h0 := P3.normSq_nonneg (P3.sub (latlon2pos 1 lat1 lon1) (latlon2pos 1 lat2 lon2))
  have h1 := P3.normSq_sub_le (latlon2pos 1 lat1 lon1) (latlon2pos 1 lat2 lon2)
  rw [on_sphere_sq, on_sphere_sq] at h1
  constructor <;> linarith

/-- the generated kernel `dist_haversine` on any position array and index pair is the great-circle angle of
    the two points (rows 0 / 1 = latitude / longitude in degrees) -/
theorem dist_haversine_is_angle (dim : ℕ) (pos : ℕ → ℕ → ℝ) (s0 s1 i j : ℕ) :
    Estimator.dist_haversine dim pos s0 s1 i j
      = 2 * Real.arcsin (Real.sqrt (havArg (pos 0 i) (pos 1 i) (pos 0 j) (pos 1 j))) := by
  obtain ⟨h0, h1⟩ := havArg_mem (pos 0 i) (pos 1 i) (pos 0 j) (pos 1 j)
  rw [dist_haversine_eq, arg_unit h0 h1]

/-- the generated estimator kernel returns the great-circle angle `2·arcsin √a` -/
theorem haversine_is_angle (lat1 lon1 lat2 lon2 : ℝ) :
    haversine lat1 lon1 lat2 lon2 = 2 * Real.arcsin (Real.sqrt (havArg lat1 lon1 lat2 lon2)) :=
  dist_haversine_is_angle 2 _ 2 2 0 1

/-- the estimator's distances lie in `[0, π]` -/
theorem haversine_range (lat1 lon1 lat2 lon2 : ℝ) :
    0 ≤ haversine lat1 lon1 lat2 lon2 ∧ haversine lat1 lon1 lat2 lon2 ≤ π := by
  rw [haversine_is_angle]
  exact ⟨mul_nonneg zero_le_two (Real.arcsin_nonneg.mpr (Real.sqrt_nonneg _)),
    (le_div_iff₀' (two_pos (α := ℝ))).1 (Real.arcsin_le_pi_div_two _)⟩

/-- the chordal distance the models use is `2R·√a` -/
theorem chord_eq {R : ℝ} (hR : 0 ≤ R) (lat1 lon1 lat2 lon2 : ℝ) :
    chord (latlon2pos R lat1 lon1) (latlon2pos R lat2 lon2)
      = 2 * R * Real.sqrt (havArg lat1 lon1 lat2 lon2) := by
  rw [chord, sqrt_real, chord_is_haversine, show 4 * (R * R) = (2 * R) * (2 * R) by ring, Real.sqrt_mul (mul_self_nonneg _), Real.sqrt_mul_self (mul_nonneg zero_le_two hR)]

/-! ### chordal ↔ great-circle conversions -/

/-- great-circle → chordal → great-circle is the identity on `[0, πR]` -/
theorem chordal_great_circle_inverse {R d : ℝ} (hR : 0 < R) (h0 : 0 ≤ d) (h1 : d ≤ π * R) :
    chordal_to_great_circle R (great_circle_to_chordal R d) = d := by
  have h2R : 0 < 2 * R := mul_pos two_pos hR
  have hx0 : 0 ≤ d / (2 * R) := div_nonneg h0 h2R.le
  have hx1 : d / (2 * R) ≤ π / 2 := (div_le_iff₀ h2R).2 (h1.trans_eq (by ring))
  rw [c2g_real, g2c_real, mul_div_cancel_left₀ _ h2R.ne',
    clip_of_mem (Real.sin_nonneg_of_nonneg_of_le_pi hx0 (hx1.trans (half_le_self Real.pi_pos.le))) (Real.sin_le_one _),
    Real.arcsin_sin ((neg_nonpos.2 Real.pi_div_two_pos.le).trans hx0) hx1, mul_div_cancel₀ d h2R.ne']

/-- chordal → great-circle → chordal is the identity on `[0, 2R]` -/
theorem great_circle_chordal_inverse {R c : ℝ} (hR : 0 < R) (h0 : 0 ≤ c) (h1 : c ≤ 2 * R) :
    great_circle_to_chordal R (chordal_to_great_circle R c) = c := by
  have h2R : 0 < 2 * R := mul_pos two_pos hR
  have hx0 : 0 ≤ c / (2 * R) := div_nonneg h0 h2R.le
  have hx1 : c / (2 * R) ≤ 1 := (div_le_one h2R).2 h1
  rw [g2c_real, c2g_real, clip_of_mem hx0 hx1, mul_div_cancel_left₀ _ h2R.ne',
    Real.sin_arcsin (neg_one_lt_zero.le.trans hx0) hx1, mul_div_cancel₀ c h2R.ne']

example : (0:ℝ) < 6371 ∧ (0:ℝ) ≤ 1000 ∧ (1000:ℝ) ≤ π * 6371 := by
  refine ⟨by norm_num, by norm_num, ?_⟩
  linarith [Real.two_le_pi]

/-- `chordal_to_great_circle` takes values in `[0, πR]` for every argument: a great-circle distance never
    exceeds half the circumference -/
theorem c2g_range {R : ℝ} (hR : 0 ≤ R) (d : ℝ) :
    0 ≤ chordal_to_great_circle R d ∧ chordal_to_great_circle R d ≤ π * R := by
  rw [c2g_real]
  have h2R : 0 ≤ 2 * R := mul_nonneg zero_le_two hR
  exact ⟨mul_nonneg h2R (Real.arcsin_nonneg.mpr (clip_mem zero_le_one _).1),
    (mul_le_mul_of_nonneg_left (Real.arcsin_le_pi_div_two _) h2R).trans_eq (by ring)⟩

/-- a third of a great-circle distance (the automatic cut-off of `standard_bins`) -/
theorem c2g_third_range {R : ℝ} (hR : 0 ≤ R) {D : ℝ} :
    0 ≤ chordal_to_great_circle R D / ((3:ℕ):ℝ) ∧ chordal_to_great_circle R D / ((3:ℕ):ℝ) ≤ π * R / 3 := by
  obtain ⟨h0, h1⟩ := c2g_range hR D
  rw [Nat.cast_ofNat]
  exact ⟨div_nonneg h0 zero_le_three, div_le_div_of_nonneg_right h1 zero_le_three⟩

/-! ### the covariance between two lat-lon points is the Yadrenko covariance of their great-circle distance -/

/-- the chord the models use is the chord of the estimator's great-circle distance `R · haversine` -/
theorem chord_of_haversine {R : ℝ} (hR : 0 < R) (lat1 lon1 lat2 lon2 : ℝ) :
    chord (latlon2pos R lat1 lon1) (latlon2pos R lat2 lon2)
      = great_circle_to_chordal R (R * haversine lat1 lon1 lat2 lon2) := by
  have h2R : 2 * R ≠ 0 := (mul_pos two_pos hR).ne'
  rw [chord_eq hR.le, g2c_real, haversine_is_angle, ← mul_assoc, mul_comm R 2, mul_div_cancel_left₀ _ h2R,
    Real.sin_arcsin (neg_one_lt_zero.le.trans (Real.sqrt_nonneg _))
      (Real.sqrt_le_one.mpr (havArg_mem lat1 lon1 lat2 lon2).2)]

/-- the estimator's great-circle distance `R · haversine` is the great-circle distance of the models' chord -/
theorem haversine_of_chord {R : ℝ} (hR : 0 < R) (lat1 lon1 lat2 lon2 : ℝ) :
    R * haversine lat1 lon1 lat2 lon2
      = chordal_to_great_circle R (chord (latlon2pos R lat1 lon1) (latlon2pos R lat2 lon2)) := by
  obtain ⟨hr0, hr1⟩ := haversine_range lat1 lon1 lat2 lon2
  rw [chord_of_haversine hR, chordal_great_circle_inverse hR (mul_nonneg hR.le hr0)
    ((mul_comm R _).trans_le (mul_le_mul_of_nonneg_right hr1 hR.le))]

/-- every entry of the covariance block of the kriging matrix of lat-lon data is the Yadrenko covariance
    of the great-circle distance (in `geo_scale` units) that the variogram estimator measures -/
theorem krige_entry_is_yadrenko (cov : ℝ → ℝ) {R : ℝ} (hR : 0 < R) (lat lon : ℕ → ℝ) (i j : ℕ) :
    krigeEntry cov R lat lon i j = cov_yadrenko cov R (R * haversine (lat i) (lon i) (lat j) (lon j)) := by
  unfold krigeEntry cov_yadrenko
  rw [chord_of_haversine hR]

/-- every entry of the right-hand side `krigeRhs` is the Yadrenko covariance of the great-circle distance between
    the conditioning point and the target -/
theorem krige_rhs_is_yadrenko (cov : ℝ → ℝ) {R : ℝ} (hR : 0 < R) (lat lon : ℕ → ℝ) (tlat tlon : ℝ) (i : ℕ) :
    krigeRhs cov R lat lon tlat tlon i = cov_yadrenko cov R (R * haversine (lat i) (lon i) tlat tlon) := by
  unfold krigeRhs cov_yadrenko
  rw [chord_of_haversine hR]

/-- `fit_variogram` evaluates the model at the chord of the (great-circle) lag: a bin whose lag is the
    estimator distance of a pair is fitted at exactly that pair's chordal distance -/
theorem fit_uses_chord {R : ℝ} (hR : 0 < R) (lat1 lon1 lat2 lon2 : ℝ) :
    fitLag true R (R * haversine lat1 lon1 lat2 lon2)
      = chord (latlon2pos R lat1 lon1) (latlon2pos R lat2 lon2) := by
  simp only [fitLag, if_true]
  exact (chord_of_haversine hR ..).symm

/-! ### converting to 3-D and back -/

/-- latitude survives latlon → 3-D → latlon on the whole closed range, poles included, for every longitude -/
theorem latlon_roundtrip_lat {R : ℝ} (hR : 0 < R) {lat : ℝ} (h1 : -90 ≤ lat) (h2 : lat ≤ 90) (lon : ℝ) :
    (pos2latlon R (latlon2pos R lat lon)).1 = lat := by
  rw [pos2latlon_real, latlon2pos_real]
  simp only
  rw [mul_one, mul_div_cancel_left₀ _ hR.ne', clip_of_mem (Real.neg_one_le_sin _) (Real.sin_le_one _)]
  have l1 : -(π / 2) ≤ deg2rad lat := deg2rad_neg90.symm.trans_le (deg2rad_le h1)
  have l2 : deg2rad lat ≤ π / 2 := (deg2rad_le h2).trans_eq deg2rad_90
  rw [Real.arcsin_sin l1 l2, rad2deg_deg2rad]

/-- longitude survives away from the poles for `lon ∈ (−180, 180]` -/
theorem latlon_roundtrip_lon {R : ℝ} (hR : 0 < R) {lat lon : ℝ} (h1 : -90 < lat) (h2 : lat < 90)
    (h3 : -180 < lon) (h4 : lon ≤ 180) :
    (pos2latlon R (latlon2pos R lat lon)).2 = lon := by
  rw [pos2latlon_real, latlon2pos_real]
  simp only
  have l1 : -(π / 2) < deg2rad lat := deg2rad_neg90.symm.trans_lt (deg2rad_lt h1)
  have l2 : deg2rad lat < π / 2 := (deg2rad_lt h2).trans_eq deg2rad_90
  have hc : 0 < Real.cos (deg2rad lat) := Real.cos_pos_of_mem_Ioo ⟨l1, l2⟩
  have m1 : -π < deg2rad lon := deg2rad_neg180.symm.trans_lt (deg2rad_lt h3)
  have m2 : deg2rad lon ≤ π := (deg2rad_le h4).trans_eq deg2rad_180
  rw [arg_polar (mul_pos hR hc) m1 m2, rad2deg_deg2rad]

/-- longitudes are only meaningful modulo 360 -/
theorem latlon2pos_periodic (R lat lon : ℝ) (k : ℤ) :
    latlon2pos R lat (lon + 360 * (k : ℝ)) = latlon2pos R lat lon := by
  rw [latlon2pos_real, latlon2pos_real, deg2rad_add, deg2rad_360_mul,
    Real.cos_add_int_mul_two_pi, Real.sin_add_int_mul_two_pi]

/-- the round trip away from the poles: any longitude comes back as its representative in `(−180, 180]` -/
theorem latlon_roundtrip {R : ℝ} (hR : 0 < R) {lat lon : ℝ} (h1 : -90 < lat) (h2 : lat < 90)
    (h3 : -180 < lon) (h4 : lon ≤ 180) (k : ℤ) :
    pos2latlon R (latlon2pos R lat (lon + 360 * (k : ℝ))) = (lat, lon) := by
  rw [latlon2pos_periodic]
  exact Prod.ext (latlon_roundtrip_lat hR h1.le h2.le lon) (latlon_roundtrip_lon hR h1 h2 h3 h4)

example : (0:ℝ) < 6371 ∧ (-90:ℝ) < 45 ∧ (45:ℝ) < 90 ∧ (-180:ℝ) < 180 ∧ (180:ℝ) ≤ 180 := by norm_num

/-- where `cos(lat) = 0` the point lies on the polar axis whatever the longitude, and `atan2(0, 0) = 0` comes back -/
theorem lon_lost_of_cos_eq_zero {R lon lat : ℝ} (h : Real.cos (deg2rad lat) = 0) :
    (pos2latlon R (latlon2pos R lat lon)).2 = 0 := by
  rw [pos2latlon_real, latlon2pos_real]
  simp only [h, mul_zero, zero_mul]
  rw [show (⟨0, 0⟩ : ℂ) = 0 from rfl, Complex.arg_zero, rad2deg, zero_mul]

/-- what is lost at the poles (over ℝ): the longitude comes back as 0 -/
theorem pole_longitude_lost (R lon : ℝ) :
    (pos2latlon R (latlon2pos R 90 lon)).2 = 0 ∧ (pos2latlon R (latlon2pos R (-90) lon)).2 = 0 :=
  ⟨lon_lost_of_cos_eq_zero (by rw [deg2rad_90, Real.cos_pi_div_two]),
    lon_lost_of_cos_eq_zero (by rw [deg2rad_neg90, Real.cos_neg, Real.cos_pi_div_two])⟩

/-- 3-D → latlon → 3-D is the identity on the whole sphere (poles and date line included) -/
theorem pos_roundtrip {R : ℝ} (hR : 0 < R) (p : P3 ℝ) (hp : P3.normSq p = R * R) :
    latlon2pos R (pos2latlon R p).1 (pos2latlon R p).2 = p := by
  obtain ⟨x, y, z⟩ := p
  simp only [P3.normSq] at hp
  obtain ⟨hz1, hz2⟩ : -1 ≤ z / R ∧ z / R ≤ 1 := by
    rw [← abs_le, abs_le_one_iff_mul_self_le_one, div_mul_div_comm, div_le_one (mul_pos hR hR), ← hp]
    exact le_add_of_nonneg_left (add_nonneg (mul_self_nonneg x) (mul_self_nonneg y))
  -- `R cos(lat)` is the length of the projection `(x, y)`, whose polar angle is `lon`
  have hn : R * Real.sqrt (1 - (z / R) ^ 2) = ‖(⟨x, y⟩ : ℂ)‖ := by
    have e : x * x + y * y = R * R * (1 - z / R * (z / R)) := by
      rw [mul_sub, mul_one, mul_mul_mul_comm, mul_div_cancel₀ z hR.ne', ← hp, add_sub_cancel_right]
    rw [Complex.norm_def, Complex.normSq_mk, sq, e, Real.sqrt_mul (mul_self_nonneg R), Real.sqrt_mul_self hR.le]
  rw [pos2latlon_real, latlon2pos_real]
  simp only [deg2rad_rad2deg]
  rw [clip_of_mem hz1 hz2, Real.sin_arcsin hz1 hz2, Real.cos_arcsin,
    hn, Complex.norm_mul_cos_arg, Complex.norm_mul_sin_arg, mul_one, mul_div_cancel₀ z hR.ne']

example : P3.normSq (⟨0, 0, -2⟩ : P3 ℝ) = 2 * 2 := by simp [P3.normSq]

/-! ### time axis of lat-lon + temporal models -/

/-- constructor rule: spatial ratios forced to 1, the time ratio is kept -/
theorem latlon_temporal_anis (a b c : ℝ) : modelAnis true [a, b, c] = [1, 1, c] := by
  simp only [modelAnis, if_true, List.zipIdx_cons, List.zipIdx_nil, List.map_cons, List.map_nil, Nat.cast_one]
  rfl

/-- the time axis is appended and divided by the last anisotropy ratio only; the spatial part is the sphere
    point and depends neither on the time nor on the spatial ratios given by the user -/
theorem time_axis_latlon (R a b c lat lon t : ℝ) :
    isometrizeLL R true (modelAnis true [a, b, c]) lat lon t
      = (latlon2pos R lat lon).toList ++ [t / c] := by
  rw [latlon_temporal_anis]
  rfl

/-- `anisometrize` of a lat-lon + temporal model multiplies the time coordinate by the last ratio again -/
theorem time_axis_roundtrip (R a b c : ℝ) (hc : c ≠ 0) (p : P3 ℝ) (t : ℝ) :
    anisometrizeLL R true (modelAnis true [a, b, c]) p (t / c)
      = [(pos2latlon R p).1, (pos2latlon R p).2, t] := by
  rw [latlon_temporal_anis]
  simp only [anisometrizeLL, pos2latlonT, lastAnis, if_true, List.getLastD_cons, List.getLastD_nil, div_mul_cancel₀ t hc]

/-! ### kriging of lat-lon data is invariant under rotations of the sphere -/

/-- the covariance block of the kriging matrix depends on the chordal distances only: any distance-preserving
    map `Q` of 3-space (in particular every rotation of the sphere) applied to all points leaves it unchanged -/
theorem sphere_rotation_invariant (cov : ℝ → ℝ) (R : ℝ) (Q : P3 ℝ → P3 ℝ)
    (hQ : ∀ p q, P3.normSq (P3.sub (Q p) (Q q)) = P3.normSq (P3.sub p q))
    (lat lon lat' lon' : ℕ → ℝ)
    (h : ∀ i, latlon2pos R (lat' i) (lon' i) = Q (latlon2pos R (lat i) (lon i))) (i j : ℕ) :
    krigeEntry cov R lat' lon' i j = krigeEntry cov R lat lon i j := by
  simp only [krigeEntry, chord, h, hQ]

/-- a distance-preserving map applied to all points and to the target leaves the right-hand side unchanged -/
theorem sphere_rotation_invariant_rhs (cov : ℝ → ℝ) (R : ℝ) (Q : P3 ℝ → P3 ℝ)
    (hQ : ∀ p q, P3.normSq (P3.sub (Q p) (Q q)) = P3.normSq (P3.sub p q))
    (lat lon lat' lon' : ℕ → ℝ) (tlat tlon tlat' tlon' : ℝ)
    (h : ∀ i, latlon2pos R (lat' i) (lon' i) = Q (latlon2pos R (lat i) (lon i)))
    (ht : latlon2pos R tlat' tlon' = Q (latlon2pos R tlat tlon)) (i : ℕ) :
    krigeRhs cov R lat' lon' tlat' tlon' i = krigeRhs cov R lat lon tlat tlon i := by
  simp only [krigeRhs, chord, h, ht, hQ]

/-- any function `F` of the covariance block and the right-hand side takes the same value when all points and
    targets are moved by a distance-preserving map -/
theorem krige_result_rotation_invariant {β : Type} (F : (ℕ → ℕ → ℝ) → (ℕ → ℝ) → β)
    (cov : ℝ → ℝ) (R : ℝ) (Q : P3 ℝ → P3 ℝ)
    (hQ : ∀ p q, P3.normSq (P3.sub (Q p) (Q q)) = P3.normSq (P3.sub p q))
    (lat lon lat' lon' : ℕ → ℝ) (tlat tlon tlat' tlon' : ℝ)
    (h : ∀ i, latlon2pos R (lat' i) (lon' i) = Q (latlon2pos R (lat i) (lon i)))
    (ht : latlon2pos R tlat' tlon' = Q (latlon2pos R tlat tlon)) :
    F (krigeEntry cov R lat' lon') (krigeRhs cov R lat' lon' tlat' tlon')
      = F (krigeEntry cov R lat lon) (krigeRhs cov R lat lon tlat tlon) :=
  congrArg₂ F (funext₂ (sphere_rotation_invariant cov R Q hQ lat lon lat' lon' h))
    (funext (sphere_rotation_invariant_rhs cov R Q hQ lat lon lat' lon' tlat tlon tlat' tlon' h ht))

/-- every matrix with orthonormal columns (`QᵀQ = 1`: rotations and reflections) preserves distances, so it
    qualifies as `Q` in `sphere_rotation_invariant` -/
theorem orthogonal_is_isometry {c1 c2 c3 : P3 ℝ} (h : Orthonormal3 c1 c2 c3) (p q : P3 ℝ) :
    P3.normSq (P3.sub (linMap c1 c2 c3 p) (linMap c1 c2 c3 q)) = P3.normSq (P3.sub p q) := by
  rw [linMap_sub, normSq_linMap h]

/-- concrete instance (hypotheses satisfiable by a non-trivial rotation): shifting every longitude by the same
    `δ` degrees — across the date line or by several turns — changes neither the matrix nor the right-hand side -/
theorem krige_lon_shift_invariant (cov : ℝ → ℝ) (R δ : ℝ) (lat lon : ℕ → ℝ) (tlat tlon : ℝ) (i j : ℕ) :
    krigeEntry cov R lat (fun k => lon k + δ) i j = krigeEntry cov R lat lon i j ∧
    krigeRhs cov R lat (fun k => lon k + δ) tlat (tlon + δ) i = krigeRhs cov R lat lon tlat tlon i := by
  constructor
  · exact sphere_rotation_invariant cov R _ (orthogonal_is_isometry (rotZ_orthonormal δ)) lat lon lat _
      (fun _ => latlon2pos_lon_shift) i j
  · exact sphere_rotation_invariant_rhs cov R _ (orthogonal_is_isometry (rotZ_orthonormal δ)) lat lon lat _ tlat tlon tlat _
      (fun _ => latlon2pos_lon_shift) latlon2pos_lon_shift i

/-! ### metric spatio-temporal models: the time axis is scaled by the last ratio only and never rotated into space

`m` is the spatial dimension, the model dimension is `m + 1`, axis `m` is time; `angles` is the full angle list
the user gave (`no_of_angles(m+1)` entries; only `noa m ≤ angles.length` is needed), `modelAngles false true`
is the rule of `set_model_angles`. -/

/-- the time row of the isometrize matrix is `(0, …, 0, 1/a)`, `a` the ratio at index `m - 1` (`anis[-1]` when
    `anis` has `m` entries; `1` when it is shorter) -/
theorem time_axis_row {m : ℕ} (hm : 1 ≤ m) (angles anis : List ℝ) (hlen : noa m ≤ angles.length) {j : ℕ} (hj : j ≤ m) :
    matIsometrize (m + 1) (modelAngles false true (m + 1) angles) anis m j
      = if j = m then 1 / anis.getD (m - 1) 1 else 0 := by
  rw [matIsometrize_apply (Nat.lt_succ_self m), (timeFixed_derotate hlen).1 j hj, isotropify_real,
    if_pos rfl, if_neg (Nat.ne_of_gt hm), mul_ite, mul_one, mul_zero]

/-- no spatial coordinate of the isometrized point depends on time -/
theorem time_axis_col {m : ℕ} (angles anis : List ℝ) (hlen : noa m ≤ angles.length) {i : ℕ} (hi : i < m) :
    matIsometrize (m + 1) (modelAngles false true (m + 1) angles) anis i m = 0 := by
  rw [matIsometrize_apply (Nat.lt_succ_of_lt hi), (timeFixed_derotate hlen).2 i hi.le, if_neg hi.ne, mul_zero]

/-- the spatial block is the isometrize matrix of the purely spatial `m`-dimensional model with the same
    leading angles and ratios -/
theorem time_axis_block {m : ℕ} (angles anis : List ℝ) (hlen : noa m ≤ angles.length) {i j : ℕ} (hi : i < m) (hj : j < m) :
    matIsometrize (m + 1) (modelAngles false true (m + 1) angles) anis i j
      = matIsometrize m (angles.take (noa m)) anis i j := by
  rw [matIsometrize_apply (Nat.lt_succ_of_lt hi), matIsometrize_apply hi, agree_derotate hlen i j hi hj]

/-- `isometrize` of a spatio-temporal point: the time coordinate is `t` divided by the ratio at index `m - 1` -/
theorem time_axis_metric_time {m : ℕ} (hm : 1 ≤ m) (angles anis : List ℝ) (hlen : noa m ≤ angles.length) (x : ℕ → ℝ) :
    isometrizeMetric true (m + 1) angles anis x m = x m / anis.getD (m - 1) 1 := by
  unfold isometrizeMetric
  rw [applyMat_last_row (fun j hj => time_axis_row hm angles anis hlen hj), one_div_mul_eq_div]

/-- the spatial coordinates of an isometrized spatio-temporal point are those of the purely spatial model applied
    to the spatial part: they depend neither on the time nor on the time ratio -/
theorem time_axis_metric_space {m : ℕ} (angles anis : List ℝ) (hlen : noa m ≤ angles.length) (x : ℕ → ℝ)
    {i : ℕ} (hi : i < m) :
    isometrizeMetric true (m + 1) angles anis x i
      = applyMat m (matIsometrize m (angles.take (noa m)) anis) x i :=
  applyMat_block (time_axis_col angles anis hlen hi) (fun _ hj => time_axis_block angles anis hlen hi hj) x

example : (1:ℕ) ≤ 2 ∧ noa 2 ≤ ([0.3, 0.7, -1.2] : List ℝ).length := by decide

/-! ### bins in `geo_scale` units, `standard_bins` -/

/-- the arithmetic behind `vario_estimate` dividing the bin edges by `geo_scale`: an angle `θ` lies in
    `[b/R, b'/R)` iff the great-circle distance `R·θ` lies in `[b, b')` -/
theorem bins_in_geo_scale {R : ℝ} (hR : 0 < R) (θ b b' : ℝ) :
    (¬ (θ < b / R ∨ θ ≥ b' / R)) ↔ (b ≤ R * θ ∧ R * θ < b') := by
  rw [not_or, not_lt, not_le, div_le_iff₀ hR, lt_div_iff₀ hR, mul_comm θ R]

/-- the largest edge of the lat-lon `standard_bins` is a great-circle distance of at most a third of half the
    circumference -/
theorem std_bins_range {R : ℝ} (hR : 0 ≤ R) (lats lons : List ℝ) :
    0 ≤ stdMaxDist R lats lons ∧ stdMaxDist R lats lons ≤ π * R / 3 :=
  c2g_third_range hR

/-! ### `standard_bins` with `bin_no` / `max_dist` given or not: every length is in `geo_scale` units -/

/-- a cut-off the caller gives is used as it is — for metric and lat-lon input, for every `geo_scale`, whether or not
    `bin_no` is given: the edges are `linspace(0, max_dist, n + 1)` with `n = bin_no` or Sturges' number -/
theorem standard_bins_given_max_dist (latlon : Bool) (R : ℝ) (axes : List (List ℝ)) (binNo : Option ℕ) (m : ℝ) :
    standardBins latlon R (some axes) binNo (some m)
      = .ok (linspace0 m (binNo.getD (sturges (axes.headD []).length))) := by
  cases binNo <;> rfl

/-- with `bin_no` and `max_dist` both given, `standard_bins` does not look at the position tuple (it may be absent) -/
theorem standard_bins_both_given (latlon : Bool) (R : ℝ) (pos : Option (List (List ℝ))) (n : ℕ) (m : ℝ) :
    standardBins latlon R pos (some n) (some m) = .ok (linspace0 m n) := rfl

/-- the edges start at 0, end exactly at the cut-off and there are `n + 1` of them -/
theorem linspace0_ends (m : ℝ) {n : ℕ} (hn : 0 < n) :
    (linspace0 m n).length = n + 1 ∧ (linspace0 m n).head? = some 0 ∧ (linspace0 m n).getLast? = some m := by
  rw [linspace0, if_neg hn.ne']
  refine ⟨by rw [List.length_map, List.length_range], ?_, ?_⟩
  · rw [List.range_succ_eq_map, List.map_cons, List.head?_cons, if_neg hn.ne, Nat.cast_zero, zero_mul]
  · rw [List.range_succ, List.map_append, List.getLast?_append, List.map_singleton, List.getLast?_singleton, if_pos rfl]
    rfl

/-- without a given cut-off the lat-lon edges end at a third of a great-circle distance on the sphere of radius
    `geo_scale`: in `[0, π R / 3]` (generalises `std_bins_range` to any `bin_no`) -/
theorem standard_bins_auto_cutoff {R : ℝ} (hR : 0 ≤ R) (axes : List (List ℝ)) (binNo : Option ℕ) :
    ∃ m n, standardBins true R (some axes) binNo none = .ok (linspace0 m n) ∧ 0 ≤ m ∧ m ≤ π * R / 3 := by
  refine ⟨stdDiam true R axes / ((3:ℕ):ℝ), binNo.getD (sturges (axes.headD []).length), ?_,
    c2g_third_range hR⟩
  cases binNo <;> rfl

/-- `standard_bins` of a latitude / longitude pair with neither `bin_no` nor `max_dist`: Sturges' number of bins
    up to `stdMaxDist` -/
theorem std_bins_auto_is_standard_bins (R : ℝ) (lats lons : List ℝ) :
    standardBins true R (some [lats, lons]) none none
      = .ok (linspace0 (stdMaxDist R lats lons) (sturges lats.length)) := by
  rw [stdMaxDist_eq]; simp [standardBins]

/-- unit change: the same lat-lon call in the unit `geo_scale = R > 0`, with the cut-off (if given) expressed in that
    unit, returns the radian edges multiplied by `R` — for all four combinations of `bin_no` / `max_dist` given or not -/
theorem standard_bins_unit_change {R : ℝ} (hR : 0 < R) (pos : Option (List (List ℝ))) (binNo : Option ℕ) (maxDist : Option ℝ) :
    standardBins true R pos binNo (maxDist.map (R * ·))
      = (standardBins true 1 pos binNo maxDist).map (fun e => e.map (R * ·)) :=
  standardBins_geo_scale hR pos binNo maxDist

/-- metric input: `geo_scale` is ignored -/
theorem standard_bins_metric_ignores_geo_scale (R R' : ℝ) (pos : Option (List (List ℝ))) (binNo : Option ℕ) (maxDist : Option ℝ) :
    standardBins false R pos binNo maxDist = standardBins false R' pos binNo maxDist := by
  cases binNo <;> cases maxDist <;> cases pos <;> simp only [standardBins, stdDiam, Bool.false_eq_true, if_false]

example : (0:ℝ) < 6371 ∧ (Option.map ((6371:ℝ) * ·) (some (0.5:ℝ))) = some (6371 * 0.5) := by
  constructor
  · norm_num
  · rfl

/-! ### in-place histories: `dim`, `len_scale`, `anis`, `angles` assignments in any order

`msInit` is the constructor, `msStep` one setter, `msRun` / `msFinal` a whole history (a setter that raises leaves
the model as it was). -/

/-- invariant of a model object -/
structure MSValid (s : MS ℝ) : Prop where
  dim_pos : 1 ≤ s.dim
  anis_len : s.anis.length = s.dim - 1
  anis_pos : ∀ a ∈ s.anis, 0 < a
  /-- the stored angles went through `set_model_angles` with the CURRENT dimension and flags -/
  angles_norm : ∃ v, s.angles = setModelAngles s.latlon s.temporal s.dim v
  latlon_dim : s.latlon = true → s.dim = 3 + (if s.temporal then 1 else 0)
  latlon_anis : s.latlon = true → s.anis.take 2 = [1, 1]

theorem modelDim_latlon (temporal : Bool) (dim : ℕ) : modelDim true temporal dim = 3 + if temporal then 1 else 0 := rfl

/-- what an accepted constructor call returns -/
theorem msInit_ok {latlon temporal : Bool} {dim : ℕ} {ls an ag : List ℝ} {s : MS ℝ}
    (h : msInit latlon temporal dim ls an ag = .ok s) :
    1 ≤ modelDim latlon temporal dim ∧
    ∃ l0 an', setLenAnis latlon (modelDim latlon temporal dim) ls an = .ok (l0, an') ∧
      s = ⟨latlon, temporal, modelDim latlon temporal dim, l0, an',
        setModelAngles latlon temporal (modelDim latlon temporal dim) ag⟩ := by
  unfold msInit at h
  simp only at h
  split at h
  · cases h
  split at h
  · cases h
  · rename_i hd _ l0 an' hok
    cases h
    exact ⟨Nat.le_of_not_lt hd, l0, an', hok, rfl⟩

/-- an accepted constructor call returns a valid model -/
theorem msInit_valid {latlon temporal : Bool} {dim : ℕ} {ls an ag : List ℝ} {s : MS ℝ}
    (h : msInit latlon temporal dim ls an ag = .ok s) : MSValid s := by
  obtain ⟨hd, l0, an', hok, rfl⟩ := msInit_ok h
  have := setLenAnis_ok hok
  refine ⟨hd, this.1, this.2.1, ⟨ag, rfl⟩, fun hl => ?_, fun hl => this.2.2 hl ?_⟩
  · subst hl; rfl
  · subst hl; exact Nat.le_add_right 3 _

theorem MSValid.setLenAnis {s : MS ℝ} (hs : MSValid s) {ls an an' : List ℝ} {l0 : ℝ}
    (hok : setLenAnis s.latlon s.dim ls an = .ok (l0, an')) : MSValid { s with lenScale := l0, anis := an' } :=
  have := setLenAnis_ok hok
  ⟨hs.dim_pos, this.1, this.2.1, hs.angles_norm, hs.latlon_dim,
    fun hl => this.2.2 hl (by rw [hs.latlon_dim hl]; exact Nat.le_add_right 3 _)⟩

theorem msStep_spec {s s' : MS ℝ} {op : MOp ℝ} (h : msStep s op = .ok s') :
    s'.latlon = s.latlon ∧ s'.temporal = s.temporal ∧ (MSValid s → MSValid s') := by
  cases op with
  | setAngles v =>
    cases h
    exact ⟨rfl, rfl, fun hs => ⟨hs.dim_pos, hs.anis_len, hs.anis_pos, ⟨v, rfl⟩, hs.latlon_dim, hs.latlon_anis⟩⟩
  | setAnis v | setLenScale v =>
    simp only [msStep] at h
    split at h
    · cases h
    · rename_i l0 an hok
      cases h
      exact ⟨rfl, rfl, fun hs => hs.setLenAnis hok⟩
  | setDim d =>
    simp only [msStep] at h
    split at h
    · cases h
    split at h
    · cases h
    · rename_i hd _ l0 an hok
      cases h
      refine ⟨rfl, rfl, fun hs => ?_⟩
      have := setLenAnis_ok hok
      refine ⟨Nat.le_of_not_lt hd, this.1, this.2.1, ⟨s.angles, rfl⟩, fun hl => ?_, fun hl => ?_⟩
      · exact hl ▸ modelDim_latlon s.temporal d
      · -- the dimension of a lat-lon model does not change, so `set_len_anis` gives the ratios back
        have hdim : modelDim s.latlon s.temporal d = s.dim := by
          rw [hs.latlon_dim hl, show s.latlon = true from hl, modelDim_latlon]
        rw [hdim, setLenAnis_single hs.dim_pos s.lenScale hs.anis_pos, setAnis_id hs.anis_len] at hok
        cases hok
        exact hs.latlon_anis hl

/-- an accepted setter keeps the model valid -/
theorem msStep_valid {s s' : MS ℝ} (hs : MSValid s) (op : MOp ℝ) (h : msStep s op = .ok s') : MSValid s' :=
  (msStep_spec h).2.2 hs

theorem msStepKeep_spec (s : MS ℝ) (op : MOp ℝ) :
    (msStepKeep s op).1.latlon = s.latlon ∧ (msStepKeep s op).1.temporal = s.temporal ∧
      (MSValid s → MSValid (msStepKeep s op).1) := by
  unfold msStepKeep
  split
  · rename_i s' h
    exact msStep_spec h
  · exact ⟨rfl, rfl, id⟩

theorem msStepKeep_valid {s : MS ℝ} (hs : MSValid s) (op : MOp ℝ) : MSValid (msStepKeep s op).1 :=
  (msStepKeep_spec s op).2.2 hs

/-- the flags cannot change -/
theorem msStepKeep_flags (s : MS ℝ) (op : MOp ℝ) :
    (msStepKeep s op).1.latlon = s.latlon ∧ (msStepKeep s op).1.temporal = s.temporal :=
  ⟨(msStepKeep_spec s op).1, (msStepKeep_spec s op).2.1⟩

/-- the model is valid after any history of setter calls, raising ones included -/
theorem msFinal_valid {s : MS ℝ} (hs : MSValid s) (ops : List (MOp ℝ)) : MSValid (msFinal s ops) :=
  List.foldlRecOn ops _ hs fun _ h op _ => msStepKeep_valid h op

/-- no history of setter calls changes `latlon` or `temporal` -/
theorem msFinal_flags (s : MS ℝ) (ops : List (MOp ℝ)) :
    (msFinal s ops).latlon = s.latlon ∧ (msFinal s ops).temporal = s.temporal :=
  List.foldlRecOn (motive := fun s' => s'.latlon = s.latlon ∧ s'.temporal = s.temporal) ops _ ⟨rfl, rfl⟩
    fun s' h op _ => ⟨(msStepKeep_flags s' op).1.trans h.1, (msStepKeep_flags s' op).2.trans h.2⟩

/-- the state after any history of an accepted constructor call: valid, with the constructor's flags -/
theorem msFinal_of_init {latlon temporal : Bool} {dim : ℕ} {ls an ag : List ℝ} {s0 : MS ℝ}
    (h0 : msInit latlon temporal dim ls an ag = .ok s0) (ops : List (MOp ℝ)) :
    MSValid (msFinal s0 ops) ∧ (msFinal s0 ops).latlon = latlon ∧ (msFinal s0 ops).temporal = temporal := by
  have hf := msFinal_flags s0 ops
  -- substituting the record `s0` turns its flags into the constructor's arguments
  obtain ⟨-, l0, an', -, rfl⟩ := msInit_ok h0
  exact ⟨msFinal_valid (msInit_valid h0) ops, hf.1, hf.2⟩

/-- every state a history walks through is valid -/
theorem msRun_valid {s : MS ℝ} (hs : MSValid s) (ops : List (MOp ℝ)) : ∀ r ∈ msRun s ops, MSValid r.1 := by
  induction ops generalizing s with
  | nil => exact fun r hr => absurd hr List.not_mem_nil
  | cons op rest ih =>
    intro r hr
    rcases List.mem_cons.1 hr with rfl | hr
    · exact msStepKeep_valid hs op
    · exact ih (msStepKeep_valid hs op) r hr

/-- lat-lon models after any history: dimension `3 (+1)`, every angle zero, the two spatial ratios 1, `dim - 1`
    positive ratios, whatever was assigned -/
theorem hist_latlon {temporal : Bool} {dim : ℕ} {ls an ag : List ℝ} {s0 : MS ℝ}
    (h0 : msInit true temporal dim ls an ag = .ok s0) (ops : List (MOp ℝ)) :
    let s := msFinal s0 ops
    s.dim = 3 + (if temporal then 1 else 0) ∧ (∀ a ∈ s.angles, a = 0) ∧ s.anis.take 2 = [1, 1] ∧
      s.anis.length = s.dim - 1 ∧ ∀ a ∈ s.anis, 0 < a := by
  obtain ⟨hv, hl, ht⟩ := msFinal_of_init h0 ops
  refine ⟨by rw [hv.latlon_dim hl, ht], ?_, hv.latlon_anis hl, hv.anis_len, hv.anis_pos⟩
  obtain ⟨v, hvv⟩ := hv.angles_norm
  rw [hvv, hl]
  exact setModelAngles_latlon

/-- metric spatio-temporal models after any history (spatial dimension `m ≥ 1`, axis `m` is time): the stored
    angles of all planes containing the time axis are zero, and the isometrizing matrix has the time row
    `(0, …, 0, 1/anis[-1])`, a zero time column, and the spatial block of the
    purely spatial model.  In particular this holds after `model.dim = …` in both directions and after `angles` /
    `anis` / `len_scale` assignments in any order. -/
theorem hist_time_axis {dim : ℕ} {ls an ag : List ℝ} {s0 : MS ℝ}
    (h0 : msInit false true dim ls an ag = .ok s0) (ops : List (MOp ℝ)) {m : ℕ} (hm : 1 ≤ m)
    (hdim : (msFinal s0 ops).dim = m + 1) :
    let s := msFinal s0 ops
    (∀ k, noa m ≤ k → s.angles.getD k 0 = 0) ∧
    (∀ j, j ≤ m → matIsometrize (m + 1) s.angles s.anis m j = if j = m then 1 / s.anis.getD (m - 1) 1 else 0) ∧
    (∀ i, i < m → matIsometrize (m + 1) s.angles s.anis i m = 0) ∧
    (∀ i j, i < m → j < m → matIsometrize (m + 1) s.angles s.anis i j = matIsometrize m (s.angles.take (noa m)) s.anis i j) := by
  obtain ⟨hv, hl, ht⟩ := msFinal_of_init h0 ops
  obtain ⟨v, hvv⟩ := hv.angles_norm
  rw [hl, ht, hdim] at hvv
  have hlen : noa m ≤ (setAngles (m + 1) v).length := by
    rw [length_setAngles, noa_succ]
    exact Nat.le_add_right _ _
  intro s
  rw [show s.angles = modelAngles false true (m + 1) (setAngles (m + 1) v) from hvv]
  refine ⟨fun k hk => setModelAngles_temporal_zero (m + 1) v (by rwa [Nat.add_sub_cancel]),
    fun j hj => time_axis_row hm _ _ hlen hj, fun i hi => time_axis_col _ _ hlen hi, fun i j hi hj => ?_⟩
  rw [time_axis_block _ _ hlen hi hj, modelAngles_temporal, Nat.add_sub_cancel,
    List.take_left' (List.length_take_of_le hlen)]

/-- metric spatio-temporal models after any history, for positions and with the materialised matrix the driver
    evaluates (`matIsometrizeA`): the time
    coordinate of the isometrized point is `t / anis[-1]`, and the spatial coordinates are those of the purely spatial
    model applied to the spatial coordinates — they depend neither on `t` nor on the time ratio. -/
theorem hist_time_axis_pos {dim : ℕ} {ls an ag : List ℝ} {s0 : MS ℝ}
    (h0 : msInit false true dim ls an ag = .ok s0) (ops : List (MOp ℝ)) {m : ℕ} (hm : 1 ≤ m)
    (hdim : (msFinal s0 ops).dim = m + 1) (x : ℕ → ℝ) :
    let s := msFinal s0 ops
    let M := ofArr (m + 1) (matIsometrizeA (m + 1) s.angles s.anis)
    applyMat (m + 1) M x m = x m / s.anis.getD (m - 1) 1 ∧
    ∀ i, i < m → applyMat (m + 1) M x i = applyMat m (matIsometrize m (s.angles.take (noa m)) s.anis) x i := by
  obtain ⟨_, hrow, hcol, hblk⟩ := hist_time_axis h0 ops hm hdim
  intro s M
  have hA := agree_matIsometrizeA (m + 1) s.angles s.anis
  constructor
  · rw [applyMat_agree hA x (Nat.lt_succ_self m), applyMat_last_row hrow, one_div_mul_eq_div]
  · intro i hi
    rw [applyMat_agree hA x (Nat.lt_succ_of_lt hi)]
    exact applyMat_block (hcol i hi) (fun j hj => hblk i j hi hj) x

/-- the hypotheses are satisfiable by a non-trivial history: a 3-D + time model with rotation, reduced to 2-D + time -/
example : ∃ s0 : MS ℝ, msInit false true 4 [2] [0.8, 0.6, 0.5] [0.4, 0.3, 0.2] = .ok s0 ∧
    (msFinal s0 [.setDim 3]).dim = 2 + 1 := by
  have pos : ∀ a ∈ ([0.8, 0.6, 0.5] : List ℝ), 0 < a := by
    simp only [List.forall_mem_cons, List.not_mem_nil, false_imp_iff, implies_true, and_true]
    norm_num
  refine ⟨⟨false, true, 4, 2, setAnis 4 [0.8, 0.6, 0.5], setModelAngles false true 4 [0.4, 0.3, 0.2]⟩, ?_, ?_⟩
  · simp only [msInit, modelDim, Bool.false_eq_true, if_false, setLenAnis_single (d := 4) (by decide) 2 pos]
    rfl
  · simp only [msFinal, List.foldl_cons, List.foldl_nil, msStepKeep, msStep, modelDim, Bool.false_eq_true, if_false,
      setLenAnis_single (d := 3) (by decide) 2 (setAnis_pos pos)]
    rfl

/-! ### kriging of lat-lon (+ time) data through `isometrize` -/

/-- the squared distance of two lat-lon + time points after `isometrize`: `chord² + (Δt / anis[-1])²` with
    `chord² = 4R²·a` (haversine argument `a`) — every list of ratios, every `geo_scale` -/
theorem distSq_latlon_temporal (R : ℝ) (anis : List ℝ) (lat1 lon1 t1 lat2 lon2 t2 : ℝ) :
    distSq (isometrizeLL R true anis lat1 lon1 t1) (isometrizeLL R true anis lat2 lon2 t2)
      = 4 * (R * R) * havArg lat1 lon1 lat2 lon2
        + (t1 / lastAnis anis - t2 / lastAnis anis) * (t1 / lastAnis anis - t2 / lastAnis anis) := by
  rw [← chord_is_haversine, ← distSq_toList_append]
  rfl

/-- the squared distance of two lat-lon points after `isometrize` without time: `chord²` -/
theorem distSq_latlon (R : ℝ) (anis : List ℝ) (lat1 lon1 t1 lat2 lon2 t2 : ℝ) :
    distSq (isometrizeLL R false anis lat1 lon1 t1) (isometrizeLL R false anis lat2 lon2 t2)
      = 4 * (R * R) * havArg lat1 lon1 lat2 lon2 := by
  rw [← chord_is_haversine, ← distSq_toList]
  rfl

/-- without time the assembled entry is the chord entry (hence the Yadrenko covariance) -/
theorem krigeEntryLL_spatial (cov : ℝ → ℝ) (R : ℝ) (anis : List ℝ) (lat lon t : ℕ → ℝ) (i j : ℕ) :
    krigeEntryLL cov R false anis lat lon t i j = krigeEntry cov R lat lon i j := by
  rw [krigeEntryLL, krigeEntry, chord, ← distSq_toList]
  rfl

/-- the assembled entry with time is `cov(√(chord² + (Δt / anis[-1])²))`, `chord² = 4R²·a` — the time difference enters only through
    the last anisotropy ratio, the spatial part only through the great-circle geometry -/
theorem krigeEntryLL_temporal (cov : ℝ → ℝ) (R a b c : ℝ) (lat lon t : ℕ → ℝ) (i j : ℕ) :
    krigeEntryLL cov R true (modelAnis true [a, b, c]) lat lon t i j
      = cov (Real.sqrt (4 * (R * R) * havArg (lat i) (lon i) (lat j) (lon j)
          + (t i / c - t j / c) * (t i / c - t j / c))) := by
  rw [krigeEntryLL, distSq_latlon_temporal, latlon_temporal_anis]
  rfl

/-! ### a kriging object between calls (`KS`, `ksStep`): the documented refresh puts conditions and targets into ONE
current geometry

`krige.model.anis = …` / `krige.model.len_scale = […]` change the model object in place, `krige.model = m` swaps it
(e.g. the same covariance expressed in another `geo_scale`); `set_condition()` recomputes `_krige_pos` with the model
of that moment, a call isometrizes its targets with the current model. -/

/-- after `set_condition()` (no arguments) `_krige_pos` is `isometrize` of the stored conditioning tuple under the CURRENT
    model and `geo_scale`; nothing else changes -/
theorem ks_refresh_current (s : KS ℝ) :
    let s1 := (ksStep s (.setCond none)).1
    s1.kpos = msIsometrize s.R s.model s.cond ∧ s1.model = s.model ∧ s1.R = s.R ∧ s1.cond = s.cond ∧ s1.pos = s.pos :=
  ⟨rfl, rfl, rfl, rfl, rfl⟩

/-- a call isometrizes the given (or, without argument, the stored) targets with the CURRENT model and `geo_scale` -/
theorem ks_call_current (s : KS ℝ) (p : List (ℕ → ℝ)) :
    (ksStep s (.call (some p))).2 = .iso (msIsometrize s.R s.model p) ∧
    (ksStep s (.call none)).2 = .iso (msIsometrize s.R s.model s.pos) := ⟨rfl, rfl⟩

/-- only `set_condition` writes `_krige_pos`: after in-place setters, a model replacement or calls it is still the tuple
    isometrized with the model of the last `set_condition` — the reason the refresh is documented -/
theorem ks_kpos_is_last_setCond (s : KS ℝ) (ops : List (KOp ℝ)) (h : ∀ op ∈ ops, ∀ c, op ≠ .setCond c) :
    (ksFinal s ops).kpos = s.kpos := by
  refine List.foldlRecOn (motive := fun s' : KS ℝ => s'.kpos = s.kpos) ops _ rfl fun s' hs' op hop => ?_
  rw [← hs']
  cases op with
  | setCond c => exact absurd rfl (h _ hop c)
  | setter o => rfl
  | replace R ll tm d ls an ag => simp only [ksStep]; cases msInit ll tm d ls an ag <;> rfl
  | call p => cases p <;> rfl

/-- a model object held by a kriging object stays valid through every operation -/
theorem ksStep_valid {s : KS ℝ} (hs : MSValid s.model) (op : KOp ℝ) : MSValid (ksStep s op).1.model := by
  cases op with
  | setter o => exact msStepKeep_valid hs o
  | replace R ll tm d ls an ag =>
    simp only [ksStep]
    cases h : msInit ll tm d ls an ag with
    | ok m => exact msInit_valid h
    | error e => exact hs
  | setCond c => cases c <;> exact hs
  | call p => cases p <;> exact hs

/-- the model object of a kriging object is valid after any history of operations -/
theorem ksFinal_valid {s : KS ℝ} (hs : MSValid s.model) (ops : List (KOp ℝ)) : MSValid (ksFinal s ops).model :=
  List.foldlRecOn (motive := fun s' : KS ℝ => MSValid s'.model) ops _ hs fun _ h op _ => ksStep_valid h op

/-- lat-lon (+ time) kriging after the refresh: whatever the history, after `set_condition()` the conditioning points
    AND the targets of the next call (given or stored) are mapped by the same function: the sphere point of the CURRENT
    `geo_scale` with the time divided by the CURRENT last ratio -/
theorem ks_refresh_latlon (s : KS ℝ) (hl : s.model.latlon = true) (p : List (ℕ → ℝ)) :
    let s1 := (ksStep s (.setCond none)).1
    let f := fun x : ℕ → ℝ => isometrizeLL s.R s.model.temporal s.model.anis (x 0) (x 1) (x 2)
    s1.kpos = s.cond.map f ∧ (ksStep s1 (.call (some p))).2 = .iso (p.map f) ∧ (ksStep s1 (.call none)).2 = .iso (s.pos.map f) := by
  simp only [ksStep, msIsometrize, hl, if_true, and_self]

/-- the same covariance in another unit: replacing the model of radius `R`, length scale `l` and time ratio `κ` by
    the model of radius `c·R`, length scale `c·l` and time ratio `κ / c` (`c > 0`: km ↔ radian ↔ degree) multiplies
    every isometrized distance by `c`, so every covariance `g(r / len_scale)` between two isometrized points is
    unchanged. -/
theorem unit_change_invariant (g : ℝ → ℝ) {c : ℝ} (hc : 0 < c) (R l : ℝ) (anis anis' : List ℝ)
    (hκ : lastAnis anis' = lastAnis anis / c) (temporal : Bool) (lat1 lon1 t1 lat2 lon2 t2 : ℝ) :
    g (Real.sqrt (distSq (isometrizeLL (c * R) temporal anis' lat1 lon1 t1) (isometrizeLL (c * R) temporal anis' lat2 lon2 t2)) / (c * l))
      = g (Real.sqrt (distSq (isometrizeLL R temporal anis lat1 lon1 t1) (isometrizeLL R temporal anis lat2 lon2 t2)) / l) := by
  -- every squared distance is multiplied by `c²`
  have key : distSq (isometrizeLL (c * R) temporal anis' lat1 lon1 t1) (isometrizeLL (c * R) temporal anis' lat2 lon2 t2)
      = (c * c) * distSq (isometrizeLL R temporal anis lat1 lon1 t1) (isometrizeLL R temporal anis lat2 lon2 t2) := by
    cases temporal with
    | false =>
      rw [distSq_latlon, distSq_latlon]
      ring
    | true =>
      have e : ∀ t : ℝ, t / (lastAnis anis / c) = c * (t / lastAnis anis) := fun t => by
        rw [div_div_eq_mul_div, mul_comm, mul_div_assoc]
      rw [distSq_latlon_temporal, distSq_latlon_temporal, hκ, e t1, e t2]
      ring
  rw [key, Real.sqrt_mul (mul_self_nonneg c), Real.sqrt_mul_self hc.le, mul_div_mul_left _ _ hc.ne']

example : (0:ℝ) < 6371 ∧ lastAnis ([1, 1, 0.002 / 6371] : List ℝ) = lastAnis ([1, 1, 0.002] : List ℝ) / 6371 := by
  constructor
  · norm_num
  · simp [lastAnis]

end GSV.Props.C13
