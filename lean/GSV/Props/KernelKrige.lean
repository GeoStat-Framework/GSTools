/-
  Law-free specification of the generated kriging summation kernels (krige/krigesum.pyx).
-/
import GSV.Gen.Krigesum
import GSV.Lemmas.Ctl
namespace GSV.Props
open GSV GSV.Transc GSV.Krigesum

variable {α : Type} [Arith α] [Transc α]

/-- `(M v_k)_i` accumulated in the kernel's order -/
def matVec (mat vecs : Nat → Nat → α) (m i k : Nat) : α :=
  forRange 0 m ((0:Nat):α) fun j acc => acc + mat i j * vecs j k

/-- (field, error) of target `k`, accumulated from `v0` -/
def krigeCell (mat vecs : Nat → Nat → α) (cond : Nat → α) (m k : Nat) (v0 : α × α) : α × α :=
  forRange 0 m v0 fun i p => (p.1 + cond i * matVec mat vecs m i k, p.2 + vecs i k * matVec mat vecs m i k)

def krigeFieldCell (mat vecs : Nat → Nat → α) (cond : Nat → α) (m k : Nat) (v0 : α) : α :=
  forRange 0 m v0 fun i p => p + cond i * matVec mat vecs m i k

def krigeErrCell (mat vecs : Nat → Nat → α) (m k : Nat) (v0 : α) : α :=
  forRange 0 m v0 fun i p => p + vecs i k * matVec mat vecs m i k

private theorem fv_inner_keep (mat vecs : Nat → Nat → α) (m i k : Nat) (s : calc_field_krige_and_variance.St α) :
    let s' := forRange 0 m ({ s with krig_fac := ((0:Nat):α) } : calc_field_krige_and_variance.St α)
        fun j' (st : calc_field_krige_and_variance.St α) =>
          ({ st with krig_fac := st.krig_fac + mat i j' * vecs j' k } : calc_field_krige_and_variance.St α)
    s'.field = s.field ∧ s'.error = s.error ∧ s'.krig_fac = matVec mat vecs m i k := by
  refine ⟨?_, ?_, ?_⟩
  · exact forRange_keep (fun (s : calc_field_krige_and_variance.St α) => s.field) _ (by intros; rfl) _ _ _
  · exact forRange_keep (fun (s : calc_field_krige_and_variance.St α) => s.error) _ (by intros; rfl) _ _ _
  · exact forRange_proj (fun (s : calc_field_krige_and_variance.St α) => s.krig_fac) _
        (fun j acc => acc + mat i j * vecs j k) (by intros; rfl) _ _ _

/-- field output of `calc_field_krige_and_variance` (krigesum.pyx): cell `k` of the `r` targets is `Σ_i cond_i (M v_k)_i`, accumulated
    in the kernel's order from `0` — for every admissible schedule of the parallel loop -/
theorem krige_fv_field_spec (sched : Sched) (hs : sched.Admissible)
    (mat : Nat → Nat → α) (m m1 : Nat) (vecs : Nat → Nat → α) (v0 r : Nat) (cond : Nat → α) (c0 : Nat) (k : Nat) :
    (calc_field_krige_and_variance sched mat m m1 vecs v0 r cond c0).1 k =
      if k < r then krigeFieldCell mat vecs cond m k ((0:Nat):α) else ((0:Nat):α) := by
  unfold calc_field_krige_and_variance
  simp only []
  rw [parRange_owned (fun (s : calc_field_krige_and_variance.St α) => s.field)
      (fun k v => krigeFieldCell mat vecs cond m k v) _ _ _ sched hs]
  · simp
  · intro t s k' hk
    rw [forRange_proj (fun (s : calc_field_krige_and_variance.St α) => s.field k') _ (fun _ v => v)]
    · exact forRange_keep id _ (by intros; rfl) _ _ _
    · intro j s
      have h := fv_inner_keep mat vecs m j t s
      simp only [upd_other _ _ hk]
      rw [h.1]
  · intro k s
    unfold krigeFieldCell
    rw [forRange_proj (fun (s : calc_field_krige_and_variance.St α) => s.field k) _
      (fun i p => p + cond i * matVec mat vecs m i k)]
    intro i s
    have h := fv_inner_keep mat vecs m i k s
    simp only [upd_same]
    rw [h.1, h.2.2]

/-- error output of `calc_field_krige_and_variance`: cell `k` is `Σ_i v_ik (M v_k)_i`, accumulated in the kernel's order from `0` —
    for every admissible schedule -/
theorem krige_fv_error_spec (sched : Sched) (hs : sched.Admissible)
    (mat : Nat → Nat → α) (m m1 : Nat) (vecs : Nat → Nat → α) (v0 r : Nat) (cond : Nat → α) (c0 : Nat) (k : Nat) :
    (calc_field_krige_and_variance sched mat m m1 vecs v0 r cond c0).2 k =
      if k < r then krigeErrCell mat vecs m k ((0:Nat):α) else ((0:Nat):α) := by
  unfold calc_field_krige_and_variance
  simp only []
  rw [parRange_owned (fun (s : calc_field_krige_and_variance.St α) => s.error)
      (fun k v => krigeErrCell mat vecs m k v) _ _ _ sched hs]
  · simp
  · intro t s k' hk
    rw [forRange_proj (fun (s : calc_field_krige_and_variance.St α) => s.error k') _ (fun _ v => v)]
    · exact forRange_keep id _ (by intros; rfl) _ _ _
    · intro j s
      have h := fv_inner_keep mat vecs m j t s
      simp only [upd_other _ _ hk]
      rw [h.2.1]
  · intro k s
    unfold krigeErrCell
    rw [forRange_proj (fun (s : calc_field_krige_and_variance.St α) => s.error k) _
      (fun i p => p + vecs i k * matVec mat vecs m i k)]
    intro i s
    have h := fv_inner_keep mat vecs m i k s
    simp only [upd_same]
    rw [h.2.1, h.2.2]

private theorem f_inner_keep (mat vecs : Nat → Nat → α) (m i k : Nat) (s : calc_field_krige.St α) :
    let s' := forRange 0 m ({ s with krig_fac := ((0:Nat):α) } : calc_field_krige.St α)
        fun j' (st : calc_field_krige.St α) =>
          ({ st with krig_fac := st.krig_fac + mat i j' * vecs j' k } : calc_field_krige.St α)
    s'.field = s.field ∧ s'.krig_fac = matVec mat vecs m i k :=
  ⟨forRange_keep (fun (s : calc_field_krige.St α) => s.field) _ (by intros; rfl) _ _ _,
    forRange_proj (fun (s : calc_field_krige.St α) => s.krig_fac) _
      (fun j acc => acc + mat i j * vecs j k) (by intros; rfl) _ _ _⟩

/-- `calc_field_krige` (field only): cell `k` is `Σ_i cond_i (M v_k)_i`, accumulated in the kernel's order from `0` — for every
    admissible schedule -/
theorem krige_f_spec (sched : Sched) (hs : sched.Admissible)
    (mat : Nat → Nat → α) (m m1 : Nat) (vecs : Nat → Nat → α) (v0 r : Nat) (cond : Nat → α) (c0 : Nat) (k : Nat) :
    calc_field_krige sched mat m m1 vecs v0 r cond c0 k =
      if k < r then krigeFieldCell mat vecs cond m k ((0:Nat):α) else ((0:Nat):α) := by
  unfold calc_field_krige
  simp only []
  rw [parRange_owned (fun (s : calc_field_krige.St α) => s.field)
      (fun k v => krigeFieldCell mat vecs cond m k v) _ _ _ sched hs]
  · simp
  · intro t s k' hk
    rw [forRange_proj (fun (s : calc_field_krige.St α) => s.field k') _ (fun _ v => v)]
    · exact forRange_keep id _ (by intros; rfl) _ _ _
    · intro j s
      simp only [upd_other _ _ hk]
      exact forRange_keep (fun (s : calc_field_krige.St α) => s.field k') _ (by intros; rfl) _ _ _
  · intro k s
    unfold krigeFieldCell
    rw [forRange_proj (fun (s : calc_field_krige.St α) => s.field k) _
      (fun i p => p + cond i * matVec mat vecs m i k)]
    intro i s
    simp only [upd_same]
    have h := f_inner_keep mat vecs m i k s
    rw [h.1, h.2]

/-- the field-only kernel returns the field of the field-and-variance kernel (any two admissible schedules) -/
theorem krige_f_eq_fv_field (s1 s2 : Sched) (h1 : s1.Admissible) (h2 : s2.Admissible)
    (mat : Nat → Nat → α) (m m1 : Nat) (vecs : Nat → Nat → α) (v0 r : Nat) (cond : Nat → α) (c0 : Nat) :
    calc_field_krige s1 mat m m1 vecs v0 r cond c0 = (calc_field_krige_and_variance s2 mat m m1 vecs v0 r cond c0).1 := by
  funext k
  rw [krige_f_spec s1 h1, krige_fv_field_spec s2 h2]

end GSV.Props
