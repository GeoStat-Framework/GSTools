/-
  C06 (exact mode, repeated stations): with `exact=True` the right-hand side uses the nugget-aware covariance — the sill
  at every lag inside numpy's `isclose` band of 0 — while the matrix carries the plain covariance plus the nugget on the
  diagonal.  For a target on conditioning point `j` the right-hand side is column `j` of the matrix, and the datum is
  honoured with zero variance, exactly when NO OTHER conditioning point lies inside the band of `j`
  (`rhs_is_column_exact`, `exact_at_data_exact_mode`); a second point inside the band gets the sill on the right-hand
  side but the plain covariance in the matrix (`rhs_not_column_of_coincident`) — repeated measurements carry
  contradictory data and are not interpolated.
-/
import GSV.Props.C06
import GSV.Props.C05Coin
namespace GSV.Props.C06
open GSV GSV.Props GSV.Props.C05 GSV.Model.Krige Finset Matrix

/-- exact mode, target on an isolated conditioning point `j`, sill = diagonal entry `j` of the matrix (whatever the
    error setting `err` is): the covariance entries of the right-hand side are those of column `j` of the matrix — the
    sill in row `j`, the plain covariance elsewhere -/
theorem rhsCov_exact_isolated {n : Nat} {d cv dt cvt : Nat → Nat → ℝ} {err : Nat → ℝ} {sill : ℝ} {j p : Nat}
    (hlag : ∀ i, i < n → dt i p = d i j) (hcv : ∀ i, i < n → cvt i p = cv i j)
    (hself : lagZero (d j j) = true) (hiso : ∀ i, i < n → i ≠ j → lagZero (d i j) = false)
    (hsill : sill = cv j j + err j) (i : Nat) (hi : i < n) :
    rhsCov true sill dt cvt i p = if i = j then cv i j + err i else cv i j := by
  by_cases hij : i = j
  · subst hij
    rw [rhsCov_exact_zero sill dt cvt i p (by rw [hlag i hi]; exact hself), if_pos rfl, hsill]
  · rw [rhsCov_exact_far sill dt cvt i p (by rw [hlag i hi]; exact hiso i hi hij), if_neg hij, hcv i hi]

/-- **exact mode, isolated conditioning point**: target `p` sits on conditioning point `j` (its lags and plain
    covariances to the conditioning points are those of `j`), `j` is inside its own band (lag 0), no other conditioning
    point is inside the band of `j`, and the sill is the lag-0 covariance plus the nugget.  Then the lag-based right-hand
    side in exact mode is column `j` of the matrix of the configuration with the default error setting. -/
theorem rhs_is_column_exact (L : Layout) (d cv dt cvt : Nat → Nat → ℝ) (nugget sill : ℝ) (F E f e : Nat → Nat → ℝ)
    (j p : Nat) (hj : j < L.n)
    (hlag : ∀ i, i < L.n → dt i p = d i j) (hcv : ∀ i, i < L.n → cvt i p = cv i j)
    (hself : lagZero (d j j) = true) (hiso : ∀ i, i < L.n → i ≠ j → lagZero (d i j) = false)
    (hsill : sill = cv j j + nugget)
    (hf : ∀ r, f r p = F r j) (he : ∀ r, e r p = E r j) (i : Nat) (hi : i < L.size) :
    assembleRHSLag L false true sill dt cvt f e i p = assembleKCfg L cv nugget ErrSpec.nugget F E i j :=
  rhs_is_column L cv (condErr nugget ErrSpec.nugget) F E (rhsCov true sill dt cvt) f e j p hj
    (rhsCov_exact_isolated hlag hcv hself hiso hsill) hf he i hi

/-- **exact interpolation in exact mode with a nugget**: at an isolated conditioning point the raw field is the
    prepared datum and the variance is `0` — also when OTHER stations of the layout are repeated -/
theorem exact_at_data_exact_mode (L : Layout) (d cv dt cvt : Nat → Nat → ℝ) (nugget sill : ℝ) (F E f e : Nat → Nat → ℝ)
    (M : Nat → Nat → ℝ)
    (hMK : toMat L.size M * toMat L.size (assembleKCfg L cv nugget ErrSpec.nugget F E) = 1)
    (valn mean : Nat → ℝ) (j p : Nat) (hj : j < L.n)
    (hlag : ∀ i, i < L.n → dt i p = d i j) (hcv : ∀ i, i < L.n → cvt i p = cv i j)
    (hself : lagZero (d j j) = true) (hiso : ∀ i, i < L.n → i ≠ j → lagZero (d i j) = false)
    (hsill : sill = cv j j + nugget)
    (hf : ∀ r, f r p = F r j) (he : ∀ r, e r p = E r j) :
    krigeFieldCell M (assembleRHSLag L false true sill dt cvt f e) (krigeCond L valn mean) L.size p ((0:Nat):ℝ)
        = valn j - mean j ∧
    clipVar sill (krigeErrCell M (assembleRHSLag L false true sill dt cvt f e) L.size p ((0:Nat):ℝ)) = 0 := by
  have := exact_at_data_model L cv (condErr nugget ErrSpec.nugget) F E (rhsCov true sill dt cvt) f e M hMK
    valn mean j p hj (rhsCov_exact_isolated hlag hcv hself hiso hsill) hf he sill
  exact ⟨this.1, this.2.trans (zero_variance_at_data sill _ hsill.symm)⟩

/-- **a second conditioning point inside the band is NOT interpolated around**: for `i ≠ j` inside the band of `j`
    (e.g. a repeated measurement at the same station) and a positive nugget, the right-hand side of a target on `j` has
    the sill in row `i` whereas the matrix has the plain covariance there — the right-hand side is not the column. -/
theorem rhs_not_column_of_coincident (L : Layout) (d cv dt cvt : Nat → Nat → ℝ) (nugget sill : ℝ) (F E f e : Nat → Nat → ℝ)
    (i j p : Nat) (hi : i < L.n) (hj : j < L.n) (hij : i ≠ j)
    (hlag : dt i p = d i j) (hband : lagZero (d i j) = true) (hsill : sill = cv i j + nugget) (hn : 0 < nugget) :
    assembleRHSLag L false true sill dt cvt f e i p ≠ assembleKCfg L cv nugget ErrSpec.nugget F E i j := by
  rw [assembleRHSLag_data L true sill dt cvt f e i p hi, assembleKCfg_offdiag L cv nugget _ F E i j hi hj hij,
    rhsCov_exact_zero sill dt cvt i p (by rw [hlag]; exact hband), hsill]
  intro h
  linarith

/-- the hypotheses are satisfiable: lags `0` and `1` (inside / outside the band) -/
example : lagZero (0:ℝ) = true ∧ lagZero (1:ℝ) = false := by
  constructor
  · rw [lagZero_iff]; norm_num
  · exact Bool.eq_false_iff.mpr (mt (lagZero_iff 1).mp (by norm_num))

end GSV.Props.C06
