/-
  C06 — kriging interpolates exactly; its variance is non-negative and bounded.
  Built on the model and algebra of C05.
-/
import GSV.Props.C05
namespace GSV.Props.C06
open GSV GSV.Props GSV.Props.C05 GSV.Model.Krige Finset Matrix

/-- when a target coincides with conditioning point `j`, its right-hand side is column `j` of the
    assembled matrix — provided the covariance entries agree, which is the case
    (a) for zero measurement error: `c i p = C i j` and `err j = 0`, or
    (b) in `exact` mode, when no OTHER conditioning point lies inside the zero-lag band of the target: the nugget-aware
        covariance returns `C j j + err j` at zero lag (`rhs_is_column_exact`; with a second point inside the band the
        premise fails, `rhs_not_column_of_coincident`). -/
theorem rhs_is_column (L : Layout) (C : Nat → Nat → ℝ) (err : Nat → ℝ) (F E : Nat → Nat → ℝ)
    (c f e : Nat → Nat → ℝ) (j p : Nat) (hj : j < L.n)
    (hc : ∀ i, i < L.n → c i p = if i = j then C i j + err i else C i j)
    (hf : ∀ r, f r p = F r j) (he : ∀ r, e r p = E r j) (i : Nat) (hi : i < L.size) :
    assembleRHS L false c f e i p = assembleK L C err F E i j := by
  rcases Nat.lt_or_ge i L.n with h | h
  · rw [assembleRHS_data h, if_neg Bool.false_ne_true, assembleK_data h hj, hc i h]
  · rw [assembleRHS_border h, assembleK_row h hj]
    exact border_congr (fun r _ => hf r) (fun r _ => he r) i

/-- **exact interpolation on the model's arrays**: with `M` inverting the assembled matrix, the raw
    kriging field at a target that coincides with conditioning point `j` is the (normalised, detrended,
    mean-free) datum, and the returned variance is `max(sill − K_jj, 0)`, i.e. `0` when `K_jj = sill`
    (no nugget, or exact mode where `K_jj = var + nugget`). -/
theorem exact_at_data_model (L : Layout) (C : Nat → Nat → ℝ) (err : Nat → ℝ) (F E : Nat → Nat → ℝ)
    (c f e : Nat → Nat → ℝ) (M : Nat → Nat → ℝ)
    (hMK : toMat L.size M * toMat L.size (assembleK L C err F E) = 1)
    (valn mean : Nat → ℝ) (j p : Nat) (hj : j < L.n)
    (hc : ∀ i, i < L.n → c i p = if i = j then C i j + err i else C i j)
    (hf : ∀ r, f r p = F r j) (he : ∀ r, e r p = E r j) (sill : ℝ) :
    krigeFieldCell M (assembleRHS L false c f e) (krigeCond L valn mean) L.size p ((0:Nat):ℝ) = valn j - mean j ∧
    clipVar sill (krigeErrCell M (assembleRHS L false c f e) L.size p ((0:Nat):ℝ)) = clipVar sill (C j j + err j) := by
  have hjs : j < L.size := Nat.lt_of_lt_of_le hj (n_le_size L)
  have hcol : col L.size (assembleRHS L false c f e) p = fun i => toMat L.size (assembleK L C err F E) i ⟨j, hjs⟩ := by
    funext i
    exact rhs_is_column L C err F E c f e j p hj hc hf he i i.2
  have := exact_at_data (toMat L.size (assembleK L C err F E)) (toMat L.size M)
    (toVec L.size (krigeCond L valn mean)) (col L.size (assembleRHS L false c f e) p) hMK ⟨j, hjs⟩ hcol
  rw [field_eq_bilinear, err_eq_quadratic, this.1, this.2]
  exact ⟨if_pos hj, congrArg (clipVar sill) ((assembleK_data hj hj).trans (if_pos rfl))⟩

/-- the returned variance `max(sill − d, 0)` is `0` when the subtracted term equals the sill — at a datum `d = K_jj`
    (`exact_at_data_model`), so this is the case `K_jj = sill` -/
theorem zero_variance_at_data (sill d : ℝ) (h : d = sill) : clipVar sill d = 0 :=
  clipVar_of_ge sill d h.ge

/-- **round trip of the post-processing**: for any normaliser pair with `denorm ∘ norm = id` on the data,
    `trend + denorm(mean + (norm(z − trend) − mean)) = z` -/
theorem roundtrip_post (norm denorm : ℝ → ℝ) (z trend mean : ℝ) (h : denorm (norm (z - trend)) = z - trend) :
    trend + denorm (mean + (norm (z - trend) - mean)) = z := by
  rw [add_sub_cancel, h, add_sub_cancel]

theorem postCell_prepared (norm denorm : ℝ → ℝ) (z trend mean : ℝ) (h : denorm (norm (z - trend)) = z - trend) :
    postCell denorm mean trend (norm (z - trend) - mean) = z := by
  rw [postCell, sub_add_cancel, h, sub_add_cancel]

/-- the round trip on the model's own definitions: post-processing (`postCell`) undoes the data preparation
    (`prepCond`) at datum `j`, whatever the mean and trend are, given `denorm ∘ norm = id` on the detrended datum -/
theorem roundtrip_post_model (L : Layout) (norm denorm : ℝ → ℝ) (val trend mean : Nat → ℝ) (j : Nat) (hj : j < L.n)
    (h : denorm (norm (val j - trend j)) = val j - trend j) :
    postCell denorm (mean j) (trend j) (prepCond L norm val trend mean j) = val j := by
  rw [C05.prepCond_data L norm val trend mean j hj]
  exact postCell_prepared norm denorm _ _ _ h

/-- **exact interpolation through mean, normaliser and trend**: with `M` inverting the assembled matrix and a
    target coinciding with conditioning point `j` (so that mean and trend at the target are those at `j`), the
    post-processed kriging field returns the conditioning value itself -/
theorem exact_at_data_post (L : Layout) (C : Nat → Nat → ℝ) (err : Nat → ℝ) (F E : Nat → Nat → ℝ)
    (c f e : Nat → Nat → ℝ) (M : Nat → Nat → ℝ)
    (hMK : toMat L.size M * toMat L.size (assembleK L C err F E) = 1)
    (norm denorm : ℝ → ℝ) (val trend mean : Nat → ℝ) (j p : Nat) (hj : j < L.n)
    (hc : ∀ i, i < L.n → c i p = if i = j then C i j + err i else C i j)
    (hf : ∀ r, f r p = F r j) (he : ∀ r, e r p = E r j)
    (h : denorm (norm (val j - trend j)) = val j - trend j) :
    postCell denorm (mean j) (trend j)
      (krigeFieldCell M (assembleRHS L false c f e) (prepCond L norm val trend mean) L.size p ((0:Nat):ℝ)) = val j := by
  rw [prepCond,
    (exact_at_data_model L C err F E c f e M hMK (fun i => norm (val i - trend i)) mean j p hj hc hf he 0).1]
  exact postCell_prepared norm denorm _ _ _ h

/-- premises satisfiable with a genuinely non-linear pair: squaring and the positive root on a positive datum -/
example : (fun y : ℝ => Real.sqrt y) ((fun x : ℝ => x * x) (3 - 1)) = 3 - 1 :=
  Real.sqrt_mul_self (by norm_num : (0:ℝ) ≤ 3 - 1)

/-- premises satisfiable: identity normaliser, concrete numbers -/
example : (0:ℝ) + id (1 + (id (3 - 0) - 1)) = 3 := by norm_num

/-- the variance a kriging call returns is never negative (the clip, `C05.clipVar_nonneg`) -/
theorem var_nonneg (sill q : ℝ) : 0 ≤ clipVar sill q := clipVar_nonneg sill q

/-- simple kriging (positive definite `K`, `M` its inverse): variance in `[0, sill]` -/
theorem var_le_sill_simple {s : Nat} (K M : Matrix (Fin s) (Fin s) ℝ) (k : Fin s → ℝ) (hMK : M * K = 1)
    (hK : K.PosDef) (sill : ℝ) (hs : 0 ≤ sill) :
    0 ≤ clipVar sill (k ⬝ᵥ (M *ᵥ k)) ∧ clipVar sill (k ⬝ᵥ (M *ᵥ k)) ≤ sill :=
  clipVar_bounds sill _ (C05.var_le_sill_simple K M k hMK hK sill).1 hs

end GSV.Props.C06
