/-
  Tie A for the closed-form correlation functions (C03), EXACT form — informative, not an obligation of `./check C03`.

  The kernels of `GSV.Model.CovFn` are equal to the definitions regenerated from `covmodel/models.py` / `tpl_models.py`
  (`GSV/Gen/CorFormulas.lean`) on EVERY carrier `α` by `rfl` (`SuperSpherical.cor` after rewriting with its hypothesis
  on `hyp2f1`): the two texts have the same operator tree
  (`np.minimum / np.maximum` are the model's `fmin / fmax`, the boolean-mask assignment of `Circular.cor` is the model's
  `if`), hence also on `Float`.  Brittle by design: a behaviour-preserving regrouping of a source formula breaks the
  `rfl`.  The registered obligations are the `ℝ`-level theorems `GSV.Props.GenTieCor.*_eq_model_real`; the theorems of
  this file are audited on every run and reported under `coverage.informative` of the evidence.
-/
import GSV.Props.GenTieCor

set_option linter.unusedSectionVars false

namespace GSV.Props.GenTieCorExact
open GSV GSV.Transc GSV.PyExpr GSV.Model.CovFn GSV.Gen.CorFormulas GSV.Props.GenTieCor

variable {α : Type} [Arith α] [Transc α] [DecidableLT α] [DecidableLE α]

theorem Gaussian_cor_eq_model (h : α) : Gaussian.cor h = gaussianCor h := rfl
theorem Exponential_cor_eq_model (h : α) : Exponential.cor h = exponentialCor h := rfl
theorem Stable_cor_eq_model (alpha h : α) : Stable.cor alpha h = stableCor alpha h := rfl
theorem Rational_cor_eq_model (alpha h : α) : Rational.cor alpha h = rationalCor alpha h := rfl
theorem Cubic_cor_eq_model (h : α) : Cubic.cor h = cubicCor h := rfl
theorem Linear_cor_eq_model (h : α) : Linear.cor h = linearCor h := rfl
theorem Circular_cor_eq_model (h : α) : Circular.cor h = circularCor h := rfl
theorem Spherical_cor_eq_model (h : α) : Spherical.cor h = sphericalCor h := rfl
theorem TPLSimple_cor_eq_model (nu h : α) : TPLSimple.cor nu h = tplSimpleCor nu h := rfl

theorem Gaussian_calc_integral_scale_eq_model (p : Par α) :
    Gaussian.calc_integral_scale (lenRescaled p) = gaussianCalcIS p := rfl
theorem Exponential_calc_integral_scale_eq_model (p : Par α) :
    Exponential.calc_integral_scale (lenRescaled p) = exponentialCalcIS p := rfl
theorem Integral_calc_integral_scale_eq_model (nu : α) (p : Par α) :
    Integral.calc_integral_scale (lenRescaled p) nu = integralCalcIS nu p := rfl

theorem SuperSpherical_cor_eq_model (sps : Sps α) (n : Nat)
    (H : ∀ x : α, sps.hyp2f1 (0.5:α) (-((n:Nat):α)) (1.5:α) x = hyp2f1HalfNegNat n x) (h : α) :
    SuperSpherical.cor sps ((n:Nat):α) h = superSphericalNatCor n h := by
  simp only [SuperSpherical.cor, superSphericalNatCor, H]

end GSV.Props.GenTieCorExact
