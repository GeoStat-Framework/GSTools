/-
  Structured = unstructured on the expanded grid (used by C05 `structured_eq_unstructured` and C11 mesh-type
  independence).

  `Field.structured` evaluates a pointwise computation on `generate_grid(pos)` (meshgrid `ij`, C order) and
  reshapes the flat result to the grid shape (C order).  For ANY pointwise function `F`, any dimension and
  any axis lengths, the entry of the reshaped array at a multi-index `is` is `F` at the grid point with
  those axis coordinates: the mixed-radix encode/decode round trip.  Law-free (no arithmetic on the values).
-/
import GSV.Model.Grid
import Mathlib.Tactic.Ring
import Mathlib.Tactic.Linarith
import Mathlib.Algebra.Order.Ring.Nat
namespace GSV.Props.Grid
open GSV GSV.Model.Grid

theorem valid_length : ∀ {dims is : List Nat}, Valid dims is → is.length = dims.length
  | [], [], _ => rfl
  | _ :: _, _ :: _, h => by simp [valid_length h.2]
  | [], _ :: _, h => h.elim
  | _ :: _, [], h => h.elim

/-- a valid multi-index encodes to a flat index inside the array -/
theorem encode_lt : ∀ {dims is : List Nat}, Valid dims is → encode dims is < dims.prod
  | [], [], _ => by simp [encode]
  | d :: ds, i :: is, h => by
    have ih := encode_lt h.2
    have hi : i + 1 ≤ d := h.1
    simp only [encode, List.prod_cons]
    calc i * ds.prod + encode ds is < i * ds.prod + ds.prod := by omega
      _ = (i + 1) * ds.prod := by ring
      _ ≤ d * ds.prod := Nat.mul_le_mul_right _ hi
  | [], _ :: _, h => h.elim
  | _ :: _, [], h => h.elim

/-- C-order flattening loses nothing: the flat position of a valid multi-index decodes back to that multi-index -/
theorem decode_encode : ∀ {dims is : List Nat}, Valid dims is → decode dims (encode dims is) = is
  | [], [], _ => rfl
  | d :: ds, i :: is, h => by
    have hlt := encode_lt h.2
    have hpos : 0 < ds.prod := by omega
    simp only [encode, decode]
    rw [Nat.add_comm, Nat.add_mul_div_right _ _ hpos, Nat.div_eq_of_lt hlt, Nat.zero_add,
      Nat.add_mul_mod_self_right, Nat.mod_eq_of_lt hlt, decode_encode h.2]
  | [], _ :: _, h => h.elim
  | _ :: _, [], h => h.elim

/-- decoding a flat index inside the array gives a valid multi-index -/
theorem decode_valid : ∀ (dims : List Nat) (n : Nat), n < dims.prod → Valid dims (decode dims n)
  | [], _, _ => trivial
  | d :: ds, n, h => by
    simp only [List.prod_cons] at h
    have hpos : 0 < ds.prod := Nat.pos_of_mul_pos_left (Nat.zero_lt_of_lt h)
    refine ⟨?_, decode_valid ds _ (Nat.mod_lt _ hpos)⟩
    exact (Nat.div_lt_iff_lt_mul hpos).2 h

/-- a flat position inside the array is the C-order position of the multi-index it decodes to -/
theorem encode_decode : ∀ (dims : List Nat) (n : Nat), n < dims.prod → encode dims (decode dims n) = n
  | [], n, h => by simp at h; simp [encode, h]
  | d :: ds, n, h => by
    simp only [List.prod_cons] at h
    have hpos : 0 < ds.prod := Nat.pos_of_mul_pos_left (Nat.zero_lt_of_lt h)
    simp only [decode, encode]
    rw [encode_decode ds _ (Nat.mod_lt _ hpos)]
    exact Nat.div_add_mod' n ds.prod

variable {α β : Type} [Inhabited α]

theorem genGrid_length (axes : List (List α)) : (genGrid axes).length = (axes.map List.length).prod := by
  simp [genGrid]

/-- column `n` of `generate_grid` is the grid point whose multi-index is the C-order decoding of `n` -/
theorem genGrid_get (axes : List (List α)) (n : Nat) (h : n < (axes.map List.length).prod) :
    (genGrid axes)[n]'(by rw [genGrid_length]; exact h) = pointAt axes (decode (axes.map List.length) n) := by
  simp [genGrid]

/-- **structured = unstructured**: evaluate any pointwise `F` on the expanded point list, read the flat result at
    the C-order position of the multi-index `is` (that is what `reshape` to the grid shape exposes as entry `is`):
    it is `F` at the grid point with axis coordinates `is` — for every dimension, every axis length. -/
theorem structured_eq_unstructured (F : List α → β) (axes : List (List α)) (is : List Nat)
    (h : Valid (axes.map List.length) is) :
    ((genGrid axes).map F)[encode (axes.map List.length) is]'(by
        rw [List.length_map, genGrid_length]; exact encode_lt h) = F (pointAt axes is) := by
  rw [List.getElem_map, genGrid_get axes _ (encode_lt h), decode_encode h]

/-- every flat position is the C-order position of a valid multi-index (so the reshaped array has no other entries);
    by `decode_encode` no second multi-index has the same position -/
theorem flat_index_surjective (dims : List Nat) (n : Nat) (h : n < dims.prod) :
    ∃ is, Valid dims is ∧ encode dims is = n :=
  ⟨decode dims n, decode_valid dims n h, encode_decode dims n h⟩

/-- the coordinate along axis `k` of a grid point is the `is[k]`-th entry of axis `k` -/
theorem pointAt_get (axes : List (List α)) (is : List Nat) (k : Nat) (hk : k < axes.length) (hk' : k < is.length) :
    (pointAt axes is).getD k default = (axes[k]).getD (is[k]) default := by
  simp [pointAt, List.getD_eq_getElem?_getD, hk, hk']

/-- non-vacuity / concrete instance: a 2 x 3 grid, entry (1, 2) -/
example : ((genGrid [[10, 20], [1, 2, 3]]).map (fun p : List Nat => p.sum))[encode [2, 3] [1, 2]]'(by decide) = 23 := by
  decide

end GSV.Props.Grid
