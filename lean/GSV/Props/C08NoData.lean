/-
  C08 — missing-value sentinels of the estimators' glue (`vario_estimate_axis(no_data=…)`, `vario_estimate(no_data=…)`):
  the sentinel is a value.  A cell equal to the sentinel is excluded whatever the sentinel is — in particular `0` —, a NaN
  sentinel means "NaN cells", masked cells are always excluded.  `axisMissing` is the model of the glue's missing-cell rule;
  that its values are the mask handed to `ma_structured` (whose masked pairs the kernel skips, `C08.ma_structured_eq_definition`)
  is tied by correspondence (driver operation `vario_axis_missing`), not by a theorem.
-/
import GSV.RealInst
import GSV.Model.Vario
import Mathlib.Tactic.NormNum
namespace GSV.Props.C08NoData
open GSV GSV.Transc GSV.Model.Vario

set_option linter.unusedSectionVars false

section lawfree
variable {α : Type} [Arith α] [Transc α] [DecidableLT α] [DecidableLE α]

/-- a masked cell is missing, whatever the sentinel and the value underneath -/
theorem axisMissing_masked (nd v : α) : axisMissing true nd v = true := by
  simp [axisMissing]

/-- NaN sentinel (the default): missing = masked or NaN -/
theorem axisMissing_nan_sentinel (m : Bool) (nd v : α) (h : isnan nd = true) :
    axisMissing m nd v = (m || isnan v) := by
  simp [axisMissing, h]

/-- any other sentinel: missing = masked or `isclose(value, sentinel)`; nothing else about the sentinel (its sign, its
    truthiness, its type) enters -/
theorem axisMissing_value_sentinel (m : Bool) (nd v : α) (h : isnan nd = false) :
    axisMissing m nd v = (m || isclose v nd) := by
  simp [axisMissing, h]

/-- `vario_estimate(no_data=nd)`: an unmasked value that is close to the sentinel reaches the kernel as NaN -/
theorem cellValue_close_sentinel (nan nd : α) (f : Nat → Nat → α) (fmask : Nat → Nat → Bool) (m p : Nat)
    (hm : fmask m p = false) (hc : isclose (f m p) nd = true) :
    cellValue nan f fmask (some nd) m p = nan := by
  simp [cellValue, hm, hc]

/-- … and a value that is not close to it is handed on unchanged -/
theorem cellValue_far_sentinel (nan nd : α) (f : Nat → Nat → α) (fmask : Nat → Nat → Bool) (m p : Nat)
    (hm : fmask m p = false) (hc : isclose (f m p) nd = false) :
    cellValue nan f fmask (some nd) m p = f m p := by
  simp [cellValue, hm, hc]

end lawfree

/-- every value is close to itself: a cell holding the sentinel is always hit -/
theorem isclose_self (v : ℝ) : isclose v v = true := by
  unfold isclose
  simp only [sub_self, fabs_real, abs_zero, decide_eq_true_eq]
  exact add_nonneg (by norm_num) (mul_nonneg (by norm_num) (abs_nonneg v))

/-- the sentinel `0`: exactly the cells with `|v| ≤ 1e-8` (the absolute tolerance of `np.isclose`) -/
theorem isclose_zero_iff (v : ℝ) : isclose v 0 = true ↔ |v| ≤ (1e-8 : ℝ) := by
  unfold isclose
  simp only [sub_zero, fabs_real, abs_zero, mul_zero, add_zero, decide_eq_true_eq]

/-- a cell holding the sentinel is missing — for EVERY sentinel value, `0` included -/
theorem axisMissing_hits_sentinel (m : Bool) (nd : ℝ) : axisMissing m nd nd = true := by
  simp [axisMissing, isclose_self]

/-- with the sentinel `0` an unmasked cell is missing iff it is zero up to the absolute tolerance -/
theorem axisMissing_zero_sentinel (v : ℝ) : axisMissing false 0 v = true ↔ |v| ≤ (1e-8 : ℝ) := by
  simp [axisMissing, isclose_zero_iff]

/-- a cell far from the sentinel (relative 1e-5, absolute 1e-8) is kept -/
theorem axisMissing_far (nd v : ℝ) (h : (1e-8 : ℝ) + (1e-5 : ℝ) * |nd| < |v - nd|) : axisMissing false nd v = false := by
  simp only [axisMissing, isnan_real, Bool.false_or, Bool.false_eq_true, if_false]
  unfold isclose
  simp only [fabs_real, decide_eq_false_iff_not, not_le]
  exact h

/-- `vario_estimate(no_data=nd)`: an unmasked value equal to the sentinel reaches the kernel as the missing marker -/
theorem cellValue_hits_sentinel (nan nd : ℝ) (f : Nat → Nat → ℝ) (fmask : Nat → Nat → Bool) (m p : Nat)
    (hm : fmask m p = false) (hv : f m p = nd) :
    cellValue nan f fmask (some nd) m p = nan :=
  cellValue_close_sentinel nan nd f fmask m p hm (by rw [hv]; exact isclose_self nd)

/-- the sentinel `0` hits a zero cell and misses the cell `1`; the sentinel `-9999` misses a zero cell -/
example : axisMissing false (0:ℝ) 0 = true := axisMissing_hits_sentinel false 0
example : axisMissing false (0:ℝ) 1 = false := axisMissing_far 0 1 (by norm_num)
example : axisMissing false (-9999:ℝ) 0 = false := axisMissing_far (-9999) 0 (by norm_num)

end GSV.Props.C08NoData
