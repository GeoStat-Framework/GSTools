/-
  Tie A for the integral scales with `Γ` (C03): `stableCalcIS`, `maternCalcIS`, `rationalCalcIS` (`Props/C03.lean`, with Mathlib's `Real.Gamma`),
  which `GSV.Props.C03.reported_integral_scale_special` proves to be the integral of the correlation, are the definitions
  regenerated from `Stable / Matern / Rational.calc_integral_scale` in `src/gstools/covmodel/models.py`
  (`GSV/Gen/CorFormulas.lean`) once the uninterpreted `sps.gamma` / `sps.beta` are read as `Γ` and
  `B(a, b) = Γ(a) Γ(b) / Γ(a + b)`; that scipy computes these functions is trusted.  Over `ℝ`, for all arguments, no side
  condition.  A file apart from `GenTieCor.lean` because it imports `GSV.Props.C03`.
-/
import GSV.Props.C03
import GSV.Props.GenTieReal
import GSV.Gen.CorFormulas

namespace GSV.Props.GenTieCorGamma
open GSV GSV.Transc GSV.PyExpr GSV.Model.CovFn GSV.Gen.CorFormulas GSV.Props.C03 GSV.Props.GenTieReal

/-- `scipy.special` with `gamma = Γ` and `beta = B` (the other functions are irrelevant here) -/
noncomputable def gammaSps : Sps ℝ where
  erf := id
  erfinv := id
  gamma := Real.Gamma
  loggamma := fun x => Real.log (Real.Gamma x)
  beta := fun a b => Real.Gamma a * Real.Gamma b / Real.Gamma (a + b)
  kv := fun _ x => x
  jv := fun _ x => x
  hyp2f1 := fun _ _ _ x => x

theorem Stable_calc_integral_scale_eq_model_real (sps : Sps ℝ) (hΓ : ∀ x, sps.gamma x = Real.Gamma x)
    (a : ℝ) (p : Par ℝ) : Stable.calc_integral_scale sps a (lenRescaled p) = stableCalcIS a p := by
  tie_real [Stable.calc_integral_scale, stableCalcIS, hΓ]

theorem Matern_calc_integral_scale_eq_model_real (sps : Sps ℝ)
    (hB : ∀ a b, sps.beta a b = Real.Gamma a * Real.Gamma b / Real.Gamma (a + b))
    (nu : ℝ) (p : Par ℝ) : Matern.calc_integral_scale sps (lenRescaled p) nu = maternCalcIS nu p := by
  tie_real [Matern.calc_integral_scale, maternCalcIS, hB]

theorem Rational_calc_integral_scale_eq_model_real (sps : Sps ℝ) (hΓ : ∀ x, sps.gamma x = Real.Gamma x)
    (a : ℝ) (p : Par ℝ) : Rational.calc_integral_scale sps a (lenRescaled p) = rationalCalcIS a p := by
  tie_real [Rational.calc_integral_scale, rationalCalcIS, hΓ]

/-- the hypotheses are satisfiable -/
example : (∀ x, gammaSps.gamma x = Real.Gamma x)
    ∧ ∀ a b, gammaSps.beta a b = Real.Gamma a * Real.Gamma b / Real.Gamma (a + b) :=
  ⟨fun _ => rfl, fun _ _ => rfl⟩

end GSV.Props.GenTieCorGamma
