/-
  C18 — Normalizers are invertible monotone maps; the mean/norm/trend pipeline is exact.

  All theorems are about the executable model `GSV.Model.Norm` (hand-written from
  `gstools/normalizer/{base,methods,tools}.py`; tied to the real code by the regenerated formulas of
  `Props/GenTieNorm` and by differential execution) at `ℝ`,
  for EVERY class (`k : Kind`, incl. the identity base class) and EVERY parameter value `p` — both signs of
  `lmbda`, the special values `0`, `2` and the `np.isclose` bands around them (`c0 p`, `c2 p` are computed
  from `lmbda` by the model's `isclose`, see `Lemmas.Norm.c0_iff`, `c2_iff`).
  The masking theorems (`nan_and_out_of_range`) are law-free: they hold on any carrier, also on `Float`.
-/
import GSV.RealInst
import GSV.Model.Norm
import GSV.Lemmas.Norm

namespace GSV.Props.C18
open GSV GSV.Model.Norm GSV.Lemmas.Norm Real

/-! ### the image of the valid input range -/

/-- The true image of `normalize_range` under `_normalize`.  For LogNormal/BoxCox/BoxCoxShift/Manly (and the
    identity) this IS the declared `denormalize_range`; YeoJohnson and Modulus declare `(-inf, inf)` although
    the image is bounded when `lmbda < 0` (and, for YeoJohnson, `lmbda > 2`), see `image_full_*` and
    `norm_denorm_full_false`. -/
def Image (k : Kind) (p : Par ℝ) (y : ℝ) : Prop :=
  match k with
  | .yeoJohnson => GD (c0 p) p.lmbda (c2 p) (2 - p.lmbda) y
  | .modulus => GD (c0 p) p.lmbda (c0 p) p.lmbda y
  | k => valid (denormRange k p) y = true

/-- for every class except YeoJohnson and Modulus, `Image` is the declared `denormalize_range` -/
theorem image_eq_range (k : Kind) (p : Par ℝ) (y : ℝ) (hk : k ≠ .yeoJohnson) (hk' : k ≠ .modulus) :
    Image k p y ↔ valid (denormRange k p) y = true := by
  cases k
  case yeoJohnson => exact absurd rfl hk
  case modulus => exact absurd rfl hk'
  all_goals exact Iff.rfl

/-- the image lies inside the declared `denormalize_range` -/
theorem image_subset_range (k : Kind) (p : Par ℝ) (y : ℝ) (h : Image k p y) :
    valid (denormRange k p) y = true := by
  cases k
  case yeoJohnson => exact valid_full y
  case modulus => exact valid_full y
  all_goals exact h

/-- YeoJohnson with `0 ≤ lmbda ≤ 2` (outside the bands: `0 < lmbda < 2`): the image is all of `ℝ` -/
theorem image_full_yeoJohnson (p : Par ℝ) (y : ℝ) (h0 : 0 ≤ p.lmbda) (h2 : p.lmbda ≤ 2) :
    Image .yeoJohnson p y :=
  GD_of_nonneg _ _ h0 (sub_nonneg.mpr h2) y

/-- Modulus with `0 ≤ lmbda`: the image is all of `ℝ` -/
theorem image_full_modulus (p : Par ℝ) (y : ℝ) (h0 : 0 ≤ p.lmbda) : Image .modulus p y :=
  GD_of_nonneg _ _ h0 h0 y

/-- every class, once: `_normalize` is an increasing bijection of the valid input range onto `Image`, inverted by
    `_denormalize` — the Box–Cox core `T` (after `· + shift` for BoxCoxShift, after `exp` for Manly) or the two-sided `G` -/
theorem incrBij (k : Kind) (p : Par ℝ) :
    IncrBij (fun x => valid (normRange k p) x = true) (Image k p) (normRaw k p) (denormRaw k p) := by
  have hfull : ∀ x : ℝ, valid (⟨none, none⟩ : Rng ℝ) x = true ↔ True := fun x => iff_true_intro (valid_full x)
  cases k
  case identity => exact ⟨fun _ => valid_full _, fun _ => rfl, fun _ => valid_full _, fun _ => rfl, fun _ _ h => h⟩
  case logNormal =>
    exact (incrBij_T (by simp)).congr (valid_norm_logNormal p) (fun y => ⟨fun _ => Or.inl rfl, fun _ => valid_full y⟩)
      (normRaw_logNormal p) fun y _ => denormRaw_logNormal p y
  case boxCox =>
    exact (incrBij_T lmbda_ne_zero).congr (valid_norm_boxCox p) (valid_denorm (.inl rfl) p) (normRaw_boxCox p) fun y _ =>
      denormRaw_boxCox p y
  case boxCoxShift =>
    exact ((incrBij_T lmbda_ne_zero).comp (incrBij_add p.shift)).congr (valid_norm_boxCoxShift p) (valid_denorm (.inr (.inl rfl)) p)
      (normRaw_boxCoxShift p) fun y _ => denormRaw_boxCoxShift p y
  case yeoJohnson =>
    exact (incrBij_G lmbda_ne_zero two_sub_lmbda_ne_zero).congr hfull (fun _ => Iff.rfl) (normRaw_yeoJohnson p) fun y _ => denormRaw_yeoJohnson p y
  case modulus =>
    exact (incrBij_G lmbda_ne_zero lmbda_ne_zero).congr hfull (fun _ => Iff.rfl) (normRaw_modulus p) fun y _ => denormRaw_modulus p y
  case manly =>
    exact ((incrBij_T lmbda_ne_zero).comp incrBij_exp).congr hfull (valid_denorm (.inr (.inr rfl)) p) (normRaw_manly p) fun y hy =>
      denormRaw_manly hy

/-! ### round trips -/

/-- `_normalize` maps `normalize_range` into `denormalize_range` (so `denormalize ∘ normalize` never masks),
    and in fact into `Image`.  For Manly `lmbda < 0` the upper end of `denormalize_range` is `-1/lmbda` (D1). -/
theorem range_image (k : Kind) (p : Par ℝ) (x : ℝ) (hx : valid (normRange k p) x = true) :
    valid (denormRange k p) (normRaw k p x) = true ∧ Image k p (normRaw k p x) :=
  ⟨image_subset_range k p _ ((incrBij k p).map hx), (incrBij k p).map hx⟩

example : valid (normRange .manly (⟨-2, 0⟩ : Par ℝ)) 50 = true := valid_full _

/-- `_denormalize (_normalize x) = x` on the valid input range -/
theorem denorm_norm_raw (k : Kind) (p : Par ℝ) (x : ℝ) (hx : valid (normRange k p) x = true) :
    denormRaw k p (normRaw k p x) = x :=
  (incrBij k p).left_inv hx

/-- the public round trip: `denormalize(normalize(x)) = x`, no masking on the way -/
theorem denorm_norm (k : Kind) (p : Par ℝ) (x : ℝ) (hx : valid (normRange k p) x = true) :
    (Model.Norm.normalize k p x).bind (denormalize k p) = some x := by
  simp only [Model.Norm.normalize, hx, if_true, Option.bind_some, denormalize, (range_image k p x hx).1,
    denorm_norm_raw k p x hx]

example : valid (normRange .boxCox (⟨-0.5, 0⟩ : Par ℝ)) 3 = true :=
  (valid_norm_boxCox _ _).mpr (by norm_num)

/-- `_normalize (_denormalize y) = y` on the image, and `_denormalize y` is a valid input -/
theorem norm_denorm_raw (k : Kind) (p : Par ℝ) (y : ℝ) (hy : Image k p y) :
    valid (normRange k p) (denormRaw k p y) = true ∧ normRaw k p (denormRaw k p y) = y :=
  ⟨(incrBij k p).inv_map hy, (incrBij k p).right_inv hy⟩

/-- the public round trip `normalize(denormalize(y)) = y` on the image -/
theorem norm_denorm (k : Kind) (p : Par ℝ) (y : ℝ) (hy : Image k p y) :
    (denormalize k p y).bind (Model.Norm.normalize k p) = some y := by
  have h := norm_denorm_raw k p y hy
  simp only [denormalize, image_subset_range k p y hy, if_true, Option.bind_some, Model.Norm.normalize, h.1, h.2]

example : Image .manly (⟨-2, 0⟩ : Par ℝ) 0.25 :=
  (valid_denorm (.inr (.inr rfl)) _ _).mpr (Or.inr (by norm_num))

/-- `Image` is exactly the image of the valid input range under `_normalize` -/
theorem image_exact (k : Kind) (p : Par ℝ) (y : ℝ) :
    Image k p y ↔ ∃ x, valid (normRange k p) x = true ∧ normRaw k p x = y := by
  constructor
  · intro h; exact ⟨denormRaw k p y, norm_denorm_raw k p y h⟩
  · rintro ⟨x, hx, rfl⟩; exact (range_image k p x hx).2

/-- The statement "`normalize ∘ denormalize = id` on the DECLARED `denormalize_range`" is false for
    YeoJohnson: `lmbda = -1`, `y = 2` is inside the declared range `(-inf, inf)` but outside the image
    `(-inf, 1)`; the code returns `(-1)^(-1) - 1 = -2`, and `normalize(-2) = -26/3`. -/
def norm_denorm_on_declared_range_full : Prop :=
  ∀ (k : Kind) (p : Par ℝ) (y : ℝ), valid (denormRange k p) y = true →
    normRaw k p (denormRaw k p y) = y

/-- `norm_denorm_on_declared_range_full` fails for YeoJohnson at `lmbda = -1`, `y = 2` -/
theorem norm_denorm_full_false : ¬ norm_denorm_on_declared_range_full := by
  intro h
  -- the round trip at `y = 2` would put `2` into the image
  have hi : Image .yeoJohnson ⟨-1, 0⟩ 2 :=
    (image_exact _ _ _).mpr ⟨_, valid_full _, h .yeoJohnson ⟨-1, 0⟩ 2 (valid_full _)⟩
  rcases hi.1 zero_le_two with hc | hd
  · have := (c0_iff _).mp hc
    norm_num at this
  · norm_num at hd

/-! ### monotonicity -/

/-- normalisation is strictly increasing on the valid input range -/
theorem strict_mono (k : Kind) (p : Par ℝ) (x x' : ℝ) (hx : valid (normRange k p) x = true)
    (hx' : valid (normRange k p) x' = true) (hlt : x < x') : normRaw k p x < normRaw k p x' :=
  (incrBij k p).lt hx hx' hlt

example : valid (normRange .boxCoxShift (⟨-3, 1⟩ : Par ℝ)) (-0.5) = true :=
  (valid_norm_boxCoxShift _ _).mpr (by norm_num)

/-- `_denormalize` is strictly increasing on the image -/
theorem denorm_strict_mono (k : Kind) (p : Par ℝ) (y y' : ℝ) (hy : Image k p y) (hy' : Image k p y')
    (hlt : y < y') : denormRaw k p y < denormRaw k p y' :=
  (incrBij k p).symm.lt hy hy' hlt

/-! ### the reported derivative -/

/-- the `isclose` branches are taken only at the exact special values -/
def ExactBranches (k : Kind) (p : Par ℝ) : Prop :=
  (c0 p = true → p.lmbda = 0) ∧ (k = .yeoJohnson → c2 p = true → p.lmbda = 2)

/-- the reported derivative is the true derivative of `_normalize` on the valid input range — for every
    `lmbda` outside the `isclose` bands and for the exact special values `0` / `2`.  (Inside a band with
    `lmbda ≠ c` the code switches the transform to the limit form but keeps `lmbda` in the derivative:
    see `derivative_band_boxCox`, `derivative_band_manly`.) -/
theorem derivative_partial (k : Kind) (p : Par ℝ) (x : ℝ) (hx : valid (normRange k p) x = true)
    (he : ExactBranches k p) : HasDerivAt (normRaw k p) (derivRaw k p x) x := by
  cases k
  case identity => rw [derivRaw_identity]; exact hasDerivAt_id x
  case logNormal =>
    rw [funext (normRaw_logNormal p), derivRaw_logNormal]
    exact T_hasDerivAt (by simp) (by simp) ((valid_norm_logNormal p x).mp hx)
  case boxCox =>
    rw [funext (normRaw_boxCox p), derivRaw_boxCox]
    exact T_hasDerivAt lmbda_ne_zero he.1 ((valid_norm_boxCox p x).mp hx)
  case boxCoxShift =>
    rw [funext (normRaw_boxCoxShift p), derivRaw_boxCoxShift]
    exact HasDerivAt.comp_add_const x p.shift (T_hasDerivAt lmbda_ne_zero he.1 ((valid_norm_boxCoxShift p x).mp hx))
  case yeoJohnson =>
    rw [funext (normRaw_yeoJohnson p), derivRaw_yeoJohnson]
    exact G_hasDerivAt lmbda_ne_zero two_sub_lmbda_ne_zero (fun _ => he.1) fun _ hc => sub_eq_zero.mpr (he.2 rfl hc).symm
  case modulus =>
    rw [funext (normRaw_modulus p), derivRaw_modulus]
    exact G_hasDerivAt lmbda_ne_zero lmbda_ne_zero (fun _ => he.1) (fun _ => he.1)
  case manly =>
    rw [funext (normRaw_manly p), derivRaw_manly]
    exact (T_hasDerivAt lmbda_ne_zero he.1 (Real.exp_pos x)).comp x (Real.hasDerivAt_exp x)

/-- `ExactBranches` holds for every `lmbda` outside the two `isclose` bands -/
theorem exactBranches_of_outside (k : Kind) (p : Par ℝ) (h0 : 1e-8 < |p.lmbda|)
    (h2 : 1e-8 + 2e-5 < |p.lmbda - 2|) : ExactBranches k p :=
  ⟨fun hc => absurd ((c0_iff p).mp hc) (not_le.mpr h0), fun _ hc => absurd ((c2_iff p).mp hc) (not_le.mpr h2)⟩

/-- `ExactBranches` holds at `lmbda = 0` -/
theorem exactBranches_zero (k : Kind) (s : ℝ) : ExactBranches k ⟨0, s⟩ := by
  refine ⟨fun _ => rfl, fun _ hc => ?_⟩
  have := (c2_iff ⟨0, s⟩).mp hc
  norm_num at this

/-- `ExactBranches` holds at `lmbda = 2` -/
theorem exactBranches_two (k : Kind) (s : ℝ) : ExactBranches k ⟨2, s⟩ := by
  refine ⟨fun hc => ?_, fun _ _ => rfl⟩
  have := (c0_iff ⟨2, s⟩).mp hc
  norm_num at this

/-- the reported derivative is positive on the valid input range, for every parameter value, also inside
    the bands (so `log (derivative)` in the likelihood is defined) -/
theorem derivative_pos (k : Kind) (p : Par ℝ) (x : ℝ) (hx : valid (normRange k p) x = true) :
    0 < derivRaw k p x := by
  cases k
  case identity => rw [derivRaw_identity]; exact one_pos
  case logNormal => rw [derivRaw_logNormal]; exact Real.rpow_pos_of_pos ((valid_norm_logNormal p x).mp hx) _
  case boxCox => rw [derivRaw_boxCox]; exact Real.rpow_pos_of_pos ((valid_norm_boxCox p x).mp hx) _
  case boxCoxShift => rw [derivRaw_boxCoxShift]; exact Real.rpow_pos_of_pos ((valid_norm_boxCoxShift p x).mp hx) _
  case yeoJohnson => rw [derivRaw_yeoJohnson]; exact G'_pos _ _ x
  case modulus => rw [derivRaw_modulus]; exact G'_pos _ _ x
  case manly => exact Real.exp_pos _

/-- the `isclose` bands: `np.isclose(lmbda, 0)` is `|lmbda| ≤ 1e-8`, `np.isclose(lmbda, 2)` is
    `|lmbda - 2| ≤ 1e-8 + 2e-5` -/
theorem isclose_bands (p : Par ℝ) :
    (c0 p = true ↔ |p.lmbda| ≤ 1e-8) ∧ (c2 p = true ↔ |p.lmbda - 2| ≤ 1e-8 + 2e-5) :=
  ⟨c0_iff p, c2_iff p⟩

/-- inside the band around `0`, `_normalize` and `_denormalize` of every class except YeoJohnson are those of
    `lmbda = 0` -/
theorem band_eq_special (k : Kind) (p : Par ℝ) (hk : k ≠ .yeoJohnson) (hc : c0 p = true) (x : ℝ) :
    normRaw k p x = normRaw k ⟨0, p.shift⟩ x ∧ denormRaw k p x = denormRaw k ⟨0, p.shift⟩ x := by
  have hc' : c0 (⟨0, p.shift⟩ : Par ℝ) = true := c0_of_eq rfl
  cases k
  case yeoJohnson => exact absurd rfl hk
  all_goals simp [normRaw, denormRaw, hc, hc']

/-- inside the band around `0` the true derivative of `_normalize` (every class except YeoJohnson) is the one
    reported for `lmbda = 0`, not the reported `derivRaw k p x`, which keeps the non-zero `lmbda` (for BoxCox the
    two differ by the factor `x^lmbda`, see `derivative_band_boxCox`) -/
theorem derivative_band (k : Kind) (p : Par ℝ) (hk : k ≠ .yeoJohnson) (hc : c0 p = true) (x : ℝ)
    (hx : valid (normRange k p) x = true) :
    HasDerivAt (normRaw k p) (derivRaw k ⟨0, p.shift⟩ x) x := by
  have hx' : valid (normRange k (⟨0, p.shift⟩ : Par ℝ)) x = true := by
    cases k <;> exact hx
  rw [funext fun z => (band_eq_special k p hk hc z).1]
  exact derivative_partial k ⟨0, p.shift⟩ x hx' (exactBranches_zero k p.shift)

/-- BoxCox inside the band `|lmbda| ≤ 1e-8`: the transform is `log`, the reported derivative is
    `x^(lmbda-1)`; it equals the true derivative times `x^lmbda` -/
theorem derivative_band_boxCox (p : Par ℝ) (x : ℝ) (hx : 0 < x) (hc : c0 p = true) :
    HasDerivAt (normRaw .boxCox p) (derivRaw .boxCox p x / x ^ p.lmbda) x := by
  rw [funext (normRaw_boxCox p), hc, derivRaw_boxCox]; exact T_hasDerivAt_band hx

/-- Manly inside the band: the transform is the identity (true derivative `1`), reported `exp(lmbda·x)` -/
theorem derivative_band_manly (p : Par ℝ) (x : ℝ) (hc : c0 p = true) :
    HasDerivAt (normRaw .manly p) 1 x ∧ derivRaw .manly p x = Real.exp (x * p.lmbda) :=
  ⟨(hasDerivAt_id x).congr_of_eventuallyEq (.of_forall fun z => by rw [normRaw_manly, hc, T_true, Real.log_exp]; rfl),
    by simp [derivRaw]⟩

/-- the unrestricted statement "for every parameter value the reported derivative is the true derivative" -/
def derivative_full : Prop :=
  ∀ (k : Kind) (p : Par ℝ) (x : ℝ), valid (normRange k p) x = true →
    HasDerivAt (normRaw k p) (derivRaw k p x) x

/-- `derivative_full` is false of the code inside an `isclose` band: Manly with `lmbda = 1e-9` normalises with
    the identity (true derivative `1`) but reports `exp(1e-9 · x)`; at `x = 1` that is `≠ 1`. -/
theorem derivative_full_false : ¬ derivative_full := by
  intro h
  have hc : c0 (⟨1e-9, 0⟩ : Par ℝ) = true := (c0_iff _).mpr (by norm_num [abs_of_pos])
  have h1 := h .manly ⟨1e-9, 0⟩ 1 (valid_full _)
  have h2 := (derivative_band_manly ⟨1e-9, 0⟩ 1 hc).1
  have e := h1.unique h2
  rw [(derivative_band_manly ⟨1e-9, 0⟩ 1 hc).2, Real.exp_eq_one_iff] at e
  norm_num at e

example : c0 (⟨1e-9, 0⟩ : Par ℝ) = true := (c0_iff _).mpr (by norm_num [abs_of_pos])

/-! ### masking by `_check_input` -/

section Masking
variable {α : Type} [Arith α] [Transc α] [DecidableLT α] [DecidableLE α]

/-- `_check_input`: NaN data and data failing the range test give NaN (`none`) in `normalize`,
    `denormalize`, `derivative`; every other datum gives exactly the raw transform -/
theorem nan_and_out_of_range (k : Kind) (p : Par α) (x : α) :
    (isnan x = true → Model.Norm.normalize k p x = none ∧ denormalize k p x = none ∧ Model.Norm.derivative k p x = none) ∧
    (inRange (normRange k p) x = false → Model.Norm.normalize k p x = none ∧ Model.Norm.derivative k p x = none) ∧
    (inRange (denormRange k p) x = false → denormalize k p x = none) ∧
    (isnan x = false → inRange (normRange k p) x = true →
        Model.Norm.normalize k p x = some (normRaw k p x) ∧ Model.Norm.derivative k p x = some (derivRaw k p x)) ∧
    (isnan x = false → inRange (denormRange k p) x = true → denormalize k p x = some (denormRaw k p x)) := by
  refine ⟨fun h => ?_, fun h => ?_, fun h => ?_, fun h h' => ?_, fun h h' => ?_⟩ <;>
    simp [Model.Norm.normalize, denormalize, Model.Norm.derivative, valid, *]

omit [DecidableLE α] in
/-- the range test is skipped exactly when both ends are infinite, otherwise both comparisons are strict -/
theorem inRange_spec (r : Rng α) (x : α) :
    inRange r x = true ↔
      (r.lo = none ∧ r.hi = none) ∨
      (isinf x = false ∧ (∀ l, r.lo = some l → x > l) ∧ (∀ h, r.hi = some h → x < h)) := by
  rcases r with ⟨_ | l, _ | h⟩ <;> simp [inRange, and_assoc]

end Masking

/-- boundaries are excluded: `0` is not a valid BoxCox input, `-1/lmbda` not a valid output -/
theorem boundary_excluded (p : Par ℝ) (hc : c0 p = false) :
    Model.Norm.normalize .boxCox p 0 = none ∧ denormalize .boxCox p (-(1 / p.lmbda)) = none := by
  refine ⟨if_neg ?_, if_neg ?_⟩
  · rw [valid_norm_boxCox]; exact lt_irrefl _
  · rw [valid_denorm (.inl rfl), D, hc, neg_mul, one_div_mul_cancel (lmbda_ne_zero hc), add_neg_cancel]
    exact fun h => h.elim Bool.false_ne_true (lt_irrefl _)

/-! ### the mean / normalizer / trend pipeline -/

/-- `apply_mean_norm_trend` is `trend + denormalize(mean + raw)`, masked exactly when `denormalize` masks -/
theorem pipeline_apply (k : Kind) (p : Par ℝ) (mean trend raw : ℝ) :
    applyMNT k p mean trend raw =
      if valid (denormRange k p) (mean + raw) = true then some (trend + denormRaw k p (mean + raw)) else none := by
  simp only [applyMNT, denormalize, add_comm raw mean]
  split <;> simp [add_comm]

/-- removing trend, normalisation and mean inverts applying them (no masking on the way), whenever
    `mean + raw` lies in the image of the normalizer -/
theorem pipeline_remove_apply (k : Kind) (p : Par ℝ) (mean trend raw : ℝ) (h : Image k p (raw + mean)) :
    (applyMNT k p mean trend raw).bind (removeTNM k p mean trend) = some raw := by
  have hv := image_subset_range k p _ h
  have hr := norm_denorm_raw k p _ h
  simp only [applyMNT, denormalize, hv, if_true, Option.map_some, Option.bind_some, removeTNM, Model.Norm.normalize,
    add_sub_cancel_right, hr.1, hr.2]

/-- applying mean, denormalisation and trend inverts removing them, for every datum with `v - trend` in the
    valid input range (conditioning data of kriging) -/
theorem pipeline_apply_remove (k : Kind) (p : Par ℝ) (mean trend v : ℝ)
    (h : valid (normRange k p) (v - trend) = true) :
    (removeTNM k p mean trend v).bind (applyMNT k p mean trend) = some v := by
  have hi := range_image k p _ h
  have hr := denorm_norm_raw k p _ h
  simp only [removeTNM, Model.Norm.normalize, h, if_true, Option.map_some, Option.bind_some, applyMNT, denormalize,
    sub_add_cancel, hi.1, hr]

example : Image .yeoJohnson (⟨0.5, 0⟩ : Par ℝ) (-3 + 1) :=
  image_full_yeoJohnson _ _ (by norm_num) (by norm_num)

/-! ### log-likelihood -/

/-- Gaussian log-density `log N(y; μ, v)` -/
noncomputable def gaussLogPdf (μ v y : ℝ) : ℝ := -(1 / 2) * Real.log (2 * Real.pi * v) - (y - μ) ^ 2 / (2 * v)

/-- the log-likelihood of data `d` under "`normalize(x)` is `N(μ, v)`": Gaussian log-density of the normalised
    values plus the log-Jacobian `log (d normalize / dx)` (change of variables) -/
noncomputable def logLikGauss (k : Kind) (p : Par ℝ) (μ v : ℝ) (d : List ℝ) : ℝ :=
  (d.map fun x => gaussLogPdf μ v (normRaw k p x) + Real.log (derivRaw k p x)).sum

/-- hypotheses under which the code's formula is meaningful: some data, non-degenerate normalised sample,
    derivative not clipped by `np.maximum(1e-16, ·)` -/
structure LikOK (k : Kind) (p : Par ℝ) (d : List ℝ) : Prop where
  nonempty : d ≠ []
  var_pos : 0 < var (d.map (normRaw k p))
  not_clipped : ∀ x ∈ d, (1e-16 : ℝ) ≤ derivRaw k p x

private theorem logLikGauss_eq (k : Kind) (p : Par ℝ) (μ v : ℝ) (d : List ℝ) :
    logLikGauss k p μ v d =
      d.length * (-(1 / 2) * Real.log (2 * Real.pi * v))
        - (d.map fun x => (normRaw k p x - μ) ^ 2).sum / (2 * v)
        + (d.map fun x => Real.log (derivRaw k p x)).sum := by
  unfold logLikGauss gaussLogPdf
  exact sum_gauss d (normRaw k p) (fun x => Real.log (derivRaw k p x)) _ μ v

private theorem var_mul (k : Kind) (p : Par ℝ) (d : List ℝ) (hn : d ≠ []) :
    (d.map fun x => (normRaw k p x - mean (d.map (normRaw k p))) ^ 2).sum
      = d.length * var (d.map (normRaw k p)) := by
  rw [var_eq, mean_eq, List.map_map, List.length_map, mul_div_cancel₀ _ (length_ne hn)]; rfl

private theorem model_jac (k : Kind) (p : Par ℝ) (d : List ℝ) (h : ∀ x ∈ d, (1e-16 : ℝ) ≤ derivRaw k p x) :
    Model.Norm.sum (d.map fun x => Transc.log (fmax (1e-16:ℝ) (derivRaw k p x)))
      = (d.map fun x => Real.log (derivRaw k p x)).sum := by
  rw [sum_eq]; congr 1
  apply List.map_congr_left; intro x hx
  rw [fmax_of_le (h x hx)]; rfl

private theorem half_eq : (0.5 : ℝ) = 1 / 2 := by norm_num

/-- `kernel_loglikelihood` is `loglikelihood` without the additive constant `-n/2 (log 2π + 1)` -/
theorem kernel_loglik (k : Kind) (p : Par ℝ) (d : List ℝ) :
    logLikRaw k p d = kernelLLRaw k p d - d.length / 2 * (Real.log (2 * Real.pi) + 1) := by
  rw [logLikRaw, half_eq]
  simp only [log_real, pi_real, Nat.cast_ofNat, Nat.cast_one]
  ring

/-- `loglikelihood` IS the Gaussian log-likelihood of the normalised data with the maximum-likelihood
    estimates `μ̂ = mean`, `σ̂² = var` substituted, plus the Jacobian term -/
theorem loglik_is_profile_mle (k : Kind) (p : Par ℝ) (d : List ℝ) (h : LikOK k p d) :
    logLikRaw k p d =
      logLikGauss k p (mean (d.map (normRaw k p))) (var (d.map (normRaw k p))) d := by
  have hv := h.var_pos
  rw [kernel_loglik, kernelLLRaw, model_jac k p d h.not_clipped, logLikGauss_eq, var_mul k p d h.nonempty,
    Real.log_mul (by positivity) hv.ne', mul_div_mul_right _ _ hv.ne', half_eq]
  simp only [log_real]
  ring

/-- no Gaussian `(μ, v)` gives the data a larger likelihood than `loglikelihood` reports: the reported value is
    the maximum of the likelihood over the nuisance parameters (profile likelihood of the normalizer parameters) -/
theorem loglik_profile_max (k : Kind) (p : Par ℝ) (d : List ℝ) (h : LikOK k p d) (μ v : ℝ) (hv : 0 < v) :
    logLikGauss k p μ v d ≤ logLikRaw k p d := by
  rw [loglik_is_profile_mle k p d h, logLikGauss_eq, logLikGauss_eq, var_mul k p d h.nonempty]
  refine add_le_add_left (gauss_profile_le (Nat.cast_nonneg _) h.var_pos hv ?_) _
  -- squared deviations about `μ` dominate those about the mean
  rw [sum_sq_dev_mean d (normRaw k p) μ h.nonempty, var_mul k p d h.nonempty]
  exact le_add_of_nonneg_right (by positivity)

/-- the public functions evaluate the raw formulas on exactly the data that survive `_check_input` -/
theorem loglik_checked (k : Kind) (p : Par ℝ) (xs : List ℝ) :
    logLik k p xs = logLikRaw k p (xs.filter fun x => valid (normRange k p) x) ∧
    kernelLL k p xs = kernelLLRaw k p (xs.filter fun x => valid (normRange k p) x) := ⟨rfl, rfl⟩

example : LikOK .identity ⟨1, 0⟩ [0, 2] := by
  refine ⟨by simp, ?_, ?_⟩
  · rw [var_eq]; norm_num [normRaw]
  · intro x _
    rw [derivRaw_identity]; norm_num

/-! ### `Normalizer.fit(data, skip)`

  The optimiser is a parameter: `run : OptRun α` is any sequence of trial points handed to the objective and any
  result vector `x`, so the statements hold for every optimiser, also a failing one.  The bookkeeping theorems hold
  on any carrier (also `Float`), for arbitrary parameter names (`defaults` = keys of `default_parameter` of any
  subclass) and arbitrary `skip`. -/

section Fit
variable {α : Type} [Arith α]

/-- names that are skipped (or are no parameter at all) are never written: neither by the objective
    evaluations nor by the final write-back — bit-identical, whatever the optimiser does -/
theorem fit_skipped_untouched (defaults skip : List String) (s : Attrs α) (ub : Option (α × α))
    (ux : Option (List α)) (run : OptRun α) (n : String) (h : n ∈ skip ∨ n ∉ defaults) :
    (fit defaults s skip ub ux run).attrs n = s n ∧
    ∀ a ∈ (fit defaults s skip ub ux run).seen, a n = s n := by
  have hn : n ∉ paraNames (sortNames defaults) skip := by
    rw [mem_paraNames, mem_sortNames]
    rcases h with h | h
    · exact fun hc => hc.2 h
    · exact fun hc => h hc.1
  by_cases he : paraNames (sortNames defaults) skip = []
  · rw [fit_of_nil he]
    exact ⟨rfl, fun a ha => absurd ha List.not_mem_nil⟩
  · rw [fit_of_ne_nil rfl he]
    exact ⟨(writeBack_of_not_mem hn).trans (afterTrials_of_not_mem hn), seenStates_of_not_mem hn⟩

/-- the returned dictionary is the object's parameters by (sorted) name -/
theorem fit_ret_eq_object (defaults skip : List String) (s : Attrs α) (ub : Option (α × α))
    (ux : Option (List α)) (run : OptRun α) (hfree : paraNames (sortNames defaults) skip ≠ []) :
    (fit defaults s skip ub ux run).ret
      = (sortNames defaults).map fun n => (n, (fit defaults s skip ub ux run).attrs n) := by
  rw [fit_of_ne_nil rfl hfree]

/-- the keys of the returned dictionary are all parameter names, each once, and every value is the object's -/
theorem fit_ret_spec (defaults skip : List String) (s : Attrs α) (ub : Option (α × α))
    (ux : Option (List α)) (run : OptRun α) (hfree : paraNames (sortNames defaults) skip ≠ []) :
    ((fit defaults s skip ub ux run).ret.map Prod.fst).Perm defaults ∧
    ∀ nv ∈ (fit defaults s skip ub ux run).ret, nv.2 = (fit defaults s skip ub ux run).attrs nv.1 := by
  rw [fit_ret_eq_object defaults skip s ub ux run hfree]
  refine ⟨?_, ?_⟩
  · rw [List.map_map]
    have : (Prod.fst ∘ fun n => (n, (fit defaults s skip ub ux run).attrs n)) = id := rfl
    rw [this, List.map_id]; exact sortNames_perm defaults
  · intro nv hnv
    obtain ⟨n, _, rfl⟩ := List.mem_map.mp hnv
    rfl

/-- every free parameter receives its component of the optimiser's result `x` (not a trial value, not a
    component belonging to another name) -/
theorem fit_free_written (defaults skip : List String) (s : Attrs α) (ub : Option (α × α))
    (ux : Option (List α)) (run : OptRun α) (hnd : defaults.Nodup)
    (hlen : run.x.length = (paraNames (sortNames defaults) skip).length)
    (i : Nat) (hi : i < (paraNames (sortNames defaults) skip).length) :
    (fit defaults s skip ub ux run).attrs (paraNames (sortNames defaults) skip)[i] = run.x[i]'(hlen ▸ hi) := by
  have hfree : paraNames (sortNames defaults) skip ≠ [] := by
    intro he; rw [he] at hi; exact Nat.not_lt_zero _ hi
  rw [fit_of_ne_nil rfl hfree]
  exact writeBack_get _ (paraNames_nodup hnd) hlen hi

/-- nothing to fit (every parameter skipped, or a class without parameters): the object is unchanged, `{}` is
    returned with the warning, the optimiser is not called -/
theorem fit_none_free (defaults skip : List String) (s : Attrs α) (ub : Option (α × α))
    (ux : Option (List α)) (run : OptRun α) (h : ∀ n ∈ defaults, n ∈ skip) :
    (fit defaults s skip ub ux run).attrs = s ∧ (fit defaults s skip ub ux run).ret = [] ∧
    (fit defaults s skip ub ux run).warned = true ∧ (fit defaults s skip ub ux run).route = 0 ∧
    (fit defaults s skip ub ux run).seen = [] := by
  have he : paraNames (sortNames defaults) skip = [] :=
    List.eq_nil_iff_forall_not_mem.mpr fun n hn =>
      (mem_paraNames.mp hn).2 (h n (mem_sortNames.mp (mem_paraNames.mp hn).1))
  rw [fit_of_nil he]
  exact ⟨rfl, rfl, rfl, rfl, rfl⟩

/-- which scipy routine is used and with which defaults: one free parameter → `minimize_scalar` with the
    caller's bracket or `(-2, 2)`; several → `minimize` started at the caller's `x0` or at the current values
    of the FREE parameters -/
theorem fit_route (defaults skip : List String) (s : Attrs α) (ub : Option (α × α))
    (ux : Option (List α)) (run : OptRun α) (hfree : paraNames (sortNames defaults) skip ≠ []) :
    let r := fit defaults s skip ub ux run
    let free := paraNames (sortNames defaults) skip
    r.warned = false ∧
    (free.length = 1 → r.route = 1 ∧ r.x0 = none ∧ r.bracket = some (ub.getD (-((2:Nat):α), ((2:Nat):α)))) ∧
    (free.length ≠ 1 → r.route = 2 ∧ r.bracket = none ∧ r.x0 = some (ux.getD (free.map s))) := by
  intro r free
  simp only [r, free]
  rw [fit_of_ne_nil rfl hfree]
  refine ⟨rfl, fun h1 => ?_, fun h1 => ?_⟩
  · simp only [h1, if_true, and_self]
  · simp only [h1, if_false, and_self]

end Fit

/-- If the optimiser returns a minimiser of the objective it was handed (over all vectors of the right
    length), then the object ends up at parameters that minimise `J` over ALL parameter settings that agree
    with the start on the non-fitted names — for any function `J` of the object's parameters. -/
theorem fit_optimal (defaults skip : List String) (s : Attrs ℝ) (ub : Option (ℝ × ℝ)) (ux : Option (List ℝ))
    (run : OptRun ℝ) (J : Attrs ℝ → ℝ)
    (hx : run.x.length = (paraNames (sortNames defaults) skip).length)
    (hopt : ∀ t : List ℝ, t.length = (paraNames (sortNames defaults) skip).length →
      objective J s (paraNames (sortNames defaults) skip) run.x
        ≤ objective J s (paraNames (sortNames defaults) skip) t)
    (hfree : paraNames (sortNames defaults) skip ≠ [])
    (b : Attrs ℝ) (hb : ∀ n, n ∉ paraNames (sortNames defaults) skip → b n = s n) :
    J (fit defaults s skip ub ux run).attrs ≤ J b := by
  have hattrs : (fit defaults s skip ub ux run).attrs
      = writeBack s (paraNames (sortNames defaults) skip) run.x := by
    rw [fit_of_ne_nil rfl hfree]
    exact writeBack_congr (le_of_eq hx.symm) fun m hm => afterTrials_of_not_mem hm
  have hbeq : b = writeBack s (paraNames (sortNames defaults) skip)
      ((paraNames (sortNames defaults) skip).map b) := by
    funext m
    by_cases hm : m ∈ paraNames (sortNames defaults) skip
    · rw [writeBack_map _ _ _ hm]
    · rw [writeBack_of_not_mem hm, hb m hm]
  rw [hattrs, hbeq]
  exact hopt _ (List.length_map _)

/-- Fitted parameters agree with the maximum-likelihood definition, given a correct optimiser: for class
    `k` and data `d`, if the optimiser's `x` minimises `-kernel_loglikelihood` over the free parameters, then no
    parameter value `p'` that keeps the skipped parameters has a larger kernel log-likelihood than the fitted
    object. -/
theorem fit_is_mle (k : Kind) (data : List ℝ) (skip : List String) (s : Attrs ℝ) (ub : Option (ℝ × ℝ))
    (ux : Option (List ℝ)) (run : OptRun ℝ)
    (hx : run.x.length = (paraNames (sortNames (paramNames k)) skip).length)
    (hopt : ∀ t : List ℝ, t.length = (paraNames (sortNames (paramNames k)) skip).length →
      objective (negKLL k data) s (paraNames (sortNames (paramNames k)) skip) run.x
        ≤ objective (negKLL k data) s (paraNames (sortNames (paramNames k)) skip) t)
    (hfree : paraNames (sortNames (paramNames k)) skip ≠ [])
    (p' : Par ℝ)
    (hl : "lmbda" ∉ paraNames (sortNames (paramNames k)) skip → p'.lmbda = s "lmbda")
    (hs : "shift" ∉ paraNames (sortNames (paramNames k)) skip → p'.shift = s "shift") :
    kernelLL k p' data ≤ kernelLL k (parOf (fit (paramNames k) s skip ub ux run).attrs) data := by
  let b : Attrs ℝ := fun n => if n = "lmbda" then p'.lmbda else if n = "shift" then p'.shift else s n
  have hb : ∀ n, n ∉ paraNames (sortNames (paramNames k)) skip → b n = s n := by
    intro n hn
    by_cases h1 : n = "lmbda"
    · subst h1; simp only [b, if_true]; exact hl hn
    · by_cases h2 : n = "shift"
      · subst h2; simp only [b, h1, if_false, if_true]; exact hs hn
      · simp only [b, h1, h2, if_false]
  have hpar : parOf b = p' := by
    have : ("shift" : String) ≠ "lmbda" := by decide
    simp only [parOf, b, if_true, this, if_false]
  have := fit_optimal (paramNames k) skip s ub ux run (negKLL k data) hx hopt hfree b hb
  simp only [negKLL, hpar] at this
  exact neg_le_neg_iff.mp this

/-- under the hypotheses of `fit_is_mle` the fitted object also has the largest full log-likelihood among the
    parameter values `p'` that keep the same number of data in range -/
theorem fit_is_mle_loglik (k : Kind) (data : List ℝ) (skip : List String) (s : Attrs ℝ) (ub : Option (ℝ × ℝ))
    (ux : Option (List ℝ)) (run : OptRun ℝ)
    (hx : run.x.length = (paraNames (sortNames (paramNames k)) skip).length)
    (hopt : ∀ t : List ℝ, t.length = (paraNames (sortNames (paramNames k)) skip).length →
      objective (negKLL k data) s (paraNames (sortNames (paramNames k)) skip) run.x
        ≤ objective (negKLL k data) s (paraNames (sortNames (paramNames k)) skip) t)
    (hfree : paraNames (sortNames (paramNames k)) skip ≠ [])
    (p' : Par ℝ)
    (hl : "lmbda" ∉ paraNames (sortNames (paramNames k)) skip → p'.lmbda = s "lmbda")
    (hs : "shift" ∉ paraNames (sortNames (paramNames k)) skip → p'.shift = s "shift")
    (hn : (checked k p' data).length
        = (checked k (parOf (fit (paramNames k) s skip ub ux run).attrs) data).length) :
    logLik k p' data ≤ logLik k (parOf (fit (paramNames k) s skip ub ux run).attrs) data := by
  have h := fit_is_mle k data skip s ub ux run hx hopt hfree p' hl hs
  rw [logLik, logLik, kernel_loglik, kernel_loglik, hn]
  exact sub_le_sub_right h _

/-- the hypotheses are satisfiable and the statements not vacuous: `BoxCoxShift` (declared order `shift`, `lmbda`)
    with `lmbda` skipped and an optimiser that tries `7` and returns `3`: the shift becomes `3`, `lmbda` stays,
    the dictionary lists both in sorted order -/
example :
    let s : Attrs ℝ := initAttrs [("shift", 0), ("lmbda", 1)] [("lmbda", 0.5)]
    let r := fit (paramNames .boxCoxShift) s ["lmbda"] none none ⟨[[7]], [3]⟩
    r.attrs "shift" = 3 ∧ r.attrs "lmbda" = 0.5 ∧ r.ret = [("lmbda", 0.5), ("shift", 3)] ∧ r.route = 1 := by
  have e1 : ("shift" : String) ≠ "lmbda" := by decide
  have e2 : ("lmbda" : String) ≠ "shift" := by decide
  have e3 : ("lmbda" : String) < "shift" := by decide
  simp [fit, paramNames, sortNames, insertName, paraNames, afterTrials, writeBack, setAttr, initAttrs, e1, e2, e3,
    List.lookup]

/-- the optimality hypothesis of `fit_optimal` / `fit_is_mle` is satisfiable: for `J = (lmbda - 3)²` a run that
    returns `x = [3]` minimises the objective over all one-element vectors -/
example : ∀ t : List ℝ, t.length = (paraNames (sortNames ["lmbda"]) []).length →
    objective (fun a : Attrs ℝ => (a "lmbda" - 3) ^ 2) (fun _ => 1) (paraNames (sortNames ["lmbda"]) []) [3]
      ≤ objective (fun a : Attrs ℝ => (a "lmbda" - 3) ^ 2) (fun _ => 1) (paraNames (sortNames ["lmbda"]) []) t := by
  intro t ht
  match t, ht with
  | [v], _ =>
    simp only [objective, paraNames, sortNames, insertName, List.foldr, List.filter, List.contains, List.elem,
      Bool.not_false, writeBack, List.zip_cons_cons, List.zip_nil_right, List.foldl, setAttr, if_true]
    simpa using sq_nonneg (v - 3)

end GSV.Props.C18
