/-
  C05 — kriging estimates and variances solve the kriging equations.

  Law-free (holds for IEEE doubles): the chunk loop of `Krige.__call__` around the *generated* kernel is independent of
  chunk size and schedule; every target cell is the kernel's bilinear accumulation of its own right-hand-side column.
  Over ℝ: that accumulation is `zᵀ M k` / `kᵀ M k`; if `M` inverts the assembled matrix `K` the estimate is `Σ wᵢ zᵢ`
  with `w` *the* solution of `K w = k`, linear in the data, reproducing constants and drift functions, invariant under
  simultaneous permutation of the conditioning points.  Last: data preparation and post-processing, and the refresh
  protocol of one `Krige` object (`set_condition`, stored target positions).
-/
import GSV.Model.Krige
import GSV.Props.KernelKrige
import GSV.Lemmas.Sum
import Mathlib.LinearAlgebra.Matrix.NonsingularInverse
import Mathlib.LinearAlgebra.Matrix.PosDef
import Mathlib.Data.Matrix.Reflection
import Mathlib.Tactic.Ring
import Mathlib.Tactic.Linarith
namespace GSV.Props.C05
open GSV GSV.Props GSV.Model.Krige GSV.Krigesum Finset Matrix

set_option linter.unusedSectionVars false

section lawfree
variable {α : Type} [Arith α] [Transc α] [DecidableLT α] [DecidableLE α]

theorem chunk_bounds (cs pnt p : Nat) (hcs : 0 < cs) (hp : p < pnt) :
    chunkLo cs p ≤ p ∧ p - chunkLo cs p < chunkHi cs pnt p - chunkLo cs p := by
  have h1 : p / cs * cs ≤ p := Nat.div_mul_le_self p cs
  have h2 : p < (p / cs + 1) * cs := Nat.mul_comm cs _ ▸ Nat.lt_mul_div_succ p hcs
  exact ⟨h1, Nat.sub_lt_sub_right h1 (Nat.lt_min.mpr ⟨hp, h2⟩)⟩

theorem matVec_shift (M rhs : Nat → Nat → α) (m i lo q : Nat) :
    matVec M (fun i q => rhs i (lo + q)) m i q = matVec M rhs m i (lo + q) := rfl

theorem krigeFieldCell_shift (M rhs : Nat → Nat → α) (cond : Nat → α) (m lo q : Nat) (v : α) :
    krigeFieldCell M (fun i q => rhs i (lo + q)) cond m q v = krigeFieldCell M rhs cond m (lo + q) v := rfl

theorem krigeErrCell_shift (M rhs : Nat → Nat → α) (m lo q : Nat) (v : α) :
    krigeErrCell M (fun i q => rhs i (lo + q)) m q v = krigeErrCell M rhs m (lo + q) v := rfl

/-- **chunk / schedule independence of the estimate** (bit-exact): for every chunk size `cs ≥ 1` and
    every admissible schedule, target `p` receives the bilinear accumulation of column `p`. -/
theorem krigeCall_field (sched : Sched) (hs : sched.Admissible) (L : Layout) (M rhs : Nat → Nat → α)
    (cond : Nat → α) (sill : α) (pnt cs p : Nat) (hcs : 0 < cs) (hp : p < pnt) :
    (krigeCall sched L M rhs cond sill pnt cs).1 p = krigeFieldCell M rhs cond L.size p ((0:Nat):α) := by
  obtain ⟨h1, h2⟩ := chunk_bounds cs pnt p hcs hp
  simp only [krigeCall]
  rw [krige_fv_field_spec sched hs]
  simp only [h2, if_true, krigeFieldCell_shift]
  rw [Nat.add_sub_of_le h1]

/-- the variance `Krige.__call__` returns at target `p` is the clipped `sill − kᵀ M k` of column `p`, for every chunk size and
    every admissible schedule -/
theorem krigeCall_var (sched : Sched) (hs : sched.Admissible) (L : Layout) (M rhs : Nat → Nat → α)
    (cond : Nat → α) (sill : α) (pnt cs p : Nat) (hcs : 0 < cs) (hp : p < pnt) :
    (krigeCall sched L M rhs cond sill pnt cs).2 p = clipVar sill (krigeErrCell M rhs L.size p ((0:Nat):α)) := by
  obtain ⟨h1, h2⟩ := chunk_bounds cs pnt p hcs hp
  simp only [krigeCall]
  rw [krige_fv_error_spec sched hs]
  simp only [h2, if_true, krigeErrCell_shift]
  rw [Nat.add_sub_of_le h1]

/-- with `return_var=False` the call uses the field-only kernel: target `p` receives the bilinear accumulation of column `p` -/
theorem krigeCallField_eq (sched : Sched) (hs : sched.Admissible) (L : Layout) (M rhs : Nat → Nat → α)
    (cond : Nat → α) (pnt cs p : Nat) (hcs : 0 < cs) (hp : p < pnt) :
    krigeCallField sched L M rhs cond pnt cs p = krigeFieldCell M rhs cond L.size p ((0:Nat):α) := by
  obtain ⟨h1, h2⟩ := chunk_bounds cs pnt p hcs hp
  simp only [krigeCallField]
  rw [krige_f_spec sched hs]
  simp only [h2, if_true, krigeFieldCell_shift]
  rw [Nat.add_sub_of_le h1]

theorem krigeCall_congr {s₁ s₂ : Sched} (h₁ : s₁.Admissible) (h₂ : s₂.Admissible) {L L' : Layout}
    {M M' rhs rhs' : Nat → Nat → α} {cond cond' : Nat → α} (sill : α) {pnt c₁ c₂ p : Nat} (hc₁ : 0 < c₁) (hc₂ : 0 < c₂)
    (hp : p < pnt)
    (hf : krigeFieldCell M rhs cond L.size p ((0:Nat):α) = krigeFieldCell M' rhs' cond' L'.size p ((0:Nat):α))
    (hv : krigeErrCell M rhs L.size p ((0:Nat):α) = krigeErrCell M' rhs' L'.size p ((0:Nat):α)) :
    (krigeCall s₁ L M rhs cond sill pnt c₁).1 p = (krigeCall s₂ L' M' rhs' cond' sill pnt c₂).1 p ∧
    (krigeCall s₁ L M rhs cond sill pnt c₁).2 p = (krigeCall s₂ L' M' rhs' cond' sill pnt c₂).2 p := by
  rw [krigeCall_field s₁ h₁ _ _ _ _ _ _ _ _ hc₁ hp, krigeCall_field s₂ h₂ _ _ _ _ _ _ _ _ hc₂ hp,
      krigeCall_var s₁ h₁ _ _ _ _ _ _ _ _ hc₁ hp, krigeCall_var s₂ h₂ _ _ _ _ _ _ _ _ hc₂ hp, hf, hv]
  exact ⟨rfl, rfl⟩

/-- field and variance at a target do not depend on the chunk size or on the schedule of the parallel loop (bit-exact) -/
theorem chunk_independent (s₁ s₂ : Sched) (h₁ : s₁.Admissible) (h₂ : s₂.Admissible) (L : Layout)
    (M rhs : Nat → Nat → α) (cond : Nat → α) (sill : α) (pnt c₁ c₂ p : Nat) (hc₁ : 0 < c₁) (hc₂ : 0 < c₂) (hp : p < pnt) :
    (krigeCall s₁ L M rhs cond sill pnt c₁).1 p = (krigeCall s₂ L M rhs cond sill pnt c₂).1 p ∧
    (krigeCall s₁ L M rhs cond sill pnt c₁).2 p = (krigeCall s₂ L M rhs cond sill pnt c₂).2 p :=
  krigeCall_congr h₁ h₂ sill hc₁ hc₂ hp rfl rfl

/-- the value at a target depends only on that target's own right-hand-side column:
    reordering / subsetting / batching the targets permutes the results accordingly -/
theorem target_local (M rhs rhs' : Nat → Nat → α) (cond : Nat → α) (m p p' : Nat)
    (h : ∀ j, rhs j p = rhs' j p') (v : α) :
    krigeFieldCell M rhs cond m p v = krigeFieldCell M rhs' cond m p' v ∧
    krigeErrCell M rhs m p v = krigeErrCell M rhs' m p' v := by
  have hm : ∀ i, matVec M rhs m i p = matVec M rhs' m i p' := by
    intro i; unfold matVec; simp only [h]
  constructor
  · unfold krigeFieldCell; simp only [hm]
  · unfold krigeErrCell; simp only [hm, h]

/-- the variance returned is `0` or `sill - q`, the latter only when it is not negative (the clip), on any ordered carrier -/
theorem clipVar_cases (sill q : α) : clipVar sill q = ((0:Nat):α) ∨ (clipVar sill q = sill - q ∧ ¬ sill - q < ((0:Nat):α)) := by
  unfold clipVar; split
  · exact Or.inl rfl
  · rename_i h; exact Or.inr ⟨rfl, h⟩

section entries
variable {L : Layout} {C : Nat → Nat → α} {err : Nat → α} {F E : Nat → Nat → α} {om : Bool} {c f e : Nat → Nat → α} {i j p r : Nat}

theorem fStart_eq (L : Layout) : L.fStart = L.n + L.u := by
  rw [Layout.fStart, Layout.size, Nat.add_assoc (L.n + L.u), Nat.add_sub_cancel]

theorem eStart_eq (L : Layout) : L.eStart = L.n + L.u + L.nf :=
  Nat.add_sub_cancel _ _

theorem u_of_unb (hu : L.unb = true) : L.u = 1 := if_pos hu

theorem n_le_size (L : Layout) : L.n ≤ L.size := by
  unfold Layout.size; omega

theorem size_of_simple (hu : L.unb = false) (hnf : L.nf = 0) (hne : L.ne = 0) : L.size = L.n := by
  rw [Layout.size, Layout.u, hu, hnf, hne]
  rfl

/-- a border entry depends on the offset of its row from the first border row only, not on the number of
    conditioning points -/
theorem border_shift (L : Layout) (F E : Nat → Nat → α) (k j : Nat) : border L F E (L.n + k) j = border ⟨0, L.unb, L.nf, L.ne⟩ F E k j := by
  simp only [border, fStart_eq, eStart_eq, Layout.size, Layout.u, Nat.add_assoc, Nat.zero_add,
    Nat.add_le_add_iff_left, Nat.add_lt_add_iff_left, Nat.add_sub_add_left, Nat.add_eq_left]

/-- `border` reads its drift arrays only in the rows that exist -/
theorem border_congr {F' E' : Nat → Nat → α} {j' : Nat} (hF : ∀ r, r < L.nf → F r j = F' r j')
    (hE : ∀ r, r < L.ne → E r j = E' r j') (i : Nat) : border L F E i j = border L F' E' i j' := by
  have hf : L.fStart ≤ i ∧ i < L.eStart → i - L.fStart < L.nf := fun h =>
    Nat.sub_lt_left_of_lt_add h.1 (by rw [fStart_eq, ← eStart_eq]; exact h.2)
  have he : L.eStart ≤ i ∧ i < L.size → i - L.eStart < L.ne := fun h =>
    Nat.sub_lt_left_of_lt_add h.1 (by rw [eStart_eq]; exact h.2)
  unfold border
  exact ite_congr rfl (fun _ => rfl) fun _ => ite_congr rfl (fun h => hF _ (hf h)) fun _ =>
    ite_congr rfl (fun h => hE _ (he h)) fun _ => rfl

theorem border_data (hi : i < L.n) : border L F E i j = ((0:Nat):α) := by
  have hf : L.n ≤ L.fStart := fStart_eq L ▸ Nat.le_add_right _ _
  have he : L.n ≤ L.eStart := eStart_eq L ▸ (Nat.le_add_right _ _).trans (Nat.le_add_right _ _)
  rw [border, if_neg fun h => Nat.ne_of_lt hi h.2, if_neg fun h => Nat.not_le_of_gt hi (hf.trans h.1),
    if_neg fun h => Nat.not_le_of_gt hi (he.trans h.1)]

theorem border_unb (hu : L.unb = true) : border L F E L.n j = ((1:Nat):α) :=
  if_pos ⟨hu, rfl⟩

theorem border_fStart (hr : r < L.nf) : border L F E (L.fStart + r) j = F r j := by
  have h : ¬ (L.unb = true ∧ L.fStart + r = L.n) := fun ⟨hu, h⟩ => by
    rw [fStart_eq, u_of_unb hu] at h; omega
  have h2 : L.fStart + r < L.eStart := by rw [fStart_eq, eStart_eq]; exact Nat.add_lt_add_left hr _
  rw [border, if_neg h, if_pos ⟨Nat.le_add_right _ _, h2⟩, Nat.add_sub_cancel_left]

theorem border_eStart (hr : r < L.ne) : border L F E (L.eStart + r) j = E r j := by
  have h : ¬ (L.unb = true ∧ L.eStart + r = L.n) := fun ⟨hu, h⟩ => by
    rw [eStart_eq, u_of_unb hu] at h; omega
  have h1 : ¬ (L.fStart ≤ L.eStart + r ∧ L.eStart + r < L.eStart) := fun h => Nat.not_lt.mpr (Nat.le_add_right _ _) h.2
  have h2 : L.eStart + r < L.size := by rw [eStart_eq, Layout.size]; exact Nat.add_lt_add_left hr _
  rw [border, if_neg h, if_neg h1, if_pos ⟨Nat.le_add_right _ _, h2⟩, Nat.add_sub_cancel_left]

theorem assembleK_data (hi : i < L.n) (hj : j < L.n) :
    assembleK L C err F E i j = if i = j then C i j + err i else C i j :=
  if_pos ⟨hi, hj⟩

theorem assembleK_corner (hi : L.n ≤ i) (hj : L.n ≤ j) : assembleK L C err F E i j = ((0:Nat):α) := by
  rw [assembleK, if_neg (fun h => absurd h.1 (Nat.not_lt.mpr hi)), if_pos ⟨hi, hj⟩]

theorem assembleK_row (hi : L.n ≤ i) (hj : j < L.n) : assembleK L C err F E i j = border L F E i j := by
  rw [assembleK, if_neg (fun h => absurd h.1 (Nat.not_lt.mpr hi)), if_neg (fun h => absurd hj (Nat.not_lt.mpr h.2)),
    if_pos hi]

theorem assembleK_col (hi : i < L.n) (hj : L.n ≤ j) : assembleK L C err F E i j = border L F E j i := by
  rw [assembleK, if_neg (fun h => absurd h.2 (Nat.not_lt.mpr hj)), if_neg (fun h => absurd hi (Nat.not_lt.mpr h.1)),
    if_neg (Nat.not_le.mpr hi)]

theorem assembleRHS_data (hi : i < L.n) :
    assembleRHS L om c f e i p = if om then ((0:Nat):α) else c i p :=
  if_pos hi

theorem assembleRHS_border (hi : L.n ≤ i) : assembleRHS L om c f e i p = border L f e i p :=
  if_neg (Nat.not_lt.mpr hi)

end entries

end lawfree

/-- a model array as a Mathlib matrix / vector -/
def toMat (s : Nat) (A : Nat → Nat → ℝ) : Matrix (Fin s) (Fin s) ℝ := fun i j => A i j
def toVec (s : Nat) (v : Nat → ℝ) : Fin s → ℝ := fun i => v i
def col (s : Nat) (A : Nat → Nat → ℝ) (p : Nat) : Fin s → ℝ := fun i => A i p

theorem matVec_eq (M rhs : Nat → Nat → ℝ) (s i p : Nat) :
    matVec M rhs s i p = ∑ j : Fin s, M i j * rhs j p := by
  unfold matVec
  rw [forRange_cast_zero_add_eq_sum, Finset.sum_range]

/-- the estimate is the bilinear form `zᵀ M k` -/
theorem field_eq_bilinear (M rhs : Nat → Nat → ℝ) (cond : Nat → ℝ) (s p : Nat) :
    krigeFieldCell M rhs cond s p ((0:Nat):ℝ) = toVec s cond ⬝ᵥ (toMat s M *ᵥ col s rhs p) := by
  unfold krigeFieldCell
  rw [forRange_cast_zero_add_eq_sum, Finset.sum_range]
  simp only [dotProduct, mulVec, toVec, toMat, col, matVec_eq]

/-- the quantity subtracted from the sill is the quadratic form `kᵀ M k` -/
theorem err_eq_quadratic (M rhs : Nat → Nat → ℝ) (s p : Nat) :
    krigeErrCell M rhs s p ((0:Nat):ℝ) = col s rhs p ⬝ᵥ (toMat s M *ᵥ col s rhs p) := by
  unfold krigeErrCell
  rw [forRange_cast_zero_add_eq_sum, Finset.sum_range]
  simp only [dotProduct, mulVec, col, toMat, matVec_eq]

theorem cells_of_zero_column (M rhs : Nat → Nat → ℝ) (cond : Nat → ℝ) (s p : Nat)
    (h0 : ∀ i, i < s → rhs i p = 0) :
    krigeFieldCell M rhs cond s p ((0:Nat):ℝ) = 0 ∧ krigeErrCell M rhs s p ((0:Nat):ℝ) = 0 := by
  have hcol : col s rhs p = 0 := funext fun i => h0 i i.2
  rw [field_eq_bilinear, err_eq_quadratic, hcol, mulVec_zero, dotProduct_zero, dotProduct_zero]
  exact ⟨rfl, rfl⟩

section algebra
variable {s : Nat} (K M : Matrix (Fin s) (Fin s) ℝ) (z k : Fin s → ℝ)

/-- **the kriging equations**: if `M` is a left inverse of the assembled matrix `K`, the weights
    `w = M k` are *the* solution of `K w = k`, and the estimate is `Σ wᵢ zᵢ`, the variance term `Σ wᵢ kᵢ`. -/
theorem solves_system (hMK : M * K = 1) :
    K *ᵥ (M *ᵥ k) = k ∧ (∀ w, K *ᵥ w = k → w = M *ᵥ k) ∧
    z ⬝ᵥ (M *ᵥ k) = ∑ i, (M *ᵥ k) i * z i ∧ k ⬝ᵥ (M *ᵥ k) = ∑ i, (M *ᵥ k) i * k i := by
  refine ⟨?_, ?_, dotProduct_comm z _, dotProduct_comm k _⟩
  · rw [mulVec_mulVec, mul_eq_one_comm.mp hMK, one_mulVec]
  · intro w hw
    rw [← hw, mulVec_mulVec, hMK, one_mulVec]

/-- the estimate is linear in the conditioning values -/
theorem linear_in_data (z₁ z₂ : Fin s → ℝ) (a : ℝ) :
    (a • z₁ + z₂) ⬝ᵥ (M *ᵥ k) = a * (z₁ ⬝ᵥ (M *ᵥ k)) + z₂ ⬝ᵥ (M *ᵥ k) := by
  rw [add_dotProduct, smul_dotProduct, smul_eq_mul]

/-- **span reproduction**: data in the column space of a symmetric `K`, `z = K b`, are estimated as `b · k` -/
theorem reproduces_span (hMK : M * K = 1) (hK : K.IsSymm) (b : Fin s → ℝ) (hz : z = K *ᵥ b) :
    z ⬝ᵥ (M *ᵥ k) = b ⬝ᵥ k := by
  rw [hz, ← vecMul_transpose, ← dotProduct_mulVec, hK.eq, mulVec_mulVec, mul_eq_one_comm.mp hMK, one_mulVec]

/-- **border reproduction**: data that are `c` times column `r` of a symmetric `K` are estimated as
    `c · k_r`.  With `r` the unbiasedness row this is "constants are reproduced" (`k_r = 1`), with `r` a
    drift row "the drift function is reproduced" (`k_r = f(x_target)`), with `r = j < n` a datum see
    `exact_at_data`. -/
theorem reproduces_border (hMK : M * K = 1) (hK : K.IsSymm) (r : Fin s) (c : ℝ)
    (hz : z = fun i => c * K i r) : z ⬝ᵥ (M *ᵥ k) = c * k r := by
  rw [reproduces_span K M z k hMK hK (Pi.single r c), single_dotProduct]
  rw [hz, mulVec_single]
  funext i
  exact mul_comm _ _

/-- **exact interpolation** (C06): if the right-hand side of a target is column `j` of `K` (the target
    coincides with conditioning point `j` and the measurement error is zero or `exact` mode uses the
    nugget-aware covariance), the estimate is the datum `z_j` and the variance term is `K_jj`. -/
theorem exact_at_data (hMK : M * K = 1) (j : Fin s) (hk : k = fun i => K i j) :
    z ⬝ᵥ (M *ᵥ k) = z j ∧ k ⬝ᵥ (M *ᵥ k) = K j j := by
  have hw : M *ᵥ k = Pi.single j 1 := by
    rw [hk, show (fun i => K i j) = K *ᵥ Pi.single j 1 from (K.mulVec_single_one j).symm, mulVec_mulVec, hMK,
      one_mulVec]
  rw [hw, dotProduct_single_one, dotProduct_single_one, hk]
  exact ⟨rfl, rfl⟩

/-- invariance under a simultaneous permutation of conditioning points (rows, columns, data, rhs) -/
theorem cond_order_invariant (σ : Equiv.Perm (Fin s)) :
    (z ∘ σ) ⬝ᵥ ((M.submatrix σ σ) *ᵥ (k ∘ σ)) = z ⬝ᵥ (M *ᵥ k) ∧
    ((M.submatrix σ σ) * (K.submatrix σ σ) = 1 ↔ M * K = 1) := by
  constructor
  · rw [submatrix_mulVec_equiv, Function.comp_assoc, Equiv.self_comp_symm, Function.comp_id,
      comp_equiv_dotProduct_comp_equiv]
  · rw [submatrix_mul_equiv M K σ σ σ]
    constructor
    · intro h
      have := congrArg (fun A => A.submatrix σ.symm σ.symm) h
      simpa [submatrix_submatrix] using this
    · intro h; rw [h]; simp

/-- simple kriging: `K` positive definite ⇒ the quadratic form is non-negative ⇒ variance ≤ sill -/
theorem var_le_sill_simple (hMK : M * K = 1) (hK : K.PosDef) (sill : ℝ) :
    0 ≤ k ⬝ᵥ (M *ᵥ k) ∧ sill - k ⬝ᵥ (M *ᵥ k) ≤ sill := by
  -- with `w = M k` the quadratic form is `wᵀ K w`
  have hk : K *ᵥ (M *ᵥ k) = k := by rw [mulVec_mulVec, mul_eq_one_comm.mp hMK, one_mulVec]
  have hpos := hK.posSemidef.dotProduct_mulVec_nonneg (M *ᵥ k)
  rw [hk, star_trivial, dotProduct_comm] at hpos
  exact ⟨hpos, sub_le_self _ hpos⟩

end algebra

theorem one_fin_four : (1 : Matrix (Fin 4) (Fin 4) ℝ) = !![1, 0, 0, 0; 0, 1, 0, 0; 0, 0, 1, 0; 0, 0, 0, 1] :=
  (etaExpand_eq _).symm

/-- premises are satisfiable: the ordinary kriging system of one conditioning point (datum row and unbiasedness row) with an
    explicit inverse -/
example : ∃ (K M : Matrix (Fin 2) (Fin 2) ℝ), M * K = 1 ∧ K.IsSymm ∧ K ≠ 1 :=
  ⟨!![2, 1; 1, 0], !![0, 1; 1, -2], by rw [mul_fin_two, one_fin_two]; norm_num,
    (transposeᵣ_eq _).symm, by
      intro h; have := congrFun (congrFun h 0) 0; simp at this⟩

theorem clipVar_of_le (sill q : ℝ) (h : q ≤ sill) : clipVar sill q = sill - q :=
  if_neg (by rw [Nat.cast_zero, not_lt]; exact sub_nonneg.mpr h)

theorem clipVar_of_ge (sill q : ℝ) (h : sill ≤ q) : clipVar sill q = 0 := by
  rcases h.eq_or_lt with rfl | h
  · rw [clipVar_of_le _ _ le_rfl, sub_self]
  · exact (if_pos (by rw [Nat.cast_zero]; exact sub_neg.mpr h)).trans Nat.cast_zero

/-- the returned variance `max(sill − q, 0)` is never negative -/
theorem clipVar_nonneg (sill q : ℝ) : 0 ≤ clipVar sill q := by
  rcases le_total q sill with h | h
  · rw [clipVar_of_le _ _ h]; exact sub_nonneg.mpr h
  · rw [clipVar_of_ge _ _ h]

/-- for a non-negative quadratic form and a non-negative sill the returned variance lies in `[0, sill]` -/
theorem clipVar_bounds (sill q : ℝ) (hq : 0 ≤ q) (hs : 0 ≤ sill) :
    0 ≤ clipVar sill q ∧ clipVar sill q ≤ sill := by
  refine ⟨clipVar_nonneg sill q, ?_⟩
  rcases le_total q sill with h | h
  · rw [clipVar_of_le _ _ h]; exact sub_le_self _ hq
  · rw [clipVar_of_ge _ _ h]; exact hs

/-- the kriging matrix of `_get_krige_mat` is symmetric when the covariance block is: drift and unbiasedness rows mirror the
    columns -/
theorem assembleK_symm (L : Layout) (C : Nat → Nat → ℝ) (err : Nat → ℝ) (F E : Nat → Nat → ℝ)
    (hC : ∀ i j, C i j = C j i) (i j : Nat) :
    assembleK L C err F E i j = assembleK L C err F E j i := by
  rcases Nat.lt_or_ge i L.n with hi | hi <;> rcases Nat.lt_or_ge j L.n with hj | hj
  · rw [assembleK_data hi hj, assembleK_data hj hi]
    by_cases hij : i = j
    · subst hij; rfl
    · rw [if_neg hij, if_neg (Ne.symm hij), hC]
  · rw [assembleK_col hi hj, assembleK_row hj hi]
  · rw [assembleK_row hi hj, assembleK_col hj hi]
  · rw [assembleK_corner hi hj, assembleK_corner hj hi]

/-- column `n` of the assembled matrix of an unbiased variant is `(1,…,1,0,…,0)`; the matching entry of
    every right-hand side is `1` — the premises of "constants are reproduced" -/
theorem unbiased_column (L : Layout) (hu : L.unb = true) (C : Nat → Nat → ℝ) (err : Nat → ℝ) (F E : Nat → Nat → ℝ)
    (om : Bool) (c f e : Nat → Nat → ℝ) (i p : Nat) :
    assembleK L C err F E i L.n = (if i < L.n then 1 else 0) ∧ assembleRHS L om c f e L.n p = 1 := by
  constructor
  · by_cases h : i < L.n
    · rw [assembleK_col h le_rfl, border_unb hu, if_pos h, Nat.cast_one]
    · rw [assembleK_corner (Nat.le_of_not_lt h) le_rfl, if_neg h, Nat.cast_zero]
  · rw [assembleRHS_border le_rfl, border_unb hu, Nat.cast_one]

/-- on the data rows the prepared conditions are `normalize(cond_val − trend) − mean` — in this order -/
theorem prepCond_data (L : Layout) (norm : ℝ → ℝ) (val trend mean : Nat → ℝ) (i : Nat) (hi : i < L.n) :
    prepCond L norm val trend mean i = norm (val i - trend i) - mean i := by
  simp [prepCond, krigeCond, hi]

/-- the prepared conditions are `0` on the unbiasedness and drift rows (`_krige_cond` pads with zeros) -/
theorem prepCond_pad (L : Layout) (norm : ℝ → ℝ) (val trend mean : Nat → ℝ) (i : Nat) (hi : L.n ≤ i) :
    prepCond L norm val trend mean i = 0 := by
  simp [prepCond, krigeCond, Nat.not_lt.mpr hi]

/-- **kriging with mean, normaliser and trend** is kriging of the prepared data followed by the inverse
    pipeline: the post-processed estimate at target `p` is
    `trend(p) + denorm(mean(p) + Σ_{i<n} (norm(zᵢ − tᵢ) − mᵢ) · wᵢ)` with the weights `w = M k_p`
    (by `solves_system` *the* solution of `K w = k_p` when `M` inverts `K`; `matVec_eq` identifies them). -/
theorem post_of_prepared (L : Layout) (M rhs : Nat → Nat → ℝ) (norm denorm : ℝ → ℝ) (val trend mean : Nat → ℝ)
    (meanT trendT : ℝ) (p : Nat) :
    postCell denorm meanT trendT (krigeFieldCell M rhs (prepCond L norm val trend mean) L.size p ((0:Nat):ℝ)) =
      denorm ((∑ i ∈ Finset.range L.n, (norm (val i - trend i) - mean i) * matVec M rhs L.size i p) + meanT) + trendT := by
  unfold postCell krigeFieldCell
  rw [forRange_cast_zero_add_eq_sum, ← Finset.sum_subset (range_subset_range.mpr (n_le_size L))]
  · congr 3
    exact sum_congr rfl fun i hi => by rw [prepCond_data L norm val trend mean i (mem_range.mp hi)]
  · intro i _ hi
    rw [prepCond_pad L norm val trend mean i (by simpa using hi), zero_mul]

/-- satisfiable and order-sensitive: with `norm = log`-like non-additive maps the two orders differ; here a
    concrete non-additive `norm` (squaring) separates `norm(z − t) − m` from `norm(z − t − m)` -/
example : (fun x : ℝ => x * x) (3 - 1) - 1 ≠ (fun x : ℝ => x * x) (3 - 1 - 1) := by norm_num

/-- `set_condition` — whatever arguments are passed (including `fit_normalizer` / `fit_variogram`) and whatever
    happened before — leaves the object in sync: matrix and isometrised conditioning positions belong to the model
    AFTER the fit -/
theorem setCond_synced (s : HState) (p v e r fn fv : Option Nat) : hsynced (setCond s p v e r fn fv) := by
  simp [hsynced, setCond, hinit]

/-- `set_condition` leaves the stored target positions alone -/
theorem setCond_tpos (s : HState) (p v e r fn fv : Option Nat) : (setCond s p v e r fn fv).tpos = s.tpos := by
  simp [setCond]

/-- after `set_condition(fit_variogram=True)` the current model is the fitted one, and matrix, conditioning
    positions and right-hand sides all use it -/
theorem setCond_fit (s : HState) (p v e r fn : Option Nat) (m : Nat) (t : Nat × Bool) :
    (setCond s p v e r fn (some m)).model = m ∧
    (callTok (setCond s p v e r fn (some m)) t).matModel = m ∧ (callTok (setCond s p v e r fn (some m)) t).kpModel = m ∧
    (callTok (setCond s p v e r fn (some m)) t).rhsModel = m := by
  simp [setCond, hinit, callTok]

/-- a synced object computes, at ANY targets, what a freshly constructed one computes there -/
theorem synced_call_fresh (s : HState) (h : hsynced s) (t : Nat × Bool) : callTok s t = freshTok s t := by
  obtain ⟨h1, h2, h3, h4, h5, h6⟩ := h
  simp [callTok, freshTok, hinit, h1, h2, h3, h4, h5, h6]

/-- calls (with or without positions), `set_pos`, re-assignments of mean/normaliser/trend and further
    `set_condition`s keep an object in sync -/
theorem synced_step (s : HState) (h : hsynced s) (op : HOp) (hop : ∀ v, op ≠ .editModel v) :
    hsynced (hstep s op).1 := by
  cases op with
  | editModel v => exact absurd rfl (hop v)
  | setCond p v e r fn fv => exact setCond_synced s p v e r fn fv
  | call pos st via =>
    simp only [hstep]
    cases target s.tpos pos st via <;> exact h
  | _ => exact h

/-- **the stored positions are the given ones**: after any operation the object's `pos`/`mesh_type` are the
    ones last given to it (by `set_pos` or by a call that passed positions) — never earlier ones, however
    similar; model edits, re-assignments, `set_condition` and position-less calls leave them alone -/
theorem step_tpos (s : HState) (g : Option (Nat × Bool)) (op : HOp) (h : s.tpos = g) :
    (hstep s op).1.tpos = given g op := by
  subst h
  cases op with
  | setCond p v e r fn fv => exact setCond_tpos s p v e r fn fv
  | call pos st via =>
    cases pos with
    | some p => rfl
    | none =>
      simp only [hstep, given]
      rcases hg : s.tpos with _ | ⟨q, m⟩
      · simp [target, hg]
      · by_cases hc : (via && (m != st)) = true <;> simp [target, hc, hg]
  | _ => rfl

/-- after any history the stored target positions are the last ones given (`given` folds the history) -/
theorem final_tpos : ∀ (ops : List HOp) (s : HState) (g : Option (Nat × Bool)), s.tpos = g →
    (hfinal s ops).tpos = ops.foldl given g
  | [], _, _, h => by simpa [hfinal] using h
  | op :: ops, s, g, h => by
    have := final_tpos ops (hstep s op).1 (given g op) (step_tpos s g op h)
    simpa [hfinal] using this

/-- a call on a synced object whose stored positions are the last given ones returns what the specification
    asks for: the fresh object evaluated at the requested targets (or the same refusal) -/
theorem synced_call_spec (s : HState) (g : Option (Nat × Bool)) (hs : hsynced s) (hg : s.tpos = g)
    (pos : Option Nat) (st via : Bool) :
    (hstep s (.call pos st via)).2 = specRes s g (.call pos st via) := by
  simp only [hstep, specRes, hg]
  cases target g pos st via with
  | none => rfl
  | some t => simp [synced_call_fresh s hs t]

/-- every call of a history without model edits, started in a synced state whose stored positions are the last
    given ones, equals a fresh object evaluated at the requested targets -/
theorem history_fresh : ∀ (ops : List HOp) (s : HState) (g : Option (Nat × Bool)), hsynced s → s.tpos = g →
    (∀ op ∈ ops, ∀ v, op ≠ .editModel v) → ∀ x ∈ hrun s g ops, x.1 = x.2
  | [], _, _, _, _, _, x, hx => by simp [hrun] at hx
  | op :: ops, s, g, hs, hg, hops, x, hx => by
    have hop : ∀ v, op ≠ .editModel v := hops op (List.mem_cons_self ..)
    have hrest := history_fresh ops (hstep s op).1 (given g op) (synced_step s hs op hop) (step_tpos s g op hg)
      (fun o ho => hops o (List.mem_cons_of_mem _ ho))
    -- a step of a synced object answers what the specification asks for (nothing, unless it is a call)
    have hc : (hstep s op).2 = specRes s g op := by
      cases op with
      | call pos st via => exact synced_call_spec s g hs hg pos st via
      | _ => rfl
    rw [hrun, hc] at hx
    rcases hy : specRes s g op with _ | y
    · rw [hy] at hx; exact hrest x hx
    · rw [hy] at hx
      rcases List.mem_cons.mp hx with rfl | hx
      · rfl
      · exact hrest x hx

/-- **no stale kriging after `set_condition`**: after ANY state (any earlier history of model edits, calls,
    re-conditionings) whose stored positions are the last given ones, a `set_condition` in any argument form makes
    every later call — with new, nearly equal, or no positions, under either mesh type, until the next model
    edit (a fit inside `set_condition` is not one: it happens before the rebuild) — equal to the call of a freshly constructed object (current model and conditions) at the requested targets -/
theorem set_condition_refreshes (s : HState) (g : Option (Nat × Bool)) (hg : s.tpos = g) (p v e r fn fv : Option Nat)
    (ops : List HOp) (hops : ∀ op ∈ ops, ∀ m, op ≠ .editModel m) :
    ∀ x ∈ hrun (setCond s p v e r fn fv) g ops, x.1 = x.2 :=
  history_fresh ops _ g (setCond_synced s p v e r fn fv) (by rw [setCond_tpos]; exact hg) hops

/-- a freshly constructed object: every history without model edits is served at the requested targets -/
theorem fresh_object_history (model pos val err ext mnt : Nat) (ops : List HOp)
    (hops : ∀ op ∈ ops, ∀ m, op ≠ .editModel m) : ∀ x ∈ hrun (hinit model pos val err ext mnt) none ops, x.1 = x.2 :=
  history_fresh ops _ none (by simp [hsynced, hinit]) rfl hops

/-- the protocol is not vacuous: a model edit without `set_condition` IS stale (the matrix belongs to the old
    model), and `set_condition(cond_val=…)` alone repairs it -/
example : hrun (hinit 1 1 1 1 0 1) none [.editModel 2, .call (some 5) false false] ≠ [] ∧
    (∀ x ∈ hrun (hinit 1 1 1 1 0 1) none [.editModel 2, .call (some 5) false false], x.1 ≠ x.2) ∧
    (∀ x ∈ hrun (hinit 1 1 1 1 0 1) none [.editModel 2, .setCond none (some 2) none none none none, .call (some 5) false false], x.1 = x.2) := by
  decide

/-- targets are not vacuous either: consecutive calls at positions 7 and 8 (distinct identifiers, e.g. a raster
    shifted by a metre) are evaluated at 7 and at 8; a position-less call afterwards and one after
    `set_condition` at 8; after `set_pos 9` at 9; a position-less call before any positions is refused; and
    `kr.structured()` refuses to reuse unstructured positions -/
example : (hrun (hinit 1 1 1 1 0 1) none
      [.call none false false, .call (some 7) false false, .call (some 8) false false, .call none false false,
       .setCond none (some 2) none none none none, .call none true false, .call none true true, .setPos 9 true, .call none false false]).map
      (fun x => match x.1 with | .ok t => some (t.tpos, t.tmesh) | .noPos => none)
    = [none, some (7, false), some (8, false), some (8, false), some (8, false), none, some (9, true)] := by
  decide

/-- a fit inside `set_condition` is served like a fresh object holding a copy of the fitted model (3) -/
example : ∀ x ∈ hrun (hinit 1 1 1 1 0 1) none [.setCond none none none none none (some 3), .call (some 5) false false],
    x.1 = x.2 ∧ x.1 = .ok (freshTok { hinit 1 1 1 1 0 1 with model := 3 } (5, false)) := by
  decide

/-- an object whose isometrised conditioning positions were computed BEFORE the fit inside `set_condition` is not served like
    the fresh object -/
example : callTok { setCond (hinit 1 1 1 1 0 1) none none none none none (some 3) with kpModel := 1 } (5, false)
    ≠ freshTok (setCond (hinit 1 1 1 1 0 1) none none none none none (some 3)) (5, false) := by
  decide

/-- an object that put earlier positions back would NOT satisfy the specification: evaluated at 7 instead of 8 -/
example : HRes.ok (callTok (hinit 1 1 1 1 0 1) (7, false)) ≠ HRes.ok (freshTok (hinit 1 1 1 1 0 1) (8, false)) := by
  decide

end GSV.Props.C05
