/-
  C12 — the Fourier generator under the change of coordinates: how the period and the anisotropy enter the mode
  lattice `delta_k[d] = 2π / period[d] * anis'[d]`, `anis' = [1] ++ model.anis` (`GSV/Model/Fourier.lean`).  The generator
  lives in the isotropic coordinates `y = S⁻¹Rᵀx`: a period `P_d` along the `d`-th rotated main axis is the period
  `P_d / anis'_d` of `y_d`, so lattice and spectrum factors are those of the isotropic model with period `P / anis'`.
  Periodicity itself (shifts of whole point sets, update histories) is C17 / C17General.
-/
import GSV.Props.C12Compose
import GSV.Lemmas.Fourier
namespace GSV.Props.C12
open GSV GSV.Model.Geo GSV.Lemmas.Geo GSV.Model.Pipe GSV.Model.Gen Matrix

/-- `model.anis` (the padded list of `dim − 1` ratios) as the array the Fourier generator indexes -/
noncomputable def anisFn (d : Nat) (anis : List ℝ) : Nat → ℝ := fun k => (setAnis d anis).getD k 1

/-- the period of the isotropic twin in ITS coordinates: `P_d / anis'_d` -/
noncomputable def isoPeriod (period anis : Nat → ℝ) : Nat → ℝ := fun d => period d / Model.Fourier.anisP anis d

/-- `np.insert(model.anis, 0, 1.0)` as a list, `1` beyond its end -/
theorem anisP_anisFn (d : Nat) (anis : List ℝ) (k : Nat) :
    Model.Fourier.anisP (anisFn d anis) k = ((1 : ℝ) :: setAnis d anis).getD k 1 := by
  cases k with
  | zero => exact GSV.Fourier.anisP_zero _
  | succ k => exact GSV.Fourier.anisP_succ _ k

/-- `[1] ++ model.anis` is what `stretch` (the diagonal of `S`) is on the axes that exist -/
theorem anisP_anisFn_eq_stretch (d : Nat) (anis : List ℝ) (i : Fin d) :
    Model.Fourier.anisP (anisFn d anis) i = stretch d anis i := by
  rw [anisP_anisFn, stretch_eq_getElem, List.getD_eq_getElem?_getD, List.getElem?_eq_getElem]
  rfl

/-- the spacing of the twin on every axis at once; also where `anis'_d = 0` (both sides are then `0`) -/
theorem fourier_deltaK_fn_iso_period (period anis : Nat → ℝ) :
    Model.Fourier.deltaK period anis = Model.Fourier.deltaK (isoPeriod period anis) (fun _ => 1) := by
  funext d
  rw [GSV.Fourier.deltaK_real, GSV.Fourier.deltaK_real]
  have h1 : Model.Fourier.anisP (fun _ => (1:ℝ)) d = 1 := by unfold Model.Fourier.anisP; split <;> simp
  rw [h1, isoPeriod, mul_one, div_div_eq_mul_div, div_mul_eq_mul_div]

/-- the lattice spacing on axis `d`: `2π / P_d · anis'_d = 2π / (P_d / anis'_d) · 1`, the spacing of the isotropic model
    with period `P / anis'` -/
theorem fourier_deltaK_iso_period (period anis : Nat → ℝ) (d : Nat) (ha : Model.Fourier.anisP anis d ≠ 0) :
    Model.Fourier.deltaK period anis d = Model.Fourier.deltaK (isoPeriod period anis) (fun _ => 1) d :=
  congrFun (fourier_deltaK_fn_iso_period period anis) d

/-- the mode lattice of the model with ratios `anis` and period `P` is the lattice of the isotropic model with period `P / anis'` -/
theorem fourier_grid_iso_period (mreq : Nat → Nat) (period anis : Nat → ℝ) (ha : ∀ d, Model.Fourier.anisP anis d ≠ 0) (dim : Nat) :
    Model.Fourier.modesGrid mreq (Model.Fourier.deltaK period anis) dim
      = Model.Fourier.modesGrid mreq (Model.Fourier.deltaK (isoPeriod period anis) (fun _ => 1)) dim := by
  rw [fourier_deltaK_fn_iso_period period anis]

/-- the spectrum factors `sqrt(S(|k_j|) · prod(delta_k))` of the model with ratios `anis` and period `P` are those of
    the isotropic model with period `P / anis'` (any spectrum `S`) -/
theorem fourier_specfactor_iso_period (spec : ℝ → ℝ) (mreq : Nat → Nat) (period anis : Nat → ℝ)
    (ha : ∀ d, Model.Fourier.anisP anis d ≠ 0) (dim : Nat) :
    Model.Fourier.specFactor spec (Model.Fourier.modesGrid mreq (Model.Fourier.deltaK period anis) dim)
        (Model.Fourier.deltaK period anis) dim
      = Model.Fourier.specFactor spec
        (Model.Fourier.modesGrid mreq (Model.Fourier.deltaK (isoPeriod period anis) (fun _ => 1)) dim)
        (Model.Fourier.deltaK (isoPeriod period anis) (fun _ => 1)) dim := by
  rw [fourier_deltaK_fn_iso_period period anis]

/-- Fourier generator with its period: the field of the model with `(angles, anis)` generated with
    period `P` and requested mode counts `mreq` at `x` — lattice and spectrum factors as `Fourier.update` computes them from
    `P` and the model's ratios — equals
    (1) the field of the isotropic unrotated model generated with period `P / [1, anis]` (same counts, same amplitudes) at
        `isometrize x`, and
    (2) the same mode sum at the raw positions with the wave vectors `Mᵀ k`.
    Every dimension, every angle list, every list of positive ratios, every spectrum, every amplitudes. -/
theorem srf_fourier_period_aniso_eq_iso (spec : ℝ → ℝ) (mreq : Nat → Nat) (period : Nat → ℝ) (z1 z2 : Nat → ℝ)
    (d : Nat) (angles anis : List ℝ) (ha : ∀ a ∈ anis, 0 < a) (pos : Nat → Nat → ℝ) (N X i : Nat) :
    let dk := Model.Fourier.deltaK period (anisFn d anis)
    let modes := Model.Fourier.modesGrid mreq dk d
    let sf := Model.Fourier.specFactor spec modes dk d
    let dk' := Model.Fourier.deltaK (isoPeriod period (anisFn d anis)) (fun _ => 1)
    let modes' := Model.Fourier.modesGrid mreq dk' d
    let sf' := Model.Fourier.specFactor spec modes' dk' d
    srfFourier sf modes z1 z2 d angles anis pos N X i
      = srfFourier sf' modes' z1 z2 d ([] : List ℝ) [] (isoPos d angles anis pos) N X i ∧
    srfFourier sf modes z1 z2 d angles anis pos N X i
      = fourierField sf (modesT d angles anis modes) z1 z2 pos d N X i := by
  intro dk modes sf dk' modes' sf'
  have hdk : dk' = dk := (fourier_deltaK_fn_iso_period period (anisFn d anis)).symm
  simp only [sf', modes', hdk]
  exact srf_fourier_aniso_eq_iso sf modes z1 z2 d angles anis pos N X i

/-- along the `i`-th rotated main axis the phase of a wave vector `k` at `isometrize(t · axis_i)` is `k_i · t / anis'_i`: for the
    lattice mode `k_i = n · 2π / P_i · anis'_i` this is `n · 2π t / P_i` (the ratio cancels — period `P_i` along that axis) -/
theorem fourier_phase_main_axis (d : Nat) (angles anis : List ℝ) (ha : ∀ a ∈ anis, 0 < a) (i : Fin d) (t : ℝ)
    (k : Nat → ℝ) (n : ℤ) (P : ℝ) (hk : k i = (n : ℝ) * (2 * Real.pi / P * Model.Fourier.anisP (anisFn d anis) i)) :
    Model.Geo.phase d k (isometrize d angles anis (fun e => t * mainAxes d angles i e)) = (n : ℝ) * (2 * Real.pi / P) * t := by
  -- `n · (c · s) · (t / s) = n · c · t`
  rw [phase_eq, isometrize_main_axis, dotProduct_single, toV_apply, hk, anisP_anisFn_eq_stretch,
    mul_assoc, mul_assoc, ← mul_div_assoc, mul_div_cancel_left₀ t (stretch_pos ha i).ne', mul_assoc]

/-- the spacing with the ratio on the other side, `2π / (P_d · anis'_d)`, differs from `delta_k[d]` whenever `anis'_d ≠ 1`
    (ratio positive, period non-zero) -/
theorem fourier_deltaK_wrong_direction (period anis : Nat → ℝ) (d : Nat) (hp : period d ≠ 0)
    (ha : 0 < Model.Fourier.anisP anis d) (h1 : Model.Fourier.anisP anis d ≠ 1) :
    2 * Real.pi / (period d * Model.Fourier.anisP anis d) ≠ Model.Fourier.deltaK period anis d := by
  rw [GSV.Fourier.deltaK_real]
  generalize Model.Fourier.anisP anis d = a at ha h1
  have hc : 2 * Real.pi / period d ≠ 0 := div_ne_zero (mul_ne_zero two_ne_zero Real.pi_ne_zero) hp
  -- `c / a = c * a` with `c ≠ 0` forces `a * a = 1`
  intro h
  rw [← div_div, div_eq_iff ha.ne', mul_assoc] at h
  have h2 : a * a = 1 := mul_left_cancel₀ hc (h.symm.trans (mul_one _).symm)
  exact h1 ((mul_self_eq_one_iff.1 h2).resolve_right (by linarith))

/-- the hypotheses are satisfiable: 2-D, ratio 1/2, period 10 in both directions -/
example : (∀ a ∈ ([1/2] : List ℝ), 0 < a) ∧ Model.Fourier.anisP (anisFn 2 [1/2]) 1 = 1/2 ∧
    isoPeriod (fun _ => 10) (anisFn 2 [1/2]) 1 = 20 := by
  have h : Model.Fourier.anisP (anisFn 2 [1/2]) 1 = 1/2 := (anisP_anisFn 2 [1/2] 1).trans rfl
  exact ⟨by simp, h, by rw [isoPeriod, h]; norm_num⟩

end GSV.Props.C12
