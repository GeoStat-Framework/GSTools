/-
  C14 — model parameters form a consistent state independent of how it was reached.

  Theorems about the executable model `GSV.Model.CovState` (tied to `CovModel` by exact differential
  execution on dyadic inputs, `vlib/props/C14.py`).  General statements hold over every linearly
  ordered field `F` (so for `ℚ`, on which the driver runs the model, and for `ℝ`); statements that are
  FALSE of the current code (D13: setters store before they check; D8: dimension-dependent bounds are
  fixed at construction) are kept as `…_full : Prop` and refuted on `ℚ` from concrete witnesses that
  the search replays on the real code.
-/
import GSV.Lemmas.CovState
import GSV.RealInst

set_option linter.unusedSectionVars false
namespace GSV.Props.C14
open GSV GSV.Model.CovState GSV.Lemmas.CovState

/-- on `ℚ` the operation bundle used in the proofs is literally the one the driver runs -/
theorem arith_rat_eq : (arithOfField : Arith ℚ) = instArithRatCovState := rfl

section field
variable {F : Type} [Field F] [LinearOrder F] [IsStrictOrderedRing F] [HasRPow F]
attribute [local instance] arithOfField

/-- every state reachable by ANY history of setter calls (also calls that raised) is structurally
    well-formed: `dim ≥ 1`, `dim-1` positive ratios, `dim(dim-1)/2` angles, lat-lon models have
    `dim = 3 (+1)`, isotropic space and no rotation, temporal models no rotation with the time axis,
    `rescale > 0` -/
theorem structure_invariant (sp : ClassSpec F) {s : State F} (h : Reach sp s) : WF s := by
  induction h with
  | init hc => exact (construct_ok hc).1
  | step op _ ih => exact wf_step sp op ih

/-- derived quantities are consistent in every reachable state.  `sill = var + nugget`, `var = var_raw * var_factor`, the
    entries of `len_scale_vec` and `field_dim = dim` without lat-lon are the model's own definitions of these quantities
    (they hold of every state); reachability gives the lengths of `len_scale_vec`, `anis`, `angles` and the relations
    between `dim`, `field_dim` and `spatial_dim` of lat-lon and temporal models. -/
theorem derived_consistent (sp : ClassSpec F) {s : State F} (h : Reach sp s) :
    sill sp s = var sp s + s.nugget ∧
    var sp s = s.varRaw * varFactor sp s ∧
    (lenScaleVec s).length = s.dim ∧
    (lenScaleVec s).head? = some s.lenScale ∧
    (∀ i (hi : i < s.anis.length), (lenScaleVec s)[i + 1]? = some (s.lenScale * s.anis[i])) ∧
    s.anis.length = s.dim - 1 ∧
    s.angles.length = s.dim * (s.dim - 1) / 2 ∧
    fieldDim s = spatialDim s + tNat s.temporal ∧
    (s.latlon = true → fieldDim s = 2 + tNat s.temporal ∧ spatialDim s = 2 ∧ s.dim = 3 + tNat s.temporal) ∧
    (s.latlon = false → fieldDim s = s.dim) := by
  have hw := structure_invariant sp h
  refine ⟨rfl, rfl, ?_, rfl, ?_, hw.anis_len, hw.angles_len, ?_, ?_, ?_⟩
  · rw [lenScaleVec, List.length_cons, List.length_map, hw.anis_len, Nat.sub_add_cancel hw.dim_pos]
  · intro i hi
    rw [lenScaleVec, List.getElem?_cons_succ, List.getElem?_map, List.getElem?_eq_getElem hi, Option.map_some]
  · unfold fieldDim spatialDim
    cases s.latlon
    · have ht : tNat s.temporal ≤ s.dim := by
        cases s.temporal
        · exact Nat.zero_le _
        · exact hw.dim_pos
      rw [if_neg Bool.false_ne_true, if_neg Bool.false_ne_true, Nat.sub_add_cancel ht]
    · rfl
  · exact fun hl => ⟨if_pos hl, if_pos hl, hw.latlon_dim hl⟩
  · exact fun hl => if_neg (hl ▸ Bool.false_ne_true)

/-- lat-lon models keep space isotropic, whatever is assigned: the two spatial ratios are 1 and all
    angles are 0 in every reachable state (the time ratio `anis[2]` is free — D7 regression) -/
theorem latlon_space_isotropic (sp : ClassSpec F) {s : State F} (h : Reach sp s) (hl : s.latlon = true) :
    s.anis.take 2 = [1, 1] ∧ ∀ a ∈ s.angles, a = 0 := by
  have hw := structure_invariant sp h
  constructor
  · have h2 : 2 ≤ s.anis.length := by
      rw [hw.anis_len, hw.latlon_dim hl]
      omega
    have h1 := hw.latlon_iso hl
    rw [Nat.min_eq_left h2, one_eq] at h1
    exact h1
  · intro a ha
    rw [← zero_eq]; exact hw.latlon_ang hl a ha

/-- too few anisotropy ratios are filled up in front with ones (`anis=[e]` in 3D is `[1, e]`), too many
    are cut; too few angles are filled up at the end with zeros -/
theorem pad_rules (d : Nat) (l : List F) :
    (l.length ≤ d - 1 → setAnisL d l = List.replicate (d - 1 - l.length) 1 ++ l) ∧
    (d - 1 ≤ l.length → setAnisL d l = l.take (d - 1)) ∧
    (l.length ≤ noOfAngles d → setAnglesL d l = l ++ List.replicate (noOfAngles d - l.length) 0) ∧
    (noOfAngles d ≤ l.length → setAnglesL d l = l.take (noOfAngles d)) := by
  refine ⟨fun h => ?_, setAnisL_trunc, fun h => ?_, setAnglesL_trunc⟩
  · rw [setAnisL_pad h, one_eq]
  · rw [setAnglesL_pad h, zero_eq]

/-- a list of length scales redefines the anisotropy: ratios to the first entry, the last entry repeated
    for missing axes (`[l₁, l₂]` in 3D is `[l₁, l₂, l₂]`) -/
theorem len_scale_list_redefines_anis (l1 l2 : F) (anis : List F) (h1 : l1 ≠ 0) (hp : 0 < l2 / l1) :
    setLenAnis 3 [l1, l2] anis false = .ok (l1, [l2 / l1, l2 / l1]) ∧
    setLenAnis 3 [l1, l2] anis false = setLenAnis 3 [l1, l2, l2] anis false := by
  have hz : ¬ (l1 = (zero : F)) := by rw [zero_eq]; exact h1
  have hp' : (zero : F) < l2 / l1 := by rw [zero_eq]; exact hp
  constructor
  · simp [setLenAnis, hz, finishAnis, hp']
  · simp [setLenAnis, hz]

/-- interval reading of `InBnd` (the comparisons `check_arg_in_bounds` makes) -/
theorem inBnd_iff (b : Bnd F) (v : F) :
    InBnd b v ↔ (∀ l, b.lo = some l → if b.loC then l ≤ v else l < v) ∧
                (∀ h, b.hi = some h → if b.hiC then v ≤ h else v < h) := by
  obtain ⟨lo, hi, loC, hiC⟩ := b
  unfold InBnd
  refine and_congr ?_ ?_
  · cases lo <;> cases loC <;> simp [not_lt, not_le]
  · cases hi <;> cases hiC <;> simp [not_lt, not_le]

/-- Values outside their bounds are always rejected: a plain setter (anything but the bounds
    operations and `rescale`) that does NOT raise leaves EVERY argument inside its bounds — in particular
    the assigned one.  (Contrapositive: an assignment that puts any argument outside its bounds raises.) -/
theorem accepted_in_bounds (sp : ClassSpec F) (s : State F) (op : Op F) (hp : Op.plain sp op = true)
    (hr : ∀ v, op ≠ .setRescale v) (h : (step sp s op).err = none) :
    InBounds sp (step sp s op).st :=
  (checked_step sp s op hp hr).2 h

/-- the directly assigned value is what is checked: an out-of-bounds `nugget`, `len_scale`, optional
    argument or (raw) variance raises `ValueError` -/
theorem rejects_out_of_bounds (sp : ClassSpec F) (s : State F) (hw : WF s) (v : F) :
    (¬ InBnd s.nugB v → (step sp s (.setNugget v)).err ≠ none) ∧
    (¬ InBnd s.lenB v → (step sp s (.setLenScale [v])).err ≠ none) ∧
    (¬ InBnd s.varB (v * varFactor sp s) → (step sp s (.setVarRaw v)).err ≠ none) ∧
    (varFactor sp s ≠ 0 → ¬ InBnd s.varB v → (step sp s (.setVar v)).err ≠ none) ∧
    (∀ n b, (∃ x, (⟨n, x, b⟩ : OptArg F) ∈ s.opt) → ¬ InBnd b v → (step sp s (.setOpt n v)).err ≠ none) := by
  -- each setter ends with `check_arg_bounds` on the stored state; read its verdict at the argument that was assigned
  refine ⟨fun hv he => hv ?_, fun hv he => hv ?_, fun hv he => hv ?_, fun hvf hv he => hv ?_, ?_⟩
  · exact (chk_ok he).2.2.1
  · simp only [step, doSetLenScale, setLenAnis_scalar hw v] at he
    exact (chk_ok he).2.1
  · exact (chk_ok he).1
  · have hz : ¬ (varFactor sp s = (zero : F)) := fun h => hvf (h.trans zero_eq)
    simp only [step, doSetVar, if_neg hz] at he
    -- the variance factor does not depend on `var_raw`
    have h2 : InBnd s.varB (v / varFactor sp s * varFactor sp s) := (chk_ok he).1
    rwa [div_mul_cancel₀ _ hvf] at h2
  · rintro n b ⟨x, hx⟩ hv he
    have hhas : hasOpt s n = true := hasOpt_iff.mpr ⟨_, hx, rfl⟩
    simp only [step, doSetOpt, hhas, Bool.not_true, Bool.false_eq_true, if_false] at he
    split at he
    · cases he
    · exact hv ((chk_ok he).2.2.2.2 ⟨n, v, b⟩ (List.mem_map.mpr ⟨_, hx, if_pos (beq_self_eq_true n)⟩))

/-- a successfully constructed model is inside its bounds -/
theorem constructed_in_bounds (sp : ClassSpec F) {cfg : Cfg F} {s : State F} {w : Bool}
    (h : construct sp cfg = .ok (s, w)) : InBounds sp s :=
  (checkArgBounds_eq_none_iff sp s).mp (construct_ok h).2.1

/-- the wanted bounds clause, false of the current code (D13, `not_bounds_invariant_full`): every reachable state is
    inside its bounds and a rejected assignment leaves the state unchanged -/
def bounds_invariant_full (α : Type) [Arith α] [DecidableLT α] [DecidableLE α] [DecidableEq α] [HasRPow α] : Prop :=
  ∀ (sp : ClassSpec α) (s : State α), Reach sp s →
    checkArgBounds sp s = none ∧ ∀ op : Op α, (step sp s op).err ≠ none → (step sp s op).st = s

/-- the proved part of `bounds_invariant_full`: along histories of plain setters none of which raised, every state is
    well-formed and inside its bounds (classes with dimension-independent bounds; for TPL classes `rescale` is not
    plain).  `accepted_in_bounds` / `rejects_out_of_bounds` state the rejection, `constructed_in_bounds` the start.
    Not contained: "a rejected assignment leaves the state unchanged", which is false (D13). -/
theorem bounds_invariant_partial {sp : ClassSpec F} (hsp : SpecOK sp) {s : State F}
    (h : ReachOk sp s) : WF s ∧ InBounds sp s :=
  let ⟨hw, hin, _⟩ := reachOk_invariants hsp h
  ⟨hw, (checkArgBounds_eq_none_iff sp s).mp hin⟩

/-- `set_arg_bounds(check_args=True, …)` that does not raise, called on a model inside its bounds, leaves the
    model inside the NEW bounds: values outside new bounds are replaced by `default_arg_from_bounds` through
    the checking setters (`var` last) -/
theorem set_arg_bounds_keeps_in_bounds (sp : ClassSpec F) (s : State F) (bs : List (String × RawBnd F))
    (hok : OptNamesOK s) (hin : InBounds sp s) (h : (step sp s (.setArgBounds true bs)).err = none) :
    InBounds sp (step sp s (.setArgBounds true bs)).st :=
  argBoundsLoop_ok sp bs s none hok hin h

/-- bounds invariant along histories of non-raising plain setters (without `rescale`) AND non-raising
    `set_arg_bounds(check_args=True)` calls, for every class table with sane optional-argument names -/
theorem bounds_invariant_with_bounds_ops {sp : ClassSpec F} (hsp : SpecNamesOK sp) {s : State F}
    (h : ReachOkB sp s) : InBounds sp s :=
  (reachOkB_inBounds hsp h).2

/-- every class of the table has sane optional-argument names -/
theorem all_specs_namesOK (name : String) (sp : ClassSpec F) (hs : specOf name = some sp) : SpecNamesOK sp := by
  unfold specOf at hs
  split at hs
  all_goals cases hs
  all_goals
    intro d
    simp only [plainSpec, tplHurst, tplLenLow, alphaArg, List.map_cons, List.map_nil, List.nodup_cons,
      List.nodup_nil, List.mem_cons, List.not_mem_nil, or_false, forall_eq_or_imp, forall_eq, IsEmpty.forall_iff,
      implies_true, ne_eq, String.reduceEq, not_false_eq_true, and_self]

/-- the wanted statement of path independence, false of the current code (D8, `not_path_independent_full`): for every
    shipped class, after any history of plain setters none of which raised, the model equals one constructed directly
    with the resulting values -/
def path_independent_full (α : Type) [Arith α] [DecidableLT α] [DecidableLE α] [DecidableEq α] [HasRPow α] : Prop :=
  ∀ (name : String) (sp : ClassSpec α), specOf name = some sp → ∀ s : State α, ReachOk sp s →
    ∃ w, construct sp (cfgOf sp s) = .ok (s, w)

/-- the proved core of `path_independent_full`: a well-formed state that is inside its bounds and carries the default bounds of its
    dimension is a fixed point of the constructor: constructing a model directly with the values read
    off it (`dim, var, len_scale, anis, angles, nugget, rescale, optional arguments`) gives exactly this
    state.  (`var_factor ≠ 0`, `hurst ≠ 0` only matter for the truncated-power-law classes.) -/
theorem path_independent_partial {sp : ClassSpec F} {s : State F} (h : WF s)
    (hfix : sp.fixDim = none ∨ sp.fixDim = some s.dim) (hb : DefaultBounds sp s)
    (hin : InBounds sp s) (hvf : varFactor sp s ≠ 0) (hh : sp.tpl = true → optGet s "hurst" ≠ 0) :
    construct sp (cfgOf sp s) = .ok (s, !sp.checkDim s.dim || optWarn sp s) :=
  construct_cfgOf h hfix hb ((checkArgBounds_eq_none_iff sp s).mpr hin) hvf hh

/-- the proved part of `path_independent_full` for histories: for a class without variance factor, without fixed dimension and with
    dimension-independent bounds, after ANY history of plain setters none of which raised the model equals
    one constructed directly with the resulting values. -/
theorem path_independent_history {sp : ClassSpec F} (hsp : SpecOK sp) (htpl : sp.tpl = false)
    (hfix : sp.fixDim = none) {s : State F} (h : ReachOk sp s) :
    construct sp (cfgOf sp s) = .ok (s, !sp.checkDim s.dim || optWarn sp s) := by
  obtain ⟨hw, hin, hdb⟩ := reachOk_invariants hsp h
  refine construct_cfgOf hw (Or.inl hfix) hdb hin ?_ (fun ht => by rw [htpl] at ht; cases ht)
  rw [varFactor_nontpl htpl]; exact one_ne_zero

/-- `path_independent_history` for truncated-power-law classes (histories without the unchecked `rescale` setter), provided the
    variance factor of the final state is defined and non-zero: the variance read off the model is divided by
    the factor again, which reproduces the stored intensity -/
theorem path_independent_history_tpl {sp : ClassSpec F} (hsp : SpecOK sp) (hfix : sp.fixDim = none)
    {s : State F} (h : ReachOk sp s) (hvf : varFactor sp s ≠ 0) (hh : optGet s "hurst" ≠ 0) :
    construct sp (cfgOf sp s) = .ok (s, !sp.checkDim s.dim || optWarn sp s) := by
  obtain ⟨hw, hin, hdb⟩ := reachOk_invariants hsp h
  exact construct_cfgOf hw (Or.inl hfix) hdb hin hvf (fun _ => hh)

/-- the three shipped truncated-power-law classes satisfy the hypotheses of `path_independent_history_tpl` on the class -/
theorem shipped_tpl_specOK (name : String) (hn : name ∈ ["TPLGaussian", "TPLExponential", "TPLStable"])
    (sp : ClassSpec F) (hs : specOf name = some sp) : SpecOK sp ∧ sp.tpl = true ∧ sp.fixDim = none := by
  have hnm := all_specs_namesOK name sp hs
  simp only [List.mem_cons, List.not_mem_nil, or_false] at hn
  rcases hn with h | h | h <;> subst h <;> rw [specOf] at hs <;> cases hs <;>
    exact ⟨⟨fun _ _ => rfl, fun d => (hnm d).1⟩, rfl, rfl⟩

/-- the shipped classes without variance factor and with dimension-independent bounds satisfy the
    hypotheses of `path_independent_history` -/
theorem shipped_specOK (name : String)
    (hn : name ∈ ["Gaussian", "Exponential", "Stable", "Matern", "Integral", "Rational", "Cubic", "Linear",
      "Circular", "Spherical", "HyperSpherical"]) (sp : ClassSpec F) (hs : specOf name = some sp) :
    SpecOK sp ∧ sp.tpl = false ∧ sp.fixDim = none := by
  have hnm := all_specs_namesOK name sp hs
  simp only [List.mem_cons, List.not_mem_nil, or_false] at hn
  rcases hn with h | h | h | h | h | h | h | h | h | h | h <;> subst h <;> rw [specOf] at hs <;> cases hs <;>
    exact ⟨⟨fun _ _ => rfl, fun d => (hnm d).1⟩, rfl, rfl⟩

/-- path independence for the shipped classes it holds for -/
theorem path_independent_shipped (name : String)
    (hn : name ∈ ["Gaussian", "Exponential", "Stable", "Matern", "Integral", "Rational", "Cubic", "Linear",
      "Circular", "Spherical", "HyperSpherical"]) (sp : ClassSpec F) (hs : specOf name = some sp)
    {s : State F} (h : ReachOk sp s) : ∃ w, construct sp (cfgOf sp s) = .ok (s, w) :=
  let ⟨h1, h2, h3⟩ := shipped_specOK name hn sp hs
  ⟨_, path_independent_history h1 h2 h3 h⟩

/-- assigning one parameter changes nothing else: scalar `len_scale` keeps the anisotropy (also the time
    ratio of lat-lon + temporal models, D7), `nugget`, `var_raw`, `angles` only touch their own field -/
theorem frame_conditions (sp : ClassSpec F) (s : State F) (hw : WF s) (v : F) (vs : List F) :
    (step sp s (.setLenScale [v])).st = { s with lenScale := v } ∧
    (step sp s (.setNugget v)).st = { s with nugget := v } ∧
    (step sp s (.setVarRaw v)).st = { s with varRaw := v } ∧
    (step sp s (.setAngles vs)).st = { s with angles := setModelAngles s.dim vs s.latlon s.temporal } ∧
    (∃ a, (step sp s (.setAnis vs)).st = { s with anis := a }) ∧
    (varFactor sp s ≠ 0 → (step sp s (.setVar v)).st = { s with varRaw := v / varFactor sp s }) := by
  refine ⟨?_, rfl, rfl, rfl, ?_, ?_⟩
  · simp only [step, doSetLenScale, setLenAnis_scalar hw v, chk]
  · simp only [step, doSetAnis]
    split
    · exact ⟨s.anis, rfl⟩
    · rename_i l a heq
      rw [setLenAnis_single hw.dim_pos] at heq
      obtain ⟨h1, _, _⟩ := finishAnis_ok heq
      exact ⟨a, by simp only [chk, h1]⟩
  · intro hvf
    have hz : ¬ (varFactor sp s = (zero : F)) := by rw [zero_eq]; exact hvf
    simp only [step, doSetVar, if_neg hz, chk]

/-- documented coupling: for truncated-power-law classes the stored quantity is the intensity `var_raw`; the setters of
    `len_scale`, `rescale` and the optional arguments do not write it (first three clauses, any class), so the variance
    follows them through `var_factor`.  The last clause, `var = var_raw * var_factor`, is the model's definition of
    `var`. -/
theorem tpl_variance_follows_intensity (sp : ClassSpec F) (s : State F) (ls : List F) (r : Option F)
    (n : String) (v : F) :
    (step sp s (.setLenScale ls)).st.varRaw = s.varRaw ∧
    (step sp s (.setRescale r)).st.varRaw = s.varRaw ∧
    (step sp s (.setOpt n v)).st.varRaw = s.varRaw ∧
    ∀ op, var sp (step sp s op).st = (step sp s op).st.varRaw * varFactor sp (step sp s op).st := by
  refine ⟨?_, ?_, ?_, fun _ => rfl⟩
  · simp only [step]; fun_cases doSetLenScale sp s ls <;> rfl
  · simp only [step]; fun_cases doSetRescale sp s r <;> rfl
  · simp only [step]; fun_cases doSetOpt sp s n v <;> rfl

end field

/-! ## Refutations of the full statements on `ℚ` (the carrier the driver executes), from the witnesses
    the search replays on the real code -/

def expSpec : ClassSpec ℚ := (specOf "Exponential").get (by decide)
def jbSpec : ClassSpec ℚ := (specOf "JBessel").get (by decide)

/-- `Exponential(dim=2)` -/
def expCfg : Cfg ℚ :=
  { dim := 2, spatialDim := none, latlon := false, temporal := false, var := 1, varRaw := none,
    lenScale := [1], anis := [1], angles := [0], nugget := 0, rescale := none, opt := [],
    integralScale := none }

/-- `JBessel(dim=1, nu=0)` -/
def jbCfg : Cfg ℚ := { expCfg with dim := 1, opt := [("nu", 0)] }

/-- D13 witness: `m = Exponential(dim=2); m.var = -1` raises, yet `m.var == -1` afterwards and the state is
    out of bounds -/
def d13Witness : Bool :=
  match construct expSpec expCfg with
  | .ok (s, _) =>
    decide ((step expSpec s (.setVar (-1))).err = some (.bound "var" 2)) &&
    decide ((step expSpec s (.setVar (-1))).st ≠ s) &&
    decide (var expSpec (step expSpec s (.setVar (-1))).st = -1) &&
    decide (checkArgBounds expSpec (step expSpec s (.setVar (-1))).st ≠ none)
  | .error _ => false

theorem d13Witness_true : d13Witness = true := by decide +kernel

/-- the full bounds clause is false of the model of the current code (D13) -/
theorem not_bounds_invariant_full : ¬ bounds_invariant_full ℚ := by
  intro hfull
  have h := d13Witness_true
  unfold d13Witness at h
  split at h
  · rename_i s w heq
    simp only [Bool.and_eq_true, decide_eq_true_eq] at h
    obtain ⟨⟨⟨h1, h2⟩, _⟩, _⟩ := h
    have hr : Reach expSpec s := Reach.init heq
    exact h2 ((hfull expSpec s hr).2 (.setVar (-1)) (by rw [h1]; simp))
  · cases h

/-- "every reachable state is inside its bounds" is false of the model of the current code (D13): after
    `m = Exponential(dim=2); m.var = -1`, which raises, the model holds `var == -1` outside its bounds -/
theorem rejected_value_is_stored :
    ∃ (s : State ℚ), Reach expSpec s ∧ checkArgBounds expSpec s ≠ none ∧ var expSpec s = -1 := by
  have h := d13Witness_true
  unfold d13Witness at h
  split at h
  · rename_i s w heq
    simp only [Bool.and_eq_true, decide_eq_true_eq] at h
    exact ⟨_, Reach.step (.setVar (-1)) (Reach.init heq), h.2, h.1.2⟩
  · cases h

/-- D8 witness: `m = JBessel(dim=1, nu=0); m.dim = 3` is accepted, the state keeps the bounds `[-1/2, 50]`
    of `nu`, and `JBessel(dim=3, nu=0)` is rejected by the constructor -/
def d8Witness : Bool :=
  match construct jbSpec jbCfg with
  | .ok (s, _) =>
    decide ((step jbSpec s (.setDim 3)).err = none) &&
    decide ((step jbSpec s (.setDim 3)).st.dim = 3) &&
    (match construct jbSpec (cfgOf jbSpec (step jbSpec s (.setDim 3)).st) with
      | .error e => decide (e = .bound "nu" 1)
      | .ok _ => false)
  | .error _ => false

theorem d8Witness_true : d8Witness = true := by decide +kernel

/-- path independence is false of the model of the current code for the classes with dimension-dependent
    bounds (D8) -/
theorem not_path_independent_full : ¬ path_independent_full ℚ := by
  intro hfull
  have h := d8Witness_true
  unfold d8Witness at h
  split at h
  · rename_i s w heq
    simp only [Bool.and_eq_true, decide_eq_true_eq] at h
    obtain ⟨⟨h1, _⟩, h3⟩ := h
    have hr : ReachOk jbSpec (step jbSpec s (.setDim 3)).st :=
      ReachOk.step (.setDim 3) (ReachOk.init heq) rfl h1
    obtain ⟨w', hw'⟩ := hfull "JBessel" jbSpec (Option.some_get _).symm _ hr
    rw [hw'] at h3
    cases h3
  · cases h

/-- why `rescale` is not a plain setter for truncated-power-law classes: it has no bounds check and moves the
    variance.  `m = TPLGaussian(dim=2, var=4, hurst=1/2); m.set_arg_bounds(var=[2, 6]); m.rescale = 1/4` is accepted
    and leaves `m.var == 16` outside `[2, 6]` (replayed on the real classes by the search) -/
def rescaleWitness : Bool :=
  match (specOf "TPLGaussian" : Option (ClassSpec ℚ)) with
  | none => false
  | some sp =>
    match construct sp { expCfg with var := 4, opt := [("hurst", 1 / 2)] } with
    | .ok (s0, _) =>
      let r1 := step sp s0 (.setArgBounds true [("var", ⟨some 2, some 6, ""⟩)])
      let r2 := step sp r1.st (.setRescale (some (1 / 4)))
      decide (r1.err = none) && decide (var sp r1.st = 4) && decide (r2.err = none) && decide (var sp r2.st = 16) &&
      decide (checkArgBounds sp r2.st = some (.bound "var" 3))
    | .error _ => false

theorem rescaleWitness_true : rescaleWitness = true := by decide +kernel

/-- evaluation of `m = Exponential(dim=2); m.dim = 3; m.len_scale = [2, 4]; m.anis = 1/2; m.nugget = 1/2;
    m.angles = [1, 1/4]` on `ℚ`: the final state has `dim = 3`, `len_scale = 2`, `anis = [1, 1/2]`,
    `angles = [1, 1/4, 0]`, `len_scale_vec = [2, 2, 1]`, is inside its bounds, and a model constructed directly with
    its values equals it.  `runOps` does not record whether a call raised, so `ReachOk` of the final state is not
    shown. -/
def historyWitness : Bool :=
  match construct expSpec expCfg with
  | .ok (s0, _) =>
    let ops : List (Op ℚ) := [.setDim 3, .setLenScale [2, 4], .setAnis [1 / 2], .setNugget (1 / 2), .setAngles [1, 1 / 4]]
    let s := runOps expSpec s0 ops
    decide (s.dim = 3) && decide (s.lenScale = 2) && decide (s.anis = [1, 1 / 2]) && decide (s.angles = [1, 1 / 4, 0]) &&
    decide (lenScaleVec s = [2, 2, 1]) && decide (checkArgBounds expSpec s = none) &&
    (match construct expSpec (cfgOf expSpec s) with
      | .ok (s', _) => decide (s' = s)
      | .error _ => false)
  | .error _ => false

theorem historyWitness_true : historyWitness = true := by decide +kernel

/-- `Exponential(dim=2)` is constructed successfully on `ℚ`, so `ReachOk` and `ReachOkB` are inhabited (by the freshly
    constructed state, the empty history) -/
theorem exists_reachOk : ∃ s : State ℚ, ReachOk expSpec s ∧ ReachOkB expSpec s := by
  have h := historyWitness_true
  unfold historyWitness at h
  split at h
  · rename_i s w heq; exact ⟨s, ReachOk.init heq, ReachOkB.init heq⟩
  · cases h

/-- the hypotheses of `path_independent_partial`, `bounds_invariant_partial`, `set_arg_bounds_keeps_in_bounds`,
    `bounds_invariant_with_bounds_ops` are satisfied by a concrete model state on `ℚ` (the freshly constructed
    `Exponential(dim=2)`) -/
example : ∃ s : State ℚ, WF s ∧ DefaultBounds expSpec s ∧ InBounds expSpec s ∧ OptNamesOK s ∧
    varFactor expSpec s ≠ 0 ∧ (expSpec.fixDim = none ∨ expSpec.fixDim = some s.dim) := by
  obtain ⟨s, hs, hsB⟩ := exists_reachOk
  have hspec : specOf "Exponential" = some expSpec := (Option.some_get _).symm
  have hok := shipped_specOK (F := ℚ) "Exponential" (.tail _ (.head _)) expSpec hspec
  obtain ⟨h1, h2, h3⟩ := reachOk_invariants (F := ℚ) hok.1 hs
  have h4 := reachOkB_inBounds (F := ℚ) (all_specs_namesOK "Exponential" expSpec hspec) hsB
  refine ⟨s, h1, h3, (checkArgBounds_eq_none_iff expSpec s).mp h2, h4.1, ?_, Or.inl hok.2.2⟩
  rw [varFactor_nontpl (F := ℚ) hok.2.1]; exact one_ne_zero

noncomputable instance instHasRPowReal : HasRPow ℝ := ⟨fun x y => x ^ y⟩

section real
attribute [local instance] arithOfField

/-- with `hurst = 1/2` the variance of a truncated-power-law model is `intensity * len_scale / rescale`:
    it follows the length scale and the rescale factor linearly -/
theorem tpl_var_hurst_half (sp : ClassSpec ℝ) (s : State ℝ) (ht : sp.tpl = true)
    (hh : optGet s "hurst" = 1 / 2) :
    var sp s = s.varRaw * (s.lenScale / s.rescale) := by
  unfold var varFactor
  rw [if_pos ht]
  simp only [hh, two_eq]
  show s.varRaw * ((((optGet s "len_low" + s.lenScale) / s.rescale) ^ ((2:ℝ) * (1 / 2))
    - (optGet s "len_low" / s.rescale) ^ ((2:ℝ) * (1 / 2))) / (2 * (1 / 2))) = _
  have : (2:ℝ) * (1 / 2) = 1 := by norm_num
  rw [this, Real.rpow_one, Real.rpow_one]
  ring

end real

end GSV.Props.C14
