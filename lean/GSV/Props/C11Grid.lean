/-
  C11 — mesh-type independence of the field kernels: the structured call evaluates the kernel on
  `generate_grid(axes)` (`Model.Grid.genGrid`, meshgrid `ij`, C order) and reshapes (C order); entry `is` of the
  reshaped field is the kernel's value at the grid point with axis coordinates `is`, hence equals the
  unstructured call on ANY point list at any position holding that point.  Law-free (bit-exact for doubles):
  `summate_local` / `summate_fourier_local` / `summate_incompr_local` composed with the mixed-radix round trip
  `Grid.decode_encode` (`Grid.genGrid_get`).
-/
import GSV.Props.C11
import GSV.Props.Grid
namespace GSV.Props.C11
open GSV GSV.Transc GSV.Summator GSV.Props GSV.Model.Grid

set_option linter.unusedSectionVars false

section grid
variable {α : Type} [Arith α] [Transc α] [DecidableLT α] [DecidableLE α] [Inhabited α]

/-- the `(dim, N)` position array of a structured call: row `d`, column `q` of `generate_grid(axes)` -/
def gridPos (axes : List (List α)) : Nat → Nat → α :=
  fun d q => ((genGrid axes).getD q default).getD d default

/-- the `(dim, N)` array of `generate_grid` the driver runs (`genGridRows`) has `gridPos axes d q` in row `d`, column `q` -/
theorem genGridRows_getD (axes : List (List α)) (d q : Nat) (hd : d < axes.length) (hq : q < (genGrid axes).length) :
    ((genGridRows axes).getD d []).getD q default = gridPos axes d q := by
  simp only [genGridRows, gridPos, List.getD_eq_getElem?_getD, List.getElem?_map, List.getElem?_range hd,
    List.getElem?_eq_getElem hq, Option.map_some, Option.getD_some]

theorem encode_lt_length (axes : List (List α)) (is : List Nat) (h : Valid (axes.map List.length) is) :
    encode (axes.map List.length) is < (genGrid axes).length := by
  rw [Grid.genGrid_length]
  exact Grid.encode_lt h

/-- column `encode dims is` of the expanded grid is the grid point with multi-index `is` -/
theorem gridPos_encode (axes : List (List α)) (is : List Nat) (h : Valid (axes.map List.length) is) (d : Nat) :
    gridPos axes d (encode (axes.map List.length) is) = (pointAt axes is).getD d default := by
  have hg : (genGrid axes).getD (encode (axes.map List.length) is) default = pointAt axes is := by
    rw [List.getD_eq_getElem?_getD, List.getElem?_eq_getElem (encode_lt_length axes is h), Option.getD_some,
      Grid.genGrid_get axes _ (Grid.encode_lt h), Grid.decode_encode h]
  unfold gridPos
  rw [hg]

/-- randomization method (`summate`), structured = unstructured: entry `is` of the reshaped structured field equals the
    unstructured evaluation on any point list `pos'` at any position `i'` holding the grid point `pointAt axes is`
    — every dimension, every axis length, any two admissible schedules -/
theorem summate_structured_eq_unstructured (s s' : Sched) (hs : s.Admissible) (hs' : s'.Admissible)
    (cov : Nat → Nat → α) (c0 c1 : Nat) (z1 : Nat → α) (n1 : Nat) (z2 : Nat → α) (n2 : Nat)
    (axes : List (List α)) (is : List Nat) (h : Valid (axes.map List.length) is)
    (pos' : Nat → Nat → α) (dim X' i' : Nat) (hi' : i' < X')
    (hpt : ∀ d, d < dim → pos' d i' = (pointAt axes is).getD d default) :
    summate s cov c0 c1 z1 n1 z2 n2 (gridPos axes) dim (genGrid axes).length (encode (axes.map List.length) is) =
      summate s' cov c0 c1 z1 n1 z2 n2 pos' dim X' i' :=
  summate_local s s' hs hs' cov c0 c1 z1 n1 z2 n2 _ pos' dim _ X' _ i' (encode_lt_length axes is h) hi'
    fun d hd => (gridPos_encode axes is h d).trans (hpt d hd).symm

/-- Fourier method (`summate_fourier`), structured = unstructured: entry `is` of the reshaped structured field equals the
    unstructured evaluation on any point list at any position holding that grid point -/
theorem summate_fourier_structured_eq_unstructured (s s' : Sched) (hs : s.Admissible) (hs' : s'.Admissible)
    (sf : Nat → α) (f0 : Nat) (modes : Nat → Nat → α) (c0 c1 : Nat) (z1 : Nat → α) (n1 : Nat) (z2 : Nat → α) (n2 : Nat)
    (axes : List (List α)) (is : List Nat) (h : Valid (axes.map List.length) is)
    (pos' : Nat → Nat → α) (dim X' i' : Nat) (hi' : i' < X')
    (hpt : ∀ d, d < dim → pos' d i' = (pointAt axes is).getD d default) :
    summate_fourier s sf f0 modes c0 c1 z1 n1 z2 n2 (gridPos axes) dim (genGrid axes).length
        (encode (axes.map List.length) is) =
      summate_fourier s' sf f0 modes c0 c1 z1 n1 z2 n2 pos' dim X' i' :=
  summate_fourier_local s s' hs hs' sf f0 modes c0 c1 z1 n1 z2 n2 _ pos' dim _ X' _ i' (encode_lt_length axes is h) hi'
    fun d hd => (gridPos_encode axes is h d).trans (hpt d hd).symm

/-- incompressible vector fields (`summate_incompr`), structured = unstructured for every component `e`: entry `is` of the
    reshaped structured field equals the unstructured evaluation on any point list at any position holding that grid point -/
theorem summate_incompr_structured_eq_unstructured
    (cov : Nat → Nat → α) (c0 c1 : Nat) (z1 : Nat → α) (n1 : Nat) (z2 : Nat → α) (n2 : Nat)
    (axes : List (List α)) (is : List Nat) (h : Valid (axes.map List.length) is)
    (pos' : Nat → Nat → α) (dim X' e i' : Nat) (hi' : i' < X')
    (hpt : ∀ d, d < dim → pos' d i' = (pointAt axes is).getD d default) :
    summate_incompr cov c0 c1 z1 n1 z2 n2 (gridPos axes) dim (genGrid axes).length e
        (encode (axes.map List.length) is) =
      summate_incompr cov c0 c1 z1 n1 z2 n2 pos' dim X' e i' :=
  summate_incompr_local cov c0 c1 z1 n1 z2 n2 _ pos' dim _ X' e _ i' (encode_lt_length axes is h) hi'
    fun d hd => (gridPos_encode axes is h d).trans (hpt d hd).symm

end grid

/-- non-vacuity: on the 2 × 3 grid with axes (10, 20) × (1, 2, 3) the multi-index (1, 2) is valid, sits at flat
    position 5, and the expanded position array carries the grid point (20, 3) there -/
example : Valid ([[10, 20], [1, 2, 3]].map List.length) [1, 2] ∧
    encode ([[10, 20], [1, 2, 3]].map List.length) [1, 2] = 5 ∧
    gridPos [[10, 20], [1, 2, 3]] 0 5 = 20 ∧ gridPos [[10, 20], [1, 2, 3]] 1 5 = 3 := by
  refine ⟨⟨by decide, by decide, trivial⟩, rfl, rfl, rfl⟩

end GSV.Props.C11
