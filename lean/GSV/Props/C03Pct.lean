/-
  C03 — the percentile scale under an arbitrary `rescale`.  `tools.percentile_scale(model, per)` is meant to return the
  smallest positive lag at which the variogram has risen by the fraction `per` of the variance.  Since
  `correlation(r) = cor(|r| / len_rescaled)`, that lag is `len_rescaled = len_scale / rescale` times the smallest
  non-negative `h` with `cor h = 1 - per` (`GSV.Model.CovFn.percentileScale`, what the driver evaluates on `Float`);
  for a kernel of finite range it lies strictly inside `len_rescaled`.
-/
import GSV.Props.C03
namespace GSV.Props.C03Pct
open GSV GSV.Transc GSV.Model.CovFn GSV.Lemmas.CovFn GSV.Props.C03

/-! ## the scaling law -/

/-- if `hstar ≥ 0` is a root of `cor h = 1 - per`, then `len_rescaled * hstar` is a root of the curve
    `1 - correlation(x) - per` that `percentile_scale` solves — whatever `rescale` is -/
theorem percentile_scale_scaling (p : Par ℝ) (c : ℝ → ℝ) (hl : 0 < p.lenScale) (hs : 0 < p.rescale)
    (hstar per : ℝ) (h0 : 0 ≤ hstar) (hroot : c hstar = 1 - per) :
    1 - (fromCor p c).correlation (percentileScale p hstar) - per = 0 := by
  rw [percentileScale, correlation_lenRescaled_mul p c hl hs h0, hroot]; ring

/-- if no non-negative `h < hstar` has `cor h = 1 - per`, then no non-negative lag below `len_rescaled * hstar` has
    correlation `1 - per`: with `percentile_scale_scaling`, `len_rescaled * hstar` is the smallest lag reaching the
    percentile -/
theorem percentile_scale_smallest (p : Par ℝ) (c : ℝ → ℝ) (hl : 0 < p.lenScale) (hs : 0 < p.rescale)
    (hstar per : ℝ) (hmin : ∀ h, 0 ≤ h → h < hstar → c h ≠ 1 - per) :
    ∀ x, 0 ≤ x → x < percentileScale p hstar → (fromCor p c).correlation x ≠ 1 - per := by
  intro x hx hlt
  have hL := lenRescaled_pos hl hs
  have hx0 : 0 ≤ x / lenRescaled p := div_nonneg hx hL.le
  rw [← mul_div_cancel₀ x hL.ne', correlation_lenRescaled_mul p c hl hs hx0]
  exact hmin _ hx0 ((div_lt_iff₀' hL).mpr hlt)

theorem percentile_scale_variogram (p : Par ℝ) (c : ℝ → ℝ) (hl : 0 < p.lenScale) (hs : 0 < p.rescale)
    (hstar per : ℝ) (h0 : 0 ≤ hstar) (hroot : c hstar = 1 - per) :
    (fromCor p c).variogram (percentileScale p hstar) = p.nugget + per * p.var :=
  percentile_spec p _ (derived_from_cor p c) _ per (percentile_scale_scaling p c hl hs hstar per h0 hroot)

/-- finite range: if `cor` vanishes from `h = 1` on, every lag whose correlation is `1 - per` with `per < 1`
    lies strictly inside the range `len_rescaled = len_scale / rescale` -/
theorem percentile_inside_range (p : Par ℝ) (c : ℝ → ℝ) (hl : 0 < p.lenScale) (hs : 0 < p.rescale)
    (hcompact : ∀ h, 1 ≤ h → c h = 0) (per x : ℝ) (h1 : per < 1)
    (hroot : 1 - (fromCor p c).correlation x - per = 0) : |x| < lenRescaled p := by
  by_contra hlt
  have : (fromCor p c).correlation x = 0 := hcompact _ ((one_le_div (lenRescaled_pos hl hs)).mpr (not_lt.mp hlt))
  rw [this] at hroot
  linarith

theorem tplSimpleCor_compact (nu : ℝ) (hnu : 0 < nu) (h : ℝ) (hh : 1 ≤ h) : tplSimpleCor nu h = 0 :=
  (tplSimple_support_edge nu hnu.ne').2 h (hh.trans (le_abs_self h))

/-! ## closed forms: root and minimality for the elementary kernels -/

/-- TPLSimple: `(1 - h)^ν = 1 - per` first at `h = 1 - (1 - per)^(1/ν)` -/
theorem tplSimplePct_spec (nu per : ℝ) (hnu : 0 < nu) (h0 : 0 < per) (h1 : per < 1) :
    0 ≤ tplSimplePct nu per ∧ tplSimpleCor nu (tplSimplePct nu per) = 1 - per ∧
    ∀ h, 0 ≤ h → h < tplSimplePct nu per → tplSimpleCor nu h ≠ 1 - per := by
  have hq : 0 < 1 - per := sub_pos.mpr h1
  simp only [tplSimplePct, rpow_real, Nat.cast_one]
  set q := (1 - per) ^ (1 / nu) with hqdef
  have hq0 : 0 < q := Real.rpow_pos_of_pos hq _
  have hqlt : q < 1 := Real.rpow_lt_one hq.le (sub_lt_self 1 h0) (one_div_pos.mpr hnu)
  have hqpow : q ^ nu = 1 - per := by
    rw [hqdef, one_div, Real.rpow_inv_rpow hq.le hnu.ne']
  have key : ∀ h : ℝ, 0 ≤ h → h ≤ 1 → tplSimpleCor nu h = (1 - h) ^ nu := fun h hh hh1 => by
    rw [tplSimpleCor_eq, abs_of_nonneg hh, min_eq_left hh1]
  refine ⟨sub_nonneg.mpr hqlt.le, ?_, fun h hh hlt => ?_⟩
  · rw [key (1 - q) (sub_nonneg.mpr hqlt.le) (sub_le_self 1 hq0.le), sub_sub_cancel, hqpow]
  · rw [key h hh (hlt.trans (sub_lt_self 1 hq0)).le, ← hqpow]
    exact (Real.rpow_lt_rpow hq0.le (lt_sub_comm.mp hlt) hnu).ne'

/-- Linear: `1 - h = 1 - per` first at `h = per`; the TPLSimple kernel with `ν = 1` -/
theorem linearPct_spec (per : ℝ) (h0 : 0 < per) (h1 : per < 1) :
    linearCor (linearPct per) = 1 - per ∧ ∀ h, 0 ≤ h → h < linearPct per → linearCor h ≠ 1 - per := by
  have hpct : tplSimplePct 1 per = linearPct per := by
    simp only [tplSimplePct, linearPct, rpow_real, Nat.cast_one, div_one, Real.rpow_one, sub_sub_cancel]
  simpa only [← linearCor_eq_tplSimpleCor, hpct] using (tplSimplePct_spec 1 per one_pos h0 h1).2

/-- a kernel `exp(-g h)` with `g` increasing up to the lag where it reaches `-log(1 - per)` -/
theorem exp_neg_spec (g : ℝ → ℝ) {hstar per : ℝ} (h1 : per < 1) (hs : 0 ≤ hstar)
    (hg : g hstar = -Real.log (1 - per)) (hmono : ∀ h, 0 ≤ h → h < hstar → g h < g hstar) :
    0 ≤ hstar ∧ Real.exp (-g hstar) = 1 - per ∧ ∀ h, 0 ≤ h → h < hstar → Real.exp (-g h) ≠ 1 - per := by
  have hroot : Real.exp (-g hstar) = 1 - per := by rw [hg, neg_neg, Real.exp_log (by linarith)]
  exact ⟨hs, hroot, fun h hh hlt => hroot ▸ (Real.exp_lt_exp.mpr (neg_lt_neg (hmono h hh hlt))).ne'⟩

theorem neg_log_pos {per : ℝ} (h0 : 0 < per) (h1 : per < 1) : 0 < -Real.log (1 - per) :=
  neg_pos.mpr (Real.log_neg (by linarith) (by linarith))

/-- Stable (`α > 0`): `exp(-h^α) = 1 - per` exactly at `h = (-log(1 - per))^(1/α)`; `α = 1` is the Exponential,
    `α = 2` the Gaussian kernel -/
theorem stablePct_spec (alpha per : ℝ) (ha : 0 < alpha) (h0 : 0 < per) (h1 : per < 1) :
    0 ≤ stablePct alpha per ∧ stableCor alpha (stablePct alpha per) = 1 - per ∧
    ∀ h, 0 ≤ h → h < stablePct alpha per → stableCor alpha h ≠ 1 - per := by
  have hL := neg_log_pos h0 h1
  simp only [stablePct, rpow_real, log_real, Nat.cast_one]
  exact exp_neg_spec (· ^ alpha) h1 (by positivity) (by rw [one_div, Real.rpow_inv_rpow hL.le ha.ne'])
    fun h hh hlt => Real.rpow_lt_rpow hh hlt ha

theorem exponentialPct_spec (per : ℝ) (h0 : 0 < per) (h1 : per < 1) :
    0 ≤ exponentialPct per ∧ exponentialCor (exponentialPct per) = 1 - per ∧
    ∀ h, 0 ≤ h → h < exponentialPct per → exponentialCor h ≠ 1 - per := by
  simp only [exponentialPct, log_real, Nat.cast_one]
  exact exp_neg_spec id h1 (neg_log_pos h0 h1).le rfl fun h _ hlt => hlt

theorem gaussianPct_spec (per : ℝ) (h0 : 0 < per) (h1 : per < 1) :
    0 ≤ gaussianPct per ∧ gaussianCor (gaussianPct per) = 1 - per ∧
    ∀ h, 0 ≤ h → h < gaussianPct per → gaussianCor h ≠ 1 - per := by
  have hL := neg_log_pos h0 h1
  simp only [gaussianPct, log_real, sqrt_real, Nat.cast_one]
  exact exp_neg_spec (· ^ 2) h1 (Real.sqrt_nonneg _) (Real.sq_sqrt hL.le) fun h hh hlt =>
    pow_lt_pow_left₀ hlt hh two_ne_zero

/-- a kernel evaluated at `a |h|`: its first root is that of the kernel divided by `a` -/
theorem spec_comp_mul_abs {c : ℝ → ℝ} {a hstar v : ℝ} (ha : 0 < a)
    (hspec : 0 ≤ hstar ∧ c hstar = v ∧ ∀ h, 0 ≤ h → h < hstar → c h ≠ v) :
    0 ≤ hstar / a ∧ c (a * |hstar / a|) = v ∧ ∀ h, 0 ≤ h → h < hstar / a → c (a * |h|) ≠ v := by
  have h0 : 0 ≤ hstar / a := div_nonneg hspec.1 ha.le
  refine ⟨h0, ?_, fun h hh hlt => ?_⟩
  · rw [abs_of_nonneg h0, mul_div_cancel₀ _ ha.ne', hspec.2.1]
  · rw [abs_of_nonneg hh]
    exact hspec.2.2 _ (mul_nonneg ha.le hh) ((lt_div_iff₀' ha).mp hlt)

/-- Matern `ν = 1/2`: `exp(-sqrt(1/2) h) = 1 - per` exactly at `h = -log(1 - per) / sqrt(1/2)`; the Exponential kernel
    at `sqrt(1/2) |h|` -/
theorem matern12Pct_spec (per : ℝ) (h0 : 0 < per) (h1 : per < 1) :
    0 ≤ matern12Pct per ∧ matern12Cor (matern12Pct per) = 1 - per ∧
    ∀ h, 0 ≤ h → h < matern12Pct per → matern12Cor h ≠ 1 - per :=
  spec_comp_mul_abs (Real.sqrt_pos.mpr (by norm_num)) (exponentialPct_spec per h0 h1)

/-- Matern `ν > 20` (the Gaussian limit the code evaluates): `exp(-(h/2)²) = 1 - per` at `2 sqrt(-log(1 - per))`; the
    Gaussian kernel at `|h| / 2` -/
theorem maternLimitPct_spec (per : ℝ) (h0 : 0 < per) (h1 : per < 1) :
    0 ≤ maternLimitPct per ∧ maternLimitCor (maternLimitPct per) = 1 - per ∧
    ∀ h, 0 ≤ h → h < maternLimitPct per → maternLimitCor h ≠ 1 - per := by
  have hcor : ∀ h : ℝ, maternLimitCor h = gaussianCor (2⁻¹ * |h|) := fun h => by
    simp only [maternLimitCor, gaussianCor, fabs_real, Nat.cast_ofNat, div_eq_inv_mul]
  have hpct : maternLimitPct per = gaussianPct per / 2⁻¹ := by
    simp only [maternLimitPct, gaussianPct, Nat.cast_ofNat, div_inv_eq_mul, mul_comm]
  simp only [hcor, hpct]
  exact spec_comp_mul_abs (by norm_num) (gaussianPct_spec per h0 h1)

/-- Rational (`α > 0`): `(1 + h²/α)^(-α) = 1 - per` exactly at `h = sqrt(α ((1 - per)^(-1/α) - 1))` -/
theorem rationalPct_spec (alpha per : ℝ) (ha : 0 < alpha) (h0 : 0 < per) (h1 : per < 1) :
    0 ≤ rationalPct alpha per ∧ rationalCor alpha (rationalPct alpha per) = 1 - per ∧
    ∀ h, 0 ≤ h → h < rationalPct alpha per → rationalCor alpha h ≠ 1 - per := by
  have hq : 0 < 1 - per := sub_pos.mpr h1
  have key : ∀ h : ℝ, rationalCor alpha h = (1 + h ^ 2 / alpha) ^ (-alpha) := fun h => by
    simp only [rationalCor, rpow_real, npow_real, Nat.cast_one]
  simp only [rationalPct, rpow_real, sqrt_real, Nat.cast_one]
  set w := (1 - per) ^ (-(1 / alpha)) with hw
  have hw1 : 1 < w := Real.one_lt_rpow_of_pos_of_lt_one_of_neg hq (sub_lt_self 1 h0) (neg_neg_of_pos (one_div_pos.mpr ha))
  have hwpow : w ^ (-alpha) = 1 - per := by
    rw [hw, ← Real.rpow_mul hq.le, neg_mul_neg, one_div, inv_mul_cancel₀ ha.ne', Real.rpow_one]
  have harg : 0 ≤ alpha * (w - 1) := mul_nonneg ha.le (sub_nonneg.mpr hw1.le)
  refine ⟨Real.sqrt_nonneg _, ?_, fun h hh hlt => ?_⟩
  · rw [key, Real.sq_sqrt harg, mul_div_cancel_left₀ _ ha.ne', add_sub_cancel, hwpow]
  · -- `h² < α (w - 1)`, so the base `1 + h²/α` is below `w` and its negative power above `w^(-α)`
    have hsq : h ^ 2 < alpha * (w - 1) := (Real.lt_sqrt hh).mp hlt
    have hbase : 1 + h ^ 2 / alpha < w := by rwa [← lt_sub_iff_add_lt', div_lt_iff₀' ha]
    rw [key, ← hwpow]
    exact (Real.rpow_lt_rpow_of_neg (by positivity) hbase (neg_neg_of_pos ha)).ne'

/-! ## the statement about the model, for every rescale -/

/-- what it means for `x` to be the percentile scale of the model `F`: the variogram there is
    `nugget + per * var` and no smaller non-negative lag has the correlation `1 - per` -/
def IsPercentileScale (p : Par ℝ) (F : Fns ℝ) (per x : ℝ) : Prop :=
  0 ≤ x ∧ F.variogram x = p.nugget + per * p.var ∧ ∀ y, 0 ≤ y → y < x → F.correlation y ≠ 1 - per

theorem isPercentileScale_of_spec (p : Par ℝ) (c : ℝ → ℝ) (hl : 0 < p.lenScale) (hs : 0 < p.rescale)
    (hstar per : ℝ)
    (hspec : 0 ≤ hstar ∧ c hstar = 1 - per ∧ ∀ h, 0 ≤ h → h < hstar → c h ≠ 1 - per) :
    IsPercentileScale p (fromCor p c) per (percentileScale p hstar) :=
  ⟨mul_nonneg (lenRescaled_pos hl hs).le hspec.1,
   percentile_scale_variogram p c hl hs hstar per hspec.1 hspec.2.1,
   percentile_scale_smallest p c hl hs hstar per hspec.2.2⟩

/-- the percentile scale of the elementary models is `len_scale / rescale` times the closed-form percentile lag of
    the kernel, for every `rescale > 0` (this is the value the driver evaluates on `Float` and the correspondence
    compares with `CovModel.percentile_scale`) -/
theorem percentile_scale_closed_forms (p : Par ℝ) (per : ℝ) (h0 : 0 < per) (h1 : per < 1)
    (hl : 0 < p.lenScale) (hs : 0 < p.rescale) :
    IsPercentileScale p (fromCor p linearCor) per (percentileScale p (linearPct per)) ∧
    IsPercentileScale p (fromCor p exponentialCor) per (percentileScale p (exponentialPct per)) ∧
    IsPercentileScale p (fromCor p gaussianCor) per (percentileScale p (gaussianPct per)) ∧
    IsPercentileScale p (fromCor p matern12Cor) per (percentileScale p (matern12Pct per)) ∧
    IsPercentileScale p (fromCor p maternLimitCor) per (percentileScale p (maternLimitPct per)) ∧
    (∀ a : ℝ, 0 < a → IsPercentileScale p (fromCor p (stableCor a)) per (percentileScale p (stablePct a per))) ∧
    (∀ a : ℝ, 0 < a → IsPercentileScale p (fromCor p (rationalCor a)) per (percentileScale p (rationalPct a per))) ∧
    (∀ nu : ℝ, 0 < nu → IsPercentileScale p (fromCor p (tplSimpleCor nu)) per (percentileScale p (tplSimplePct nu per))) := by
  have key := fun c hstar => isPercentileScale_of_spec p c hl hs hstar per
  exact ⟨key _ _ ⟨h0.le, linearPct_spec per h0 h1⟩, key _ _ (exponentialPct_spec per h0 h1),
    key _ _ (gaussianPct_spec per h0 h1), key _ _ (matern12Pct_spec per h0 h1), key _ _ (maternLimitPct_spec per h0 h1),
    fun a ha => key _ _ (stablePct_spec a per ha h0 h1), fun a ha => key _ _ (rationalPct_spec a per ha h0 h1),
    fun nu hnu => key _ _ (tplSimplePct_spec nu per hnu h0 h1)⟩

/-- finite range, all rescales: a percentile scale of the Linear / TPLSimple model is smaller than
    `len_scale / rescale`; in particular `per * len_scale` is not one when `rescale ≥ 1 / per` -/
theorem percentile_scale_lt_range (p : Par ℝ) (per : ℝ) (h0 : 0 < per) (h1 : per < 1)
    (hl : 0 < p.lenScale) (hs : 0 < p.rescale) :
    percentileScale p (linearPct per) < lenRescaled p ∧
    (∀ nu : ℝ, 0 < nu → percentileScale p (tplSimplePct nu per) < lenRescaled p) ∧
    (1 / per ≤ p.rescale → ∀ x, per * p.lenScale ≤ x → 1 - (fromCor p linearCor).correlation x - per ≠ 0) := by
  have hL := lenRescaled_pos hl hs
  refine ⟨mul_lt_of_lt_one_right hL h1, fun nu hnu => mul_lt_of_lt_one_right hL ?_, fun hres x hx hroot => ?_⟩
  · simp only [tplSimplePct, rpow_real, Nat.cast_one]
    exact sub_lt_self 1 (Real.rpow_pos_of_pos (sub_pos.mpr h1) _)
  · have hin := percentile_inside_range p linearCor hl hs (fun h hh => linear_support_edge.2 h (hh.trans (le_abs_self h)))
      per x h1 hroot
    rw [abs_of_nonneg ((mul_pos h0 hl).le.trans hx)] at hin
    -- `len_rescaled ≤ per * len_scale` because `1 ≤ per * rescale`
    have h1s : 1 ≤ per * p.rescale := (div_le_iff₀' h0).mp hres
    have : lenRescaled p ≤ per * p.lenScale :=
      (div_le_iff₀ hs).mpr (by rw [mul_right_comm]; exact le_mul_of_one_le_left hl.le h1s)
    exact (hin.trans_le (this.trans hx)).false

/-- `var = 2`, `len_scale = 1`, `nugget = 0.5`, `rescale = 1.5`: the range of a finite-range kernel is `2/3` -/
def exPar : Par ℝ := ⟨2, 1, 0.5, 1.5⟩

theorem exPar_lenScale : 0 < exPar.lenScale := one_pos
theorem exPar_rescale : 0 < exPar.rescale := by rw [exPar]; norm_num

/-- `Linear(len_scale = 1, rescale = 1.5)`: the percentile scale for 90 % is `0.9 / 1.5 = 0.6` -/
example : IsPercentileScale exPar (fromCor exPar linearCor) 0.9 0.6 := by
  have h := (percentile_scale_closed_forms exPar 0.9 (by norm_num) (by norm_num) exPar_lenScale exPar_rescale).1
  have : percentileScale exPar (linearPct 0.9) = 0.6 := by
    simp only [percentileScale, lenRescaled, linearPct, exPar]; norm_num
  rwa [this] at h

/-- for the same model `0.9 = per * len_scale` (beyond the range `2/3`) is not a root of the percentile curve -/
example : 1 - (fromCor exPar linearCor).correlation 0.9 - 0.9 ≠ 0 :=
  (percentile_scale_lt_range exPar 0.9 (by norm_num) (by norm_num) exPar_lenScale exPar_rescale).2.2
    (by norm_num [exPar]) 0.9 (by norm_num [exPar])

example : IsPercentileScale exPar (fromCor exPar (tplSimpleCor 2)) 0.75 (percentileScale exPar (tplSimplePct 2 0.75)) :=
  (percentile_scale_closed_forms exPar 0.75 (by norm_num) (by norm_num) exPar_lenScale exPar_rescale).2.2.2.2.2.2.2 2
    (by norm_num)

end GSV.Props.C03Pct
