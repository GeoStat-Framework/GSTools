/-
  C12 — Field objects between calls (`GSV/Model/Pipe.lean`: `FState`, `fStep`): the model object can be changed in
  place or swapped, the position tuple of the last call is kept (`obj()` evaluates it again), kriging keeps the
  isometrized conditioning tuple `_krige_pos` that `set_condition` computed.  For every history: a call without
  positions isometrizes the stored tuple with the CURRENT model, exactly as a fresh object given that tuple would;
  `_krige_pos` follows a changed model only after the documented refresh `set_condition()`.
  The model is tied to the code by differential execution of whole histories (`vlib/props/C12.py: _field_hist_case`).
-/
import GSV.Props.C12Compose
namespace GSV.Props.C12
open GSV GSV.Model.Geo GSV.Lemmas.Geo GSV.Model.Pipe GSV.Model.Gen

/-- one operation on a field object (setter, model replacement, call, `set_condition`; accepted or rejected) leaves
    the model it holds valid -/
theorem fStep_valid {s : FState ℝ} (hs : MValid s.model) (op : FOp ℝ) : MValid (fStep s op).1.model := by
  cases op with
  | setter o => exact mStepKeep_valid hs o
  | replace d ls an ag =>
    simp only [fStep]
    cases h : mInit d ls an ag with
    | ok m => exact mInit_valid h
    | error e => exact hs
  | call p =>
    cases p with
    | some p => exact hs
    | none => simp only [fStep]; cases s.pos <;> exact hs
  | setCond c =>
    cases c with
    | some c => exact hs
    | none => simp only [fStep]; cases s.cond <;> exact hs

/-- the model a field object holds after any history of operations is valid -/
theorem fFinal_valid {s : FState ℝ} (hs : MValid s.model) (ops : List (FOp ℝ)) : MValid (fFinal s ops).model := by
  induction ops generalizing s with
  | nil => exact hs
  | cons op rest ih => exact ih (fStep_valid hs op)

/-- the position tuple an object holds after one more operation -/
def givenBy {α : Type} (prev : Option (PosTab α)) : FOp α → Option (PosTab α)
  | .call (some p) => some p
  | _ => prev

/-- the tuple given with the last call that had one (`prev` if there was none) -/
def lastGiven {α : Type} (prev : Option (PosTab α)) (ops : List (FOp α)) : Option (PosTab α) := ops.foldl givenBy prev

theorem fStep_pos (s : FState ℝ) (op : FOp ℝ) : (fStep s op).1.pos = givenBy s.pos op := by
  cases op with
  | setter o => rfl
  | replace d ls an ag => simp only [fStep, givenBy]; cases mInit d ls an ag <;> rfl
  | call p =>
    cases p with
    | some p => rfl
    | none => cases h : s.pos <;> simp [fStep, givenBy, h]
  | setCond c =>
    cases c with
    | some c => rfl
    | none => cases h : s.cond <;> simp [fStep, givenBy, h]

/-- the stored positions are those of the last call that was given positions — model setters, model replacement
    and `set_condition` do not touch them -/
theorem stored_pos_is_last_given (s : FState ℝ) (ops : List (FOp ℝ)) : (fFinal s ops).pos = lastGiven s.pos ops := by
  induction ops generalizing s with
  | nil => rfl
  | cons op rest ih =>
    show (fFinal (fStep s op).1 rest).pos = lastGiven (givenBy s.pos op) rest
    rw [ih, fStep_pos]

/-- a call without positions evaluates `isometrize` of the CURRENT model state on the stored tuple -/
theorem stored_call_current (s : FState ℝ) (p : PosTab ℝ) (hp : s.pos = some p) :
    fStep s (.call none) = (s, .iso ⟨p.n, isoPos s.model.dim s.model.angles s.model.anis p.tab⟩) := by
  simp only [fStep, hp, isoTabOf]

/-- history independence on stored positions: after the constructor and any history of in-place setters (accepted or
    rejected), model replacements, calls and `set_condition`s, the constructor accepts the current public values of the
    model, and a call without positions hands the computation exactly the isometrized tuple that a new object around that
    freshly constructed model receives when it is given the stored tuple.  The constructed model is the current state
    (`valid_fresh`); that the two calls then agree is how `fStep` is written. -/
theorem stored_call_is_fresh {d : Nat} {ls an ag : List ℝ} {m0 : MState ℝ} (h0 : mInit d ls an ag = .ok m0)
    (ops : List (FOp ℝ)) (p : PosTab ℝ) (hp : (fFinal (fInit m0) ops).pos = some p) :
    let s := fFinal (fInit m0) ops
    ∃ m', mInit s.model.dim [s.model.lenScale] s.model.anis s.model.angles = .ok m' ∧
      (fStep s (.call none)).2 = (fStep (fInit m') (.call (some p))).2 := by
  intro s
  have hv : MValid s.model := fFinal_valid (s := fInit m0) (mInit_valid h0) ops
  refine ⟨s.model, valid_fresh hv, ?_⟩
  rw [stored_call_current s p hp]
  rfl

/-- the tuple handed to the generator by a call without positions, after any history -/
noncomputable def storedIso (s : FState ℝ) (p : PosTab ℝ) : Nat → Nat → ℝ := isoPos s.model.dim s.model.angles s.model.anis p.tab

/-- randomization field on stored positions: whatever happened to the model object since the positions were
    given, `srf()` is the field of the current `(angles, anis)` at the stored positions, which equals the isotropic
    unrotated generator at the currently transformed stored positions and the mode sum with wave vectors `Mᵀk` at the raw
    stored positions -/
theorem stored_srf_randmeth_eq_iso (s : FState ℝ) (p : PosTab ℝ) (hp : s.pos = some p)
    (var : ℝ) (k : Nat → Nat → ℝ) (z1 z2 : Nat → ℝ) (N i : Nat) :
    (fStep s (.call none)).2 = .iso ⟨p.n, storedIso s p⟩ ∧
    randmethField var k z1 z2 (storedIso s p) s.model.dim N p.n i
      = srfRandmeth var k z1 z2 s.model.dim s.model.angles s.model.anis p.tab N p.n i ∧
    randmethField var k z1 z2 (storedIso s p) s.model.dim N p.n i
      = srfRandmeth var k z1 z2 s.model.dim ([] : List ℝ) [] (storedIso s p) N p.n i ∧
    randmethField var k z1 z2 (storedIso s p) s.model.dim N p.n i
      = randmethField var (modesT s.model.dim s.model.angles s.model.anis k) z1 z2 p.tab s.model.dim N p.n i := by
  have h := srf_randmeth_aniso_eq_iso var k z1 z2 s.model.dim s.model.angles s.model.anis p.tab N p.n i
  exact ⟨congrArg Prod.snd (stored_call_current s p hp), rfl, h.1, h.2⟩

/-- Fourier field on stored positions: `srf()` hands the generator the stored tuple isometrized with the current
    `(angles, anis)`; its field equals the isotropic unrotated generator's at those positions and the mode sum over the
    lattice points `Mᵀk` at the raw stored positions -/
theorem stored_srf_fourier_eq_iso (s : FState ℝ) (p : PosTab ℝ) (hp : s.pos = some p)
    (sf : Nat → ℝ) (modes : Nat → Nat → ℝ) (z1 z2 : Nat → ℝ) (N i : Nat) :
    (fStep s (.call none)).2 = .iso ⟨p.n, storedIso s p⟩ ∧
    fourierField sf modes z1 z2 (storedIso s p) s.model.dim N p.n i
      = srfFourier sf modes z1 z2 s.model.dim ([] : List ℝ) [] (storedIso s p) N p.n i ∧
    fourierField sf modes z1 z2 (storedIso s p) s.model.dim N p.n i
      = fourierField sf (modesT s.model.dim s.model.angles s.model.anis modes) z1 z2 p.tab s.model.dim N p.n i := by
  have h := srf_fourier_aniso_eq_iso sf modes z1 z2 s.model.dim s.model.angles s.model.anis p.tab N p.n i
  exact ⟨congrArg Prod.snd (stored_call_current s p hp), h.1, h.2⟩

theorem fStep_setCond_none (s : FState ℝ) (c : PosTab ℝ) (hc : s.cond = some c) :
    fStep s (.setCond none) = ({ s with kpos := some (isoTabOf s.model c) }, .kpos (isoTabOf s.model c)) := by
  simp only [fStep, hc]

/-- the documented refresh: after `set_condition()` (no arguments) followed by a call on the stored positions, the
    distances the kriging matrix is built from are `distCC` and those of the right-hand sides are `distCT` of the current
    model between the stored conditioning tuple and the stored targets — the tables `krige_aniso_eq_iso` and
    `condsrf_aniso_eq_iso` are about; model, stored positions and conditioning tuple are unchanged by the refresh.
    All of it is read off `fStep` by unfolding. -/
theorem refresh_then_call_dists (s : FState ℝ) (c p : PosTab ℝ) (hc : s.cond = some c) (hp : s.pos = some p) :
    let s1 := (fStep s (.setCond none)).1
    s1.model = s.model ∧ s1.pos = some p ∧ s1.cond = some c ∧
    ∃ kp q, s1.kpos = some kp ∧ (fStep s1 (.call none)).2 = .iso q ∧ kp.n = c.n ∧ q.n = p.n ∧
      (∀ i j, distKK s.model.dim kp i j = distCC s.model.dim s.model.angles s.model.anis c.tab i j) ∧
      (∀ i t, distKT s.model.dim kp q i t = distCT s.model.dim s.model.angles s.model.anis c.tab p.tab i t) := by
  intro s1
  rw [show s1 = _ from congrArg Prod.fst (fStep_setCond_none s c hc)]
  exact ⟨rfl, hp, hc, isoTabOf s.model c, isoTabOf s.model p, rfl,
    congrArg Prod.snd (stored_call_current { s with kpos := some (isoTabOf s.model c) } p hp), rfl, rfl,
    fun _ _ => rfl, fun _ _ => rfl⟩

/-- the refresh `set_condition()` followed by a call with targets `p` given: the distances of the matrix and of the
    right-hand sides are `distCC` / `distCT` of the current model on the stored conditioning tuple and `p` (by
    unfolding `fStep`) -/
theorem refresh_then_call_given_dists (s : FState ℝ) (c p : PosTab ℝ) (hc : s.cond = some c) :
    let s1 := (fStep s (.setCond none)).1
    ∃ kp q, s1.kpos = some kp ∧ (fStep s1 (.call (some p))).2 = .iso q ∧
      (∀ i j, distKK s.model.dim kp i j = distCC s.model.dim s.model.angles s.model.anis c.tab i j) ∧
      (∀ i t, distKT s.model.dim kp q i t = distCT s.model.dim s.model.angles s.model.anis c.tab p.tab i t) := by
  intro s1
  rw [show s1 = _ from congrArg Prod.fst (fStep_setCond_none s c hc)]
  exact ⟨isoTabOf s.model c, isoTabOf s.model p, rfl, rfl, fun _ _ => rfl, fun _ _ => rfl⟩

/-- what `_krige_pos` is after one more operation: only `set_condition` writes it, with the model of that moment -/
theorem fStep_kpos (s : FState ℝ) (op : FOp ℝ) :
    (fStep s op).1.kpos =
      match op with
      | .setCond (some c) => some (isoTabOf s.model c)
      | .setCond none => (match s.cond with | some c => some (isoTabOf s.model c) | none => s.kpos)
      | _ => s.kpos := by
  cases op with
  | setter o => rfl
  | replace d ls an ag => simp only [fStep]; cases mInit d ls an ag <;> rfl
  | call p =>
    cases p with
    | some p => rfl
    | none => simp only [fStep]; cases s.pos <;> rfl
  | setCond c =>
    cases c with
    | some c => rfl
    | none => simp only [fStep]; cases s.cond <;> rfl

/-- in-place setters, model replacement and calls leave `_krige_pos` as the last `set_condition` computed it: the
    kriging setup follows a changed model only after the refresh -/
theorem kpos_is_last_setCond (s : FState ℝ) (ops : List (FOp ℝ))
    (h : ∀ op ∈ ops, ∀ c, op ≠ .setCond c) : (fFinal s ops).kpos = s.kpos := by
  induction ops generalizing s with
  | nil => rfl
  | cons op rest ih =>
    show (fFinal (fStep s op).1 rest).kpos = s.kpos
    rw [ih _ (fun o ho => h o (List.mem_cons_of_mem _ ho)), fStep_kpos]
    cases op with
    | setCond c => exact absurd rfl (h _ List.mem_cons_self c)
    | setter o => rfl
    | replace d ls an ag => rfl
    | call p => rfl

/-- a 2-D object: positions given, then `model.angles = 0.7` and `model.len_scale = [4, 1]` in place: the stored tuple
    is still there -/
example : ∃ (m0 : MState ℝ) (p : PosTab ℝ),
    mInit 2 ([2] : List ℝ) [1 / 2] [0.3] = .ok m0 ∧
    (fFinal (fInit m0) [.call (some p), .setter (.setAngles [0.7]), .setter (.setLenScale [4, 1])]).pos = some p := by
  have hl := len_scale_single 2 (by norm_num) (2:ℝ) [1 / 2] (by simp)
  refine ⟨⟨2, 2, setAnis 2 [1 / 2], setAngles 2 [0.3]⟩, ⟨3, fun d i => (d : ℝ) + i⟩, ?_, ?_⟩
  · rw [mInit, if_neg (by norm_num), hl]
  · rw [stored_pos_is_last_given]
    rfl

end GSV.Props.C12
