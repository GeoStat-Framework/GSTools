/-
  C17 — periodicity of Fourier-generated fields along the rotated main axes, in every dimension: `periodic_srf`
  (any matrix `Q` with orthonormal rows) with `Q = Geo.matrixDerotate`, whose rows are orthonormal by C12 for all
  dimensions and angle lists.  `Fourier.derot`, C17's own model of `matrix_derotate` written out for `dim ≤ 3`, agrees
  with it there.  The model object's in-place setter histories (C12's `mStep`) are composed with the generator's.
-/
import GSV.Props.C17
import GSV.Props.C12
namespace GSV.Props.C17
open GSV GSV.Props GSV.Model.Fourier GSV.Fourier Finset
open GSV.Lemmas.Geo (toM toM_eye toM_matmul)

/-- the rows of `matrix_derotate(dim, angles)` are orthonormal for every dimension and every angle list (too short,
    too long or empty lists included), in the form `periodic_srf` consumes -/
theorem derotate_rows_orthonormal (d : Nat) (angles : List ℝ) :
    RowsON d (Model.Geo.matrixDerotate d angles) := by
  rw [rowsON_iff, C12.derotate_eq_transpose, Matrix.transpose_transpose]
  exact (C12.rotate_orthogonal d angles).2.1

/-- row `i` of the derotation is the `i`-th rotated main axis of the model (`rotated_main_axes(dim, angles)[i]`) -/
theorem derotate_row_is_main_axis (d : Nat) (angles : List ℝ) (i e : Nat) (hi : i < d) (he : e < d) :
    Model.Geo.matrixDerotate d angles i e = Model.Geo.mainAxes d angles i e :=
  congrFun (congrFun (C12.derotate_eq_transpose d angles) ⟨i, hi⟩) ⟨e, he⟩

/-! ### the two models of `matrix_derotate` agree where both are defined (`dim ≤ 3`) -/

/-- `set_angles`: missing angles count as `0`, surplus ones are ignored -/
theorem setAngles_eq_map (d : Nat) (angles : List ℝ) :
    Model.Geo.setAngles d angles = (List.range (Model.Geo.noOfAngles d)).map fun i => angles.getD i 0 := by
  apply List.ext_getElem
  · rw [Lemmas.Geo.length_setAngles, List.length_map, List.length_range]
  · intro i h1 h2
    rw [List.length_map, List.length_range] at h2
    simp only [Model.Geo.setAngles, List.getElem_map, List.getElem_range, List.getElem_append, List.getElem_take,
      List.getElem_replicate, List.length_take, List.getD_eq_getElem?_getD]
    split
    · rw [List.getElem?_eq_getElem (by omega)]; rfl
    · rw [List.getElem?_eq_none (by omega), Nat.cast_zero]; rfl

private theorem seq2 (angles : List ℝ) :
    Model.Geo.signedSeq 2 (Model.Geo.setAngles 2 angles) = [((0, 1), angles.getD 0 0)] := by
  rw [setAngles_eq_map]
  exact C12.signedSeq_two (angles.getD 0 0) []

private theorem seq2_nil :
    Model.Geo.signedSeq 2 (Model.Geo.setAngles 2 ([] : List ℝ)) = [((0, 1), 0)] :=
  seq2 []

private theorem seq3 (angles : List ℝ) :
    Model.Geo.signedSeq 3 (Model.Geo.setAngles 3 angles) =
      [((0, 1), angles.getD 0 0), ((0, 2), -angles.getD 1 0), ((1, 2), angles.getD 2 0)] := by
  rw [setAngles_eq_map]
  exact C12.signedSeq_three (angles.getD 0 0) (angles.getD 1 0) (angles.getD 2 0) []

/-- C17's model of the derotation (`Fourier.derot`, the matrix product written out for `dim ≤ 3`) and C12's
    (`Geo.matrixDerotate`, the loop over `rotation_planes(dim)` with alternating signs, any dimension) are the same
    matrix for `dim = 1, 2, 3`, every angle list (missing angles count as `0`, surplus ones are ignored) -/
theorem derot_eq_geo (dim : Nat) (h1 : 1 ≤ dim) (h3 : dim ≤ 3) (angles : List ℝ) (d e : Nat) (hd : d < dim) (he : e < dim) :
    derot dim (fun i => angles.getD i 0) d e = Model.Geo.matrixDerotate dim angles d e := by
  suffices h : toM dim (derot dim fun i => angles.getD i 0) = toM dim (Model.Geo.matrixDerotate dim angles) from
    congrFun (congrFun h ⟨d, hd⟩) ⟨e, he⟩
  rw [C12.derotate_eq_prod]
  interval_cases dim
  · -- 1-D: both are the identity
    rw [Model.Geo.signedSeq, (by decide : Model.Geo.rotationPlanes 1 = []), List.zip_nil_right]
    exact toM_eye 1
  · -- 2-D: one Givens rotation by `-angle`
    rw [seq2, derot_two_eq]
    simp only [List.map_cons, List.map_nil, List.prod_cons, List.prod_nil, mul_one]
  · -- 3-D: `G₀₁(−α) · G₀₂(β) · G₁₂(−γ)`, the middle sign coming from the alternation `(-1)^i`
    rw [seq3, derot_three_eq, toM_matmul, toM_matmul]
    simp only [List.map_cons, List.map_nil, List.prod_cons, List.prod_nil, mul_one, neg_neg, mul_assoc]

/-- for `dim = 1, 2, 3` the SRF field computed with C17's model `Fourier.derot` of the derotation is the field
    computed with C12's `Geo.matrixDerotate`, for every angle list -/
theorem srfField_derot_eq_geo (sched : Sched) (hs : sched.Admissible) (dim : Nat) (h1 : 1 ≤ dim) (h3 : dim ≤ 3)
    (angles : List ℝ) (anis : Nat → ℝ) (sf : Nat → ℝ) (modes : Nat → Nat → ℝ) (z1 z2 : Nat → ℝ) (N : Nat)
    (x : Nat → Nat → ℝ) (X i : Nat) :
    srfField sched (derot dim (fun k => angles.getD k 0)) anis sf modes z1 z2 N x dim X i =
      srfField sched (Model.Geo.matrixDerotate dim angles) anis sf modes z1 z2 N x dim X i := by
  unfold srfField
  -- the phases are equal; `genField_congr_phase` asks for equality up to `2π n`, here with `n = 0`
  refine genField_congr_phase hs fun _ j _ => ⟨0, ?_⟩
  rw [Int.cast_zero, zero_mul, add_zero, phaseOf, phaseOf, forRange_cast_zero_add_eq_sum, forRange_cast_zero_add_eq_sum]
  refine sum_congr rfl fun d hd => ?_
  rw [isometrize_real, isometrize_real]
  congr 1
  exact sum_congr rfl fun e he => by rw [derot_eq_geo dim h1 h3 angles d e (mem_range.mp hd) (mem_range.mp he)]

/-! ### the property at SRF level, every dimension -/

/-- SRF level, every dimension, any anisotropy, any rotation angles (any length of the angle list):
    with the derotation `matrix_derotate(dim, angles)` the code builds, the field repeats when every point `i` is
    moved by an integer multiple `c_i · L_{d₀}` of the period given for axis `d₀` along the `d₀`-th main axis of the
    model (row `d₀` of the derotation = `rotated_main_axes(dim, angles)[d₀]`, see `derotate_row_is_main_axis`). -/
theorem periodic_srf_any_dim (sched : Sched) (hs : sched.Admissible) (dim : Nat) (angles : List ℝ)
    (mreq : Nat → Nat) (period anis : Nat → ℝ) (sf z1 z2 : Nat → ℝ) (N X : Nat) (x x' : Nat → Nat → ℝ)
    (d₀ : Nat) (hd₀ : d₀ < dim) (c : Nat → ℤ)
    (hL : ∀ d < dim, period d ≠ 0) (ha : ∀ d < dim, anisP anis d ≠ 0)
    (hshift : ∀ e < dim, ∀ i < X, x' e i = x e i + (c i : ℝ) * period d₀ * Model.Geo.matrixDerotate dim angles d₀ e)
    (i : Nat) :
    srfField sched (Model.Geo.matrixDerotate dim angles) anis sf (modesGrid mreq (deltaK period anis) dim) z1 z2 N x' dim X i =
      srfField sched (Model.Geo.matrixDerotate dim angles) anis sf (modesGrid mreq (deltaK period anis) dim) z1 z2 N x dim X i :=
  periodic_srf sched hs (Model.Geo.matrixDerotate dim angles) mreq period anis sf z1 z2 N dim X x x' d₀ c hL ha
    (fun d hd => derotate_rows_orthonormal dim angles d hd d₀ hd₀) hshift i

/-- SRF level, every dimension, with the shift written along `rotated_main_axes(dim, angles)[d₀]`: the field repeats
    when every point `i` is moved by `c_i · L_{d₀}` along that axis -/
theorem periodic_srf_main_axis (sched : Sched) (hs : sched.Admissible) (dim : Nat) (angles : List ℝ)
    (mreq : Nat → Nat) (period anis : Nat → ℝ) (sf z1 z2 : Nat → ℝ) (N X : Nat) (x x' : Nat → Nat → ℝ)
    (d₀ : Nat) (hd₀ : d₀ < dim) (c : Nat → ℤ)
    (hL : ∀ d < dim, period d ≠ 0) (ha : ∀ d < dim, anisP anis d ≠ 0)
    (hshift : ∀ e < dim, ∀ i < X, x' e i = x e i + (c i : ℝ) * period d₀ * Model.Geo.mainAxes dim angles d₀ e)
    (i : Nat) :
    srfField sched (Model.Geo.matrixDerotate dim angles) anis sf (modesGrid mreq (deltaK period anis) dim) z1 z2 N x' dim X i =
      srfField sched (Model.Geo.matrixDerotate dim angles) anis sf (modesGrid mreq (deltaK period anis) dim) z1 z2 N x dim X i :=
  periodic_srf_any_dim sched hs dim angles mreq period anis sf z1 z2 N X x x' d₀ hd₀ c hL ha
    (fun e he i hi => by rw [hshift e he i hi, derotate_row_is_main_axis dim angles d₀ e hd₀ he]) i

/-- histories, every dimension: constructor, any setter / update calls, then an SRF call with a model
    of any dimension, anisotropy and rotation: the field repeats along the model's main axes by the stored periods -/
theorem srf_after_updates_periodic_any_dim (eqv : Mdl ℝ → Mdl ℝ → Bool) (heq : EqvExact eqv) (us : List (Upd ℝ))
    (m : Mdl ℝ) (angles : List ℝ) (seed : Option Nat)
    (sched : Sched) (hs : sched.Admissible) (sf z1 z2 : Nat → ℝ) (N X : Nat) (x x' : Nat → Nat → ℝ)
    (d₀ : Nat) (hd₀ : d₀ < m.dim) (c : Nat → ℤ) :
    let st0 := run eqv blank us
    let st := (update eqv st0 ⟨some m, seed, none, none⟩).1
    st0.hasPeriod = true → m.dim = st0.model.dim →
    (∀ d < m.dim, st.period d ≠ 0) → (∀ d < m.dim, anisP m.anis d ≠ 0) →
    (∀ e < m.dim, ∀ i < X, x' e i = x e i + (c i : ℝ) * st.period d₀ * Model.Geo.matrixDerotate m.dim angles d₀ e) →
    ∀ i, srfField sched (Model.Geo.matrixDerotate m.dim angles) m.anis sf st.modes z1 z2 N x' m.dim X i =
      srfField sched (Model.Geo.matrixDerotate m.dim angles) m.anis sf st.modes z1 z2 N x m.dim X i := by
  intro st0 st hp hdim hL ha hshift i
  exact srf_after_updates_periodic eqv heq us m seed (Model.Geo.matrixDerotate m.dim angles) sched hs sf z1 z2 N X x x' d₀ c
    hp hdim hL ha (fun d hd => derotate_rows_orthonormal m.dim angles d hd d₀ hd₀) hshift i

/-- the hypotheses `hL`, `ha`, `hshift` of `periodic_srf_any_dim` are satisfiable by a non-trivial shift in 4-D: six
    angles, periods `10, 4, 6, 8`, anisotropy `1/2`; the shifted point differs from the original one because a row of
    the derotation is not zero -/
example : ∃ (angles : List ℝ) (period anis : Nat → ℝ) (x x' : Nat → Nat → ℝ) (c : Nat → ℤ),
    (∀ d < 4, period d ≠ 0) ∧ (∀ d < 4, anisP anis d ≠ 0) ∧
    (∀ e < 4, ∀ i < 1, x' e i = x e i + (c i : ℝ) * period 1 * Model.Geo.matrixDerotate 4 angles 1 e) ∧
    (∃ e < 4, x' e 0 ≠ x e 0) := by
  refine ⟨[0.3, -1.2, 0.7, 2.1, -0.4, 1.9], fun d => if d = 0 then 10 else if d = 1 then 4 else if d = 2 then 6 else 8,
    fun _ => 1 / 2, fun _ _ => 0, fun e _ => 1 * 4 * Model.Geo.matrixDerotate 4 [0.3, -1.2, 0.7, 2.1, -0.4, 1.9] 1 e,
    fun _ => 1, ?_, ?_, ?_, ?_⟩
  · intro d hd; interval_cases d <;> norm_num
  · exact fun d _ => (anisP_pos (fun _ => by norm_num) d).ne'
  · intro e _ i _; simp
  · obtain ⟨e, he, hne⟩ := (derotate_rows_orthonormal 4 [0.3, -1.2, 0.7, 2.1, -0.4, 1.9]).exists_ne_zero (d := 1) (by norm_num)
    exact ⟨e, he, by simpa using hne⟩

/-! ### in-place setter histories of the model object (`GSV.Model.Geo.mStep`)

`SRF.__call__` hands the model object in its current state to `Fourier.update` and isometrizes the positions (given or
stored) with the same object. -/

/-- what the Fourier generator reads of a plain model object in setter state `s`: the dimension and the current ratios
    (`tag` stands for everything else the comparison and the spectrum use) -/
def mdlOfState (s : Model.Geo.MState ℝ) (tag : Nat) : Mdl ℝ := ⟨s.dim, fun d => s.anis.getD d 1, tag⟩

/-- a model object that went through the constructor and any setters has non-zero (positive) ratios on every axis -/
theorem anisP_mdlOfState_pos {s : Model.Geo.MState ℝ} (hv : C12.MValid s) (tag : Nat) :
    ∀ d < s.dim, 0 < anisP (mdlOfState s tag).anis d := by
  obtain ⟨_, _, _, hpos⟩ := hv
  refine fun d _ => anisP_pos (fun e => ?_) d
  show 0 < s.anis.getD e 1
  rw [List.getD_eq_getElem?_getD]
  cases h : s.anis[e]? with
  | none => exact one_pos
  | some a => exact hpos a (List.mem_of_getElem? h)

/-- after in-place changes of the model object, every dimension: constructor of the model, any history of
    `dim` / `len_scale` (one value or one per axis) / `anis` / `angles` assignments (accepted or rejected), any history of
    generator updates, then an SRF call with the model in its final state, whose dimension is the one the generator
    stores: the field repeats when every point is moved by an integer multiple of the stored period of axis `d₀` along
    the `d₀`-th main axis of the final state (row `d₀` of the derotation of its angles), the grid being built from its
    ratios. -/
theorem srf_after_model_setters_periodic (eqv : Mdl ℝ → Mdl ℝ → Bool) (heq : EqvExact eqv) (us : List (Upd ℝ))
    {d : Nat} {ls an ag : List ℝ} {s0 : Model.Geo.MState ℝ} (h0 : Model.Geo.mInit d ls an ag = .ok s0)
    (mops : List (Model.Geo.MOp ℝ)) (tag : Nat) (seed : Option Nat)
    (sched : Sched) (hs : sched.Admissible) (sf z1 z2 : Nat → ℝ) (N X : Nat) (x x' : Nat → Nat → ℝ)
    (d₀ : Nat) (c : Nat → ℤ) :
    let s := Model.Geo.mFinal s0 mops
    let m := mdlOfState s tag
    let st0 := run eqv blank us
    let st := (update eqv st0 ⟨some m, seed, none, none⟩).1
    d₀ < s.dim → st0.hasPeriod = true → s.dim = st0.model.dim →
    (∀ d < s.dim, st.period d ≠ 0) →
    (∀ e < s.dim, ∀ i < X, x' e i = x e i + (c i : ℝ) * st.period d₀ * Model.Geo.matrixDerotate s.dim s.angles d₀ e) →
    ∀ i, srfField sched (Model.Geo.matrixDerotate s.dim s.angles) m.anis sf st.modes z1 z2 N x' s.dim X i =
      srfField sched (Model.Geo.matrixDerotate s.dim s.angles) m.anis sf st.modes z1 z2 N x s.dim X i := by
  intro s m st0 st hd₀ hp hdim hL hshift i
  have hv : C12.MValid s := C12.mFinal_valid (C12.mInit_valid h0) mops
  exact srf_after_updates_periodic_any_dim eqv heq us m s.angles seed sched hs sf z1 z2 N X x x' d₀ hd₀ c hp hdim hL
    (fun d hd => ne_of_gt (anisP_mdlOfState_pos hv tag d hd)) hshift i

/-- a per-axis `len_scale` list redefines the ratios the grid is built with: after `model.len_scale = [l₀, l₁, …]`
    (one positive entry per axis) the generator reads the ratios `l_i / l₀` — the previous ratios are forgotten, the
    angles stay — so `delta_k` of axis `i ≥ 1` is `2π / L_i · l_i / l₀` -/
theorem lenlist_redefines_grid_ratios (s : Model.Geo.MState ℝ) (l0 l1 : ℝ) (ls : List ℝ) (hd : s.dim = ls.length + 2)
    (h0 : 0 < l0) (h : ∀ l ∈ l1 :: ls, 0 < l) (tag : Nat) (period : Nat → ℝ) :
    ∃ s', Model.Geo.mStep s (.setLenScale (l0 :: l1 :: ls)) = .ok s' ∧ s'.angles = s.angles ∧ s'.dim = s.dim ∧
      ∀ k, (hk : k < (l1 :: ls).length) →
        anisP (mdlOfState s' tag).anis (k + 1) = (l1 :: ls)[k] / l0 ∧
        deltaK period (mdlOfState s' tag).anis (k + 1) = 2 * Real.pi / period (k + 1) * ((l1 :: ls)[k] / l0) := by
  refine ⟨_, C12.setLenScale_list s l0 l1 ls hd h0 h, rfl, rfl, ?_⟩
  intro k hk
  have ha : anisP (mdlOfState { s with lenScale := l0, anis := (l1 :: ls).map fun l => l / l0 } tag).anis (k + 1) = (l1 :: ls)[k] / l0 := by
    rw [anisP_succ]
    show ((l1 :: ls).map fun l => l / l0).getD k 1 = _
    rw [List.getD_eq_getElem?_getD, List.getElem?_eq_getElem (by simpa using hk), Option.getD_some, List.getElem_map]
  exact ⟨ha, by rw [deltaK_real, ha]⟩

example : ∃ s' : Model.Geo.MState ℝ, Model.Geo.mStep ⟨2, 3, [1 / 2], [0.4]⟩ (.setLenScale [4, 1]) = .ok s' ∧
    anisP (mdlOfState s' 0).anis 1 = 1 / 4 := by
  obtain ⟨s', h1, _, _, h4⟩ := lenlist_redefines_grid_ratios ⟨2, 3, [1 / 2], [0.4]⟩ 4 1 [] rfl (by norm_num) (by simp) 0 (fun _ => 1)
  exact ⟨s', h1, by simpa using (h4 0 (by simp)).1⟩

end GSV.Props.C17
