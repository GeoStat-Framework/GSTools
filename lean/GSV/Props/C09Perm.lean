/-
  C09 (permutation invariance) — the isotropic variogram estimate does not depend on the order of the points.

  From the C08 specification (bin i = accumulation over the list of qualifying (pair, field) triples, regenerated
  from estimator.pyx): over ℝ, re-indexing the points by any permutation σ (positions and field values together) leaves
  every pair count and every sum / estimate unchanged.  The proof is the re-indexing of unordered pairs:
  {j,k} ↦ {σ j, σ k} is a bijection of the index pairs `j < k < np`, and each pair's contribution is symmetric in (j, k)
  because the distance is symmetric and the estimator term is even.  Only the decomposition of a count into per-pair
  counts (`triples_length`) is law-free; the symmetry of the distance is not.
-/
import GSV.Props.C09
namespace GSV.Props.C09Perm
open GSV GSV.Transc GSV.Estimator GSV.Props GSV.Props.C08 Finset

set_option linter.unusedSectionVars false

/-- ordered index pairs `j < k < n` -/
def P (n : ℕ) : Finset (ℕ × ℕ) := ((range n) ×ˢ (range n)).filter fun p => p.1 < p.2

theorem mem_P {n : ℕ} {p : ℕ × ℕ} : p ∈ P n ↔ p.1 < p.2 ∧ p.2 < n := by
  simp only [P, mem_filter, mem_product, mem_range]
  exact ⟨fun ⟨⟨_, h2⟩, h3⟩ => ⟨h3, h2⟩, fun ⟨h1, h2⟩ => ⟨⟨h1.trans h2, h2⟩, h1⟩⟩

theorem pairs_toFinset (n : ℕ) : (pairs n).toFinset = P n := by
  ext p; rw [List.mem_toFinset, mem_pairs, mem_P]

theorem sum_pairs_list {M : Type} [AddCommMonoid M] (n : ℕ) (g : ℕ × ℕ → M) :
    ((pairs n).map g).sum = ∑ p ∈ P n, g p := by
  rw [← pairs_toFinset, List.sum_toFinset _ (nodup_pairs n)]

/-- a permutation of `{0,…,n-1}` given with its inverse -/
structure IsPerm (n : ℕ) (σ τ : ℕ → ℕ) : Prop where
  map : ∀ p, p < n → σ p < n
  inv_map : ∀ p, p < n → τ p < n
  left : ∀ p, p < n → τ (σ p) = p
  right : ∀ p, p < n → σ (τ p) = p

theorem IsPerm.symm {n : ℕ} {σ τ : ℕ → ℕ} (h : IsPerm n σ τ) : IsPerm n τ σ :=
  ⟨h.inv_map, h.map, h.right, h.left⟩

theorem IsPerm.inj {n : ℕ} {σ τ : ℕ → ℕ} (h : IsPerm n σ τ) {a b : ℕ} (ha : a < n) (hb : b < n) (e : σ a = σ b) : a = b := by
  rw [← h.left a ha, ← h.left b hb, e]

/-- the unordered image pair, ordered -/
def img (σ : ℕ → ℕ) (p : ℕ × ℕ) : ℕ × ℕ := (min (σ p.1) (σ p.2), max (σ p.1) (σ p.2))

theorem img_mem {n : ℕ} {σ τ : ℕ → ℕ} (h : IsPerm n σ τ) {p : ℕ × ℕ} (hp : p ∈ P n) : img σ p ∈ P n := by
  rw [mem_P] at hp ⊢
  have hne : σ p.1 ≠ σ p.2 := fun e => hp.1.ne (h.inj (hp.1.trans hp.2) hp.2 e)
  exact ⟨min_lt_max.2 hne, max_lt (h.map p.1 (hp.1.trans hp.2)) (h.map p.2 hp.2)⟩

theorem img_img {n : ℕ} {σ τ : ℕ → ℕ} (h : IsPerm n σ τ) {p : ℕ × ℕ} (hp : p ∈ P n) : img τ (img σ p) = p := by
  rw [mem_P] at hp
  have l1 := h.left p.1 (hp.1.trans hp.2)
  have l2 := h.left p.2 hp.2
  obtain ⟨a, b⟩ := p
  simp only [img] at *
  rcases Nat.lt_or_ge (σ a) (σ b) with hl | hl
  · rw [min_eq_left hl.le, max_eq_right hl.le, l1, l2, min_eq_left hp.1.le, max_eq_right hp.1.le]
  · rw [min_eq_right hl, max_eq_left hl, l1, l2, min_eq_right hp.1.le, max_eq_left hp.1.le]

/-- **re-indexing of unordered pairs**: for a symmetric `G`, summing `G (σ j) (σ k)` over the pairs `j < k < n` is
    summing `G j k` over them — in any commutative monoid (ℝ for the sums, ℤ for the counts) -/
theorem sum_P_perm {M : Type} [AddCommMonoid M] {n : ℕ} {σ τ : ℕ → ℕ} (h : IsPerm n σ τ) (G : ℕ → ℕ → M)
    (hsym : ∀ a b, G a b = G b a) :
    ∑ p ∈ P n, G (σ p.1) (σ p.2) = ∑ p ∈ P n, G p.1 p.2 := by
  refine Finset.sum_bij' (fun p _ => img σ p) (fun q _ => img τ q)
    (fun p hp => img_mem h hp) (fun q hq => img_mem h.symm hq)
    (fun p hp => img_img h hp) (fun q hq => img_img h.symm hq) ?_
  intro p _
  simp only [img]
  rcases Nat.lt_or_ge (σ p.1) (σ p.2) with hl | hl
  · rw [min_eq_left hl.le, max_eq_right hl.le]
  · rw [min_eq_right hl, max_eq_left hl, hsym]

/-- the same for a sum restricted by a symmetric selection `sel`, `sel'` being `sel` read at the images -/
theorem sum_sel_perm {M : Type} [AddCommMonoid M] {n : ℕ} {σ τ : ℕ → ℕ} (h : IsPerm n σ τ)
    (sel sel' : ℕ × ℕ → Bool) (hsel : ∀ p, sel' p = sel (σ p.1, σ p.2)) (hsym : ∀ a b, sel (a, b) = sel (b, a))
    (X : ℕ → ℕ → M) (hX : ∀ a b, X a b = X b a) :
    (∑ p ∈ P n, if sel' p = true then X (σ p.1) (σ p.2) else 0) = ∑ p ∈ P n, if sel p = true then X p.1 p.2 else 0 := by
  rw [← sum_P_perm h (fun a b => if sel (a, b) = true then X a b else 0) fun a b => by rw [hsym a b, hX a b]]
  exact Finset.sum_congr rfl fun p _ => by rw [hsel p]

section lists
variable {α : Type} [Arith α] [Transc α] [DecidableLT α] [DecidableLE α]

/-- per-pair number of usable fields -/
def pairCount (f : Nat → Nat → α) (nf j k : Nat) : Int := ((validFields f nf j k).length : Int)

theorem validFields_symm (f : Nat → Nat → α) (nf j k : Nat) : validFields f nf j k = validFields f nf k j := by
  unfold validFields
  congr 1; funext m
  simp only [or_comm]

/-- a sum over the triples of a cell, pair by pair -/
theorem triples_map_sum {M : Type} [AddCommMonoid M] (f : Nat → Nat → α) (nf np : Nat) (sel : Nat × Nat → Bool)
    (g : Nat × Nat × Nat → M) :
    ((triples f nf np sel).map g).sum =
      ∑ p ∈ P np, if sel p = true then ((validFields f nf p.1 p.2).map fun m => g (p.1, p.2, m)).sum else 0 := by
  rw [← sum_pairs_list]
  unfold triples
  induction pairs np with
  | nil => rfl
  | cons p l ih =>
    rw [List.filter_cons, List.map_cons, List.sum_cons, ← ih]
    split
    · rw [List.flatMap_cons, List.map_append, List.sum_append, List.map_map]
      rfl
    · exact (zero_add _).symm

theorem length_eq_sum_ones {β : Type} (l : List β) : (l.length : Int) = (l.map fun _ => (1:Int)).sum := by
  simp

/-- **count of a cell = sum over the selected pairs of their usable fields** (law-free) -/
theorem triples_length (f : Nat → Nat → α) (nf np : Nat) (sel : Nat × Nat → Bool) :
    ((triples f nf np sel).length : Int) = ∑ p ∈ P np, if sel p = true then pairCount f nf p.1 p.2 else 0 := by
  rw [length_eq_sum_ones, triples_map_sum]
  exact Finset.sum_congr rfl fun p _ => by rw [pairCount, length_eq_sum_ones]

end lists

/-- per-pair sum of estimator terms -/
noncomputable def pairSum (f : Nat → Nat → ℝ) (est : ℝ → ℝ) (nf j k : Nat) : ℝ :=
  ((validFields f nf j k).map fun m => est (f m k - f m j)).sum

theorem pairSum_symm (f : Nat → Nat → ℝ) (est : ℝ → ℝ) (heven : ∀ x, est (-x) = est x) (nf j k : Nat) :
    pairSum f est nf j k = pairSum f est nf k j := by
  unfold pairSum
  rw [validFields_symm]
  congr 1
  refine List.map_congr_left fun m _ => ?_
  rw [← heven]; congr 1; ring

/-- **sum of a cell = sum over the selected pairs of their estimator terms** (ℝ) -/
theorem triples_sum (f : Nat → Nat → ℝ) (est : ℝ → ℝ) (nf np : Nat) (sel : Nat × Nat → Bool) :
    (triples f nf np sel).foldl (fun a t => a + est (f t.2.2 t.2.1 - f t.2.2 t.1)) ((0:Nat):ℝ) =
      ∑ p ∈ P np, if sel p = true then pairSum f est nf p.1 p.2 else 0 := by
  rw [foldl_add_eq_sum, Nat.cast_zero, zero_add]
  exact triples_map_sum f nf np sel _

theorem estimator_even (et : String) (x : ℝ) : (choose_estimator_func et : ℝ → ℝ) (-x) = choose_estimator_func et x := by
  unfold choose_estimator_func
  split
  · simp [estimator_matheron]
  · simp [estimator_cressie]

theorem dist_euclid_symm (dim : Nat) (pos : Nat → Nat → ℝ) (p0 p1 j k : Nat) :
    dist_euclid dim pos p0 p1 j k = dist_euclid dim pos p0 p1 k j := by
  rw [C09.dist_euclid_real, C09.dist_euclid_real]
  congr 1
  exact Finset.sum_congr rfl fun d _ => by ring

/-- the accumulated cell under a permutation: let `sel` select pairs symmetrically (`sel (a,b) = sel (b,a)`) and let
    `sel'` be the same selection read on the re-indexed data.  Then the triples selected on the re-indexed data have the
    same sum of estimator terms (ℝ, `est` even) and the same count (ℤ) as those selected on the original data.
    `C09PermDir.triples_perm` states the two halves separately. -/
theorem accum_perm (f : Nat → Nat → ℝ) (nf np : Nat) (σ τ : ℕ → ℕ) (hσ : IsPerm np σ τ)
    (sel sel' : ℕ × ℕ → Bool) (hsel : ∀ p, sel' p = sel (σ p.1, σ p.2)) (hsym : ∀ a b, sel (a, b) = sel (b, a))
    (est : ℝ → ℝ) (heven : ∀ x, est (-x) = est x) :
    accum (fun m p => f m (σ p)) est (triples (fun m p => f m (σ p)) nf np sel') (((0:Nat):ℝ), (0:Int)) =
      accum f est (triples f nf np sel) (((0:Nat):ℝ), (0:Int)) := by
  rw [accum_zero, accum_zero]
  refine Prod.ext ?_ ?_
  · rw [triples_sum (fun m p => f m (σ p)) est, triples_sum f est]
    exact sum_sel_perm hσ sel sel' hsel hsym (pairSum f est nf) (pairSum_symm f est heven nf)
  · rw [triples_length, triples_length]
    exact sum_sel_perm hσ sel sel' hsel hsym (pairCount f nf) fun a b => by rw [pairCount, validFields_symm, pairCount]

/-- the two arrays a point-list kernel returns are determined by their cells -/
theorem output_ext {A B : Type} {x y : (Nat → A) × (Nat → B)} (h : ∀ i, (x.1 i, x.2 i) = (y.1 i, y.2 i)) : x = y :=
  Prod.ext (funext fun i => congrArg Prod.fst (h i)) (funext fun i => congrArg Prod.snd (h i))

theorem output_ext₂ {A B : Type} {x y : (Nat → Nat → A) × (Nat → Nat → B)}
    (h : ∀ d i, (x.1 d i, x.2 d i) = (y.1 d i, y.2 d i)) : x = y :=
  output_ext fun d => output_ext (x := (x.1 d, x.2 d)) (y := (y.1 d, y.2 d)) (h d)

/-- whole-output form for a symmetric distance: the two returned arrays are equal as functions, also outside the bins.
    The selection on the permuted data is the selection at the images, and it is symmetric. -/
theorem unstructured_perm_of_symm (sched : Sched) (hs : sched.Admissible)
    (f : Nat → Nat → ℝ) (nf f1 : Nat) (bins : Nat → ℝ) (nb : Nat) (pos : Nat → Nat → ℝ) (dim np : Nat)
    (et dt : String) (σ τ : ℕ → ℕ) (hσ : IsPerm np σ τ)
    (hsymm : ∀ j k, distOf dt dim pos dim np j k = distOf dt dim pos dim np k j) :
    unstructured sched (fun m p => f m (σ p)) nf f1 bins nb (fun d p => pos d (σ p)) dim np et dt =
      unstructured sched f nf f1 bins nb pos dim np et dt :=
  output_ext fun i => by
    rw [unstructured_spec sched hs, unstructured_spec sched hs, binCell_eq_accum, binCell_eq_accum,
      accum_perm f nf np σ τ hσ (inBin (distOf dt dim pos dim np) bins i)
        (inBin (distOf dt dim (fun d p => pos d (σ p)) dim np) bins i) (fun _ => rfl)
        (fun a b => by unfold inBin; simp only [hsymm a b]) _ (estimator_even et)]

/-- isotropic estimator over ℝ: for every admissible schedule, every estimator, every symmetric
    distance and every permutation σ of the `np` points, estimating on the re-indexed data (positions and all
    fields permuted together) gives the same count and the same value in every bin. -/
theorem unstructured_perm_invariant (sched : Sched) (hs : sched.Admissible)
    (f : Nat → Nat → ℝ) (nf f1 : Nat) (bins : Nat → ℝ) (nb : Nat) (pos : Nat → Nat → ℝ) (dim np : Nat)
    (et dt : String) (σ τ : ℕ → ℕ) (hσ : IsPerm np σ τ)
    (hsymm : ∀ j k, distOf dt dim pos dim np j k = distOf dt dim pos dim np k j)
    (i : Nat) (hi : i < nb - 1) :
    (unstructured sched (fun m p => f m (σ p)) nf f1 bins nb (fun d p => pos d (σ p)) dim np et dt).2 i =
      (unstructured sched f nf f1 bins nb pos dim np et dt).2 i ∧
    (unstructured sched (fun m p => f m (σ p)) nf f1 bins nb (fun d p => pos d (σ p)) dim np et dt).1 i =
      (unstructured sched f nf f1 bins nb pos dim np et dt).1 i :=
  have h := unstructured_perm_of_symm sched hs f nf f1 bins nb pos dim np et dt σ τ hσ hsymm
  ⟨congrFun (congrArg Prod.snd h) i, congrFun (congrArg Prod.fst h) i⟩

/-- the Euclidean instance (`dt = "e"`), hypothesis-free apart from σ being a permutation -/
theorem unstructured_perm_invariant_euclid (sched : Sched) (hs : sched.Admissible)
    (f : Nat → Nat → ℝ) (nf f1 : Nat) (bins : Nat → ℝ) (nb : Nat) (pos : Nat → Nat → ℝ) (dim np : Nat)
    (et : String) (σ τ : ℕ → ℕ) (hσ : IsPerm np σ τ) (i : Nat) (hi : i < nb - 1) :
    (unstructured sched (fun m p => f m (σ p)) nf f1 bins nb (fun d p => pos d (σ p)) dim np et "e").2 i =
      (unstructured sched f nf f1 bins nb pos dim np et "e").2 i ∧
    (unstructured sched (fun m p => f m (σ p)) nf f1 bins nb (fun d p => pos d (σ p)) dim np et "e").1 i =
      (unstructured sched f nf f1 bins nb pos dim np et "e").1 i :=
  unstructured_perm_invariant sched hs f nf f1 bins nb pos dim np et "e" σ τ hσ
    (fun j k => by unfold distOf; simp only [if_true, beq_self_eq_true]; exact dist_euclid_symm dim pos dim np j k) i hi

theorem normCressie_scale (s v : ℝ) (c : Int) : normCressie (s * v) c = s ^ 4 * normCressie v c := by
  unfold normCressie
  simp only [npow_real]
  ring

/-- for every schedule, scaling all field values by `a` scales the Cressie–Hawkins
    estimate of every bin by `a²` and leaves the counts unchanged -/
theorem cressie_scale_square (sched : Sched) (hs : sched.Admissible)
    (f : Nat → Nat → ℝ) (a : ℝ) (nf f1 : Nat) (bins : Nat → ℝ) (nb : Nat) (pos : Nat → Nat → ℝ) (dim np : Nat)
    (dt : String) (i : Nat) (hi : i < nb - 1) :
    (unstructured sched (fun m p => a * f m p) nf f1 bins nb pos dim np "c" dt).1 i =
      a ^ 2 * (unstructured sched f nf f1 bins nb pos dim np "c" dt).1 i ∧
    (unstructured sched (fun m p => a * f m p) nf f1 bins nb pos dim np "c" dt).2 i =
      (unstructured sched f nf f1 bins nb pos dim np "c" dt).2 i := by
  have hn : ∀ v c, normOf "c" (v : ℝ) c = normCressie v c := fun v c => if_neg (by decide)
  have h4 : Real.sqrt |a| ^ 4 = a ^ 2 := by
    rw [show (4:ℕ) = 2 * 2 from rfl, pow_mul, Real.sq_sqrt (abs_nonneg a), sq_abs]
  exact C09.unstructured_scale sched hs f a (Real.sqrt |a|) (a ^ 2) nf f1 bins nb pos dim np "c" dt i hi
    (fun x => by rw [cressie_estimator_real, cressie_estimator_real, abs_mul, Real.sqrt_mul (abs_nonneg a)])
    (fun v c => by rw [hn, hn, normCressie_scale, h4])

/-- non-vacuity: the transposition of the first two of three points is a permutation -/
example : IsPerm 3 (fun p => if p = 0 then 1 else if p = 1 then 0 else p) (fun p => if p = 0 then 1 else if p = 1 then 0 else p) :=
  ⟨by decide, by decide, by decide, by decide⟩

end GSV.Props.C09Perm
