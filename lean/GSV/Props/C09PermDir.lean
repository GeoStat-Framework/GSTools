/-
  C09 (permutation invariance of every point-list estimator) — the order of the sample points is irrelevant for EVERY point-list estimator:
  both distances of `unstructured` (Euclidean and haversine) and the directional estimator, with or without
  `separate_dirs`, for both estimator types the kernel has (`"m"` = Matheron, every other letter = Cressie–Hawkins; there
  is no third: `estimator_type_dichotomy`).  Everything rests on `C09Perm.accum_perm`: a pair
  selection that is symmetric in the pair keeps its count and raw sum under re-indexing.  The directional selection is
  symmetric because the generated `dir_test` uses `|s|` and squares (`C08Zero.dir_test_swap`).
-/
import GSV.Props.C09Perm
import GSV.Props.C08Zero
import Mathlib.Logic.Equiv.Defs
namespace GSV.Props.C09PermDir
open GSV GSV.Transc GSV.Estimator GSV.Props GSV.Props.C08 GSV.Props.C09Perm GSV.Props.C08Zero Finset

/-- the generated haversine distance (`dist_haversine`) is symmetric in its two points -/
theorem dist_haversine_symm (dim : Nat) (pos : Nat → Nat → ℝ) (p0 p1 j k : Nat) :
    dist_haversine dim pos p0 p1 j k = dist_haversine dim pos p0 p1 k j := by
  have h : ∀ a b c : ℝ, Real.sin ((a - b) * c / 2) ^ 2 = Real.sin ((b - a) * c / 2) ^ 2 := by
    intro a b c
    rw [show (a - b) * c / 2 = -((b - a) * c / 2) by ring, Real.sin_neg, neg_sq]
  unfold dist_haversine
  simp only [rpow_real, sin_real, cos_real, sqrt_real, atan2_real, pi_real, Nat.cast_ofNat, Real.rpow_ofNat]
  rw [h (pos 0 k) (pos 0 j), h (pos 1 k) (pos 1 j), mul_comm (Real.cos (pos 0 j * _)) (Real.cos (pos 0 k * _))]

/-- the distance selected by ANY distance letter is symmetric -/
theorem distOf_symm (dt : String) (dim : Nat) (pos : Nat → Nat → ℝ) (p0 p1 j k : Nat) :
    distOf dt dim pos p0 p1 j k = distOf dt dim pos p0 p1 k j := by
  unfold distOf
  split
  · exact dist_euclid_symm dim pos p0 p1 j k
  · exact dist_haversine_symm dim pos p0 p1 j k

/-- `C09Perm.unstructured_perm_invariant` for every distance and estimator letter: its symmetry hypothesis is `distOf_symm` -/
theorem unstructured_perm_invariant_any (sched : Sched) (hs : sched.Admissible)
    (f : Nat → Nat → ℝ) (nf f1 : Nat) (bins : Nat → ℝ) (nb : Nat) (pos : Nat → Nat → ℝ) (dim np : Nat)
    (et dt : String) (σ τ : ℕ → ℕ) (hσ : IsPerm np σ τ) (i : Nat) (hi : i < nb - 1) :
    (unstructured sched (fun m p => f m (σ p)) nf f1 bins nb (fun d p => pos d (σ p)) dim np et dt).2 i =
      (unstructured sched f nf f1 bins nb pos dim np et dt).2 i ∧
    (unstructured sched (fun m p => f m (σ p)) nf f1 bins nb (fun d p => pos d (σ p)) dim np et dt).1 i =
      (unstructured sched f nf f1 bins nb pos dim np et dt).1 i :=
  unstructured_perm_invariant sched hs f nf f1 bins nb pos dim np et dt σ τ hσ
    (fun j k => distOf_symm dt dim pos dim np j k) i hi

/-- the haversine instance (`distance_type = "h"`, what `vario_estimate(latlon=True)` passes) -/
theorem unstructured_perm_invariant_haversine (sched : Sched) (hs : sched.Admissible)
    (f : Nat → Nat → ℝ) (nf f1 : Nat) (bins : Nat → ℝ) (nb : Nat) (pos : Nat → Nat → ℝ) (dim np : Nat)
    (et : String) (σ τ : ℕ → ℕ) (hσ : IsPerm np σ τ) (i : Nat) (hi : i < nb - 1) :
    (unstructured sched (fun m p => f m (σ p)) nf f1 bins nb (fun d p => pos d (σ p)) dim np et "h").2 i =
      (unstructured sched f nf f1 bins nb pos dim np et "h").2 i ∧
    (unstructured sched (fun m p => f m (σ p)) nf f1 bins nb (fun d p => pos d (σ p)) dim np et "h").1 i =
      (unstructured sched f nf f1 bins nb pos dim np et "h").1 i :=
  unstructured_perm_invariant_any sched hs f nf f1 bins nb pos dim np et "h" σ τ hσ i hi

/-- whole-output form: the two returned arrays (values, counts) are equal as functions, also outside the bins -/
theorem unstructured_perm_fun (sched : Sched) (hs : sched.Admissible)
    (f : Nat → Nat → ℝ) (nf f1 : Nat) (bins : Nat → ℝ) (nb : Nat) (pos : Nat → Nat → ℝ) (dim np : Nat)
    (et dt : String) (σ τ : ℕ → ℕ) (hσ : IsPerm np σ τ) :
    unstructured sched (fun m p => f m (σ p)) nf f1 bins nb (fun d p => pos d (σ p)) dim np et dt =
      unstructured sched f nf f1 bins nb pos dim np et dt :=
  unstructured_perm_of_symm sched hs f nf f1 bins nb pos dim np et dt σ τ hσ (distOf_symm dt dim pos dim np)

/-- raw sums and counts under a permutation (the two halves of `C09Perm.accum_perm`): let `sel` select pairs symmetrically (`sel (a,b) = sel (b,a)`) and let
    `sel'` be the same selection read on the re-indexed data.  Then the triples selected on the re-indexed data have the
    same count (ℤ) and the same sum of estimator terms (ℝ, `est` even) as those selected on the original data. -/
theorem triples_perm (f : Nat → Nat → ℝ) (nf np : Nat) (σ τ : ℕ → ℕ) (hσ : IsPerm np σ τ)
    (sel sel' : ℕ × ℕ → Bool) (hsel : ∀ p, sel' p = sel (σ p.1, σ p.2)) (hsym : ∀ a b, sel (a, b) = sel (b, a))
    (est : ℝ → ℝ) (heven : ∀ x, est (-x) = est x) :
    ((triples (fun m p => f m (σ p)) nf np sel').length : Int) = ((triples f nf np sel).length : Int) ∧
    (triples (fun m p => f m (σ p)) nf np sel').foldl
        (fun a t => a + est ((fun m p => f m (σ p)) t.2.2 t.2.1 - (fun m p => f m (σ p)) t.2.2 t.1)) ((0:Nat):ℝ) =
      (triples f nf np sel).foldl (fun a t => a + est (f t.2.2 t.2.1 - f t.2.2 t.1)) ((0:Nat):ℝ) := by
  have h := Prod.mk.inj <| (accum_zero _ est _).symm.trans
    ((accum_perm f nf np σ τ hσ sel sel' hsel hsym est heven).trans (accum_zero f est _))
  exact ⟨h.2, h.1⟩

/-- **the directional selection is symmetric in the pair**: distance bin (symmetric distance), direction test
    (`C08Zero.dir_test_swap`), and — with `separate_dirs` — "no earlier listed direction accepts" (the same tests) -/
theorem inDirBin_swap (dim : Nat) (pos : Nat → Nat → ℝ) (np : Nat) (bins : Nat → ℝ) (direction : Nat → Nat → ℝ)
    (nd dc : Nat) (tol bw : ℝ) (sep : Bool) (d i a b : Nat) :
    inDirBin dim pos np bins direction nd dc tol bw sep d i (a, b) =
      inDirBin dim pos np bins direction nd dc tol bw sep d i (b, a) := by
  unfold inDirBin inBin dirOK
  simp only [dist_euclid_symm dim pos dim np a b, dir_test_swap dim pos dim np _ direction nd dc tol bw b a]

/-- the kernels read the positions only through `pos c j`: re-indexing the points re-indexes the arguments -/
theorem dist_euclid_reindex (dim : Nat) (pos : Nat → Nat → ℝ) (σ : ℕ → ℕ) (p0 p1 j k : Nat) :
    dist_euclid dim (fun c p => pos c (σ p)) p0 p1 j k = dist_euclid dim pos p0 p1 (σ j) (σ k) := rfl

/-- the same for the direction test; here a bare `rfl` would have to unfold the generated loops, whereas through the
    closed form `dir_test_spec` both sides are the same sums -/
theorem dir_test_reindex (dim : Nat) (pos : Nat → Nat → ℝ) (σ : ℕ → ℕ) (p0 p1 : Nat) (ds : ℝ)
    (direction : Nat → Nat → ℝ) (d0 d1 : Nat) (tol bw : ℝ) (j k d : Nat) :
    dir_test dim (fun c p => pos c (σ p)) p0 p1 ds direction d0 d1 tol bw j k d =
      dir_test dim pos p0 p1 ds direction d0 d1 tol bw (σ j) (σ k) d := by
  rw [Bool.eq_iff_iff, dir_test_spec, dir_test_spec]
  rfl

theorem inDirBin_reindex (dim : Nat) (pos : Nat → Nat → ℝ) (σ : ℕ → ℕ) (np : Nat) (bins : Nat → ℝ)
    (direction : Nat → Nat → ℝ) (nd dc : Nat) (tol bw : ℝ) (sep : Bool) (d i : Nat) (p : ℕ × ℕ) :
    inDirBin dim (fun c p => pos c (σ p)) np bins direction nd dc tol bw sep d i p =
      inDirBin dim pos np bins direction nd dc tol bw sep d i (σ p.1, σ p.2) := by
  rw [Bool.eq_iff_iff, inDirBin_iff, inDirBin_iff]
  simp only [dirOK, dist_euclid_reindex, dir_test_reindex]

/-- **raw sums and counts of the directional estimator** are invariant: for every direction `d`, bin `i`, with or
    without `separate_dirs`, the triples selected on the re-indexed data have the same number and the same sum of
    estimator terms -/
theorem directional_perm_sums_counts (f : Nat → Nat → ℝ) (nf : Nat) (bins : Nat → ℝ) (pos : Nat → Nat → ℝ) (dim np : Nat)
    (direction : Nat → Nat → ℝ) (nd dc : Nat) (tol bw : ℝ) (sep : Bool) (et : String)
    (σ τ : ℕ → ℕ) (hσ : IsPerm np σ τ) (d i : Nat) :
    let T' := triples (fun m p => f m (σ p)) nf np (inDirBin dim (fun c p => pos c (σ p)) np bins direction nd dc tol bw sep d i)
    let T := triples f nf np (inDirBin dim pos np bins direction nd dc tol bw sep d i)
    (T'.length : Int) = (T.length : Int) ∧
    T'.foldl (fun a t => a + choose_estimator_func et
        ((fun m p => f m (σ p)) t.2.2 t.2.1 - (fun m p => f m (σ p)) t.2.2 t.1)) ((0:Nat):ℝ) =
      T.foldl (fun a t => a + choose_estimator_func et (f t.2.2 t.2.1 - f t.2.2 t.1)) ((0:Nat):ℝ) :=
  triples_perm f nf np σ τ hσ _ _ (inDirBin_reindex dim pos σ np bins direction nd dc tol bw sep d i)
    (inDirBin_swap dim pos np bins direction nd dc tol bw sep d i)
    (choose_estimator_func et) (estimator_even et)

/-- whole-output form: the two returned 2-D arrays (values, counts) are equal as functions — cell by cell, for listed and
    unlisted directions, inside and outside the bins -/
theorem directional_perm_fun (sched : Sched) (hs : sched.Admissible)
    (f : Nat → Nat → ℝ) (nf f1 : Nat) (bins : Nat → ℝ) (nb : Nat) (pos : Nat → Nat → ℝ) (dim np : Nat)
    (direction : Nat → Nat → ℝ) (nd dc : Nat) (tol bw : ℝ) (sep : Bool) (et : String)
    (σ τ : ℕ → ℕ) (hσ : IsPerm np σ τ) :
    directional sched (fun m p => f m (σ p)) nf f1 bins nb (fun c p => pos c (σ p)) dim np direction nd dc tol bw sep et =
      directional sched f nf f1 bins nb pos dim np direction nd dc tol bw sep et := by
  refine output_ext₂ fun d i => ?_
  rw [directional_spec sched hs, directional_spec sched hs, dirCell_eq_accum, dirCell_eq_accum,
    accum_perm f nf np σ τ hσ _ _ (inDirBin_reindex dim pos σ np bins direction nd dc tol bw sep d i)
      (inDirBin_swap dim pos np bins direction nd dc tol bw sep d i) _ (estimator_even et)]

/-- directional estimator over ℝ: for every admissible schedule, every estimator letter, any number
    of points / dimension / bins / directions, every tolerance and bandwidth, with or without `separate_dirs`, and every
    permutation σ of the points: estimating on the re-indexed data (positions and all fields permuted together) gives the
    same pair count and the same normalised value in every cell `(d, i)`. -/
theorem directional_perm_invariant (sched : Sched) (hs : sched.Admissible)
    (f : Nat → Nat → ℝ) (nf f1 : Nat) (bins : Nat → ℝ) (nb : Nat) (pos : Nat → Nat → ℝ) (dim np : Nat)
    (direction : Nat → Nat → ℝ) (nd dc : Nat) (tol bw : ℝ) (sep : Bool) (et : String)
    (σ τ : ℕ → ℕ) (hσ : IsPerm np σ τ) (d i : Nat) (hi : i < nb - 1) (hd : d < nd) :
    (directional sched (fun m p => f m (σ p)) nf f1 bins nb (fun c p => pos c (σ p)) dim np direction nd dc tol bw sep et).2 d i =
      (directional sched f nf f1 bins nb pos dim np direction nd dc tol bw sep et).2 d i ∧
    (directional sched (fun m p => f m (σ p)) nf f1 bins nb (fun c p => pos c (σ p)) dim np direction nd dc tol bw sep et).1 d i =
      (directional sched f nf f1 bins nb pos dim np direction nd dc tol bw sep et).1 d i :=
  have h := directional_perm_fun sched hs f nf f1 bins nb pos dim np direction nd dc tol bw sep et σ τ hσ
  ⟨congrFun (congrFun (congrArg Prod.snd h) d) i, congrFun (congrFun (congrArg Prod.fst h) d) i⟩

/-- **the kernel has exactly two estimator types**: the letter `"m"` selects Matheron (term `x²`, normalisation
    `v / (2 max(N,1))`), EVERY other letter selects Cressie–Hawkins (term `√|x|`, the Cressie normalisation).  The
    permutation theorems are stated for an arbitrary letter, hence cover both; the final values are
    `normOf et (raw sum) (count)`, so their invariance follows from that of the raw sums and counts. -/
theorem estimator_type_dichotomy (et : String) :
    ((choose_estimator_func et : ℝ → ℝ) = estimator_matheron ∧ ∀ (v : ℝ) c, normOf et v c = normMatheron v c) ∨
    ((choose_estimator_func et : ℝ → ℝ) = estimator_cressie ∧ ∀ (v : ℝ) c, normOf et v c = normCressie v c) := by
  unfold choose_estimator_func normOf
  by_cases h : (et == "m") = true
  · left; simp [h]
  · right; simp [h]

/-- Matheron instance (`estimator_type = "m"`) of the directional theorem -/
theorem directional_perm_invariant_matheron (sched : Sched) (hs : sched.Admissible)
    (f : Nat → Nat → ℝ) (nf f1 : Nat) (bins : Nat → ℝ) (nb : Nat) (pos : Nat → Nat → ℝ) (dim np : Nat)
    (direction : Nat → Nat → ℝ) (nd dc : Nat) (tol bw : ℝ) (sep : Bool)
    (σ τ : ℕ → ℕ) (hσ : IsPerm np σ τ) (d i : Nat) (hi : i < nb - 1) (hd : d < nd) :
    (directional sched (fun m p => f m (σ p)) nf f1 bins nb (fun c p => pos c (σ p)) dim np direction nd dc tol bw sep "m").1 d i =
      (directional sched f nf f1 bins nb pos dim np direction nd dc tol bw sep "m").1 d i :=
  (directional_perm_invariant sched hs f nf f1 bins nb pos dim np direction nd dc tol bw sep "m" σ τ hσ d i hi hd).2

/-- Cressie–Hawkins instance of the directional theorem -/
theorem directional_perm_invariant_cressie (sched : Sched) (hs : sched.Admissible)
    (f : Nat → Nat → ℝ) (nf f1 : Nat) (bins : Nat → ℝ) (nb : Nat) (pos : Nat → Nat → ℝ) (dim np : Nat)
    (direction : Nat → Nat → ℝ) (nd dc : Nat) (tol bw : ℝ) (sep : Bool)
    (σ τ : ℕ → ℕ) (hσ : IsPerm np σ τ) (d i : Nat) (hi : i < nb - 1) (hd : d < nd) :
    (directional sched (fun m p => f m (σ p)) nf f1 bins nb (fun c p => pos c (σ p)) dim np direction nd dc tol bw sep "c").1 d i =
      (directional sched f nf f1 bins nb pos dim np direction nd dc tol bw sep "c").1 d i :=
  (directional_perm_invariant sched hs f nf f1 bins nb pos dim np direction nd dc tol bw sep "c" σ τ hσ d i hi hd).2

/-- the index map of a permutation of `Fin n`, extended by the identity -/
def permFun {n : ℕ} (e : Equiv.Perm (Fin n)) (p : ℕ) : ℕ := if h : p < n then (e ⟨p, h⟩).val else p

theorem isPerm_of_equiv {n : ℕ} (e : Equiv.Perm (Fin n)) : IsPerm n (permFun e) (permFun e.symm) := by
  constructor
  · intro p hp; simp [permFun, hp]
  · intro p hp; simp [permFun, hp]
  · intro p hp; simp [permFun, hp]
  · intro p hp; simp [permFun, hp]

/-- every `IsPerm` comes from an `Equiv.Perm (Fin n)` (so the two formulations quantify over the same re-indexings) -/
theorem equiv_of_isPerm {n : ℕ} {σ τ : ℕ → ℕ} (h : IsPerm n σ τ) :
    ∃ e : Equiv.Perm (Fin n), ∀ p, p < n → permFun e p = σ p :=
  ⟨⟨fun p => ⟨σ p.1, h.map p.1 p.2⟩, fun p => ⟨τ p.1, h.inv_map p.1 p.2⟩,
    fun p => Fin.ext (h.left p.1 p.2), fun p => Fin.ext (h.right p.1 p.2)⟩,
   fun p hp => by simp [permFun, hp]⟩

/-- the directional theorem for an arbitrary `Equiv.Perm (Fin np)` -/
theorem directional_perm_invariant_equiv (sched : Sched) (hs : sched.Admissible)
    (f : Nat → Nat → ℝ) (nf f1 : Nat) (bins : Nat → ℝ) (nb : Nat) (pos : Nat → Nat → ℝ) (dim np : Nat)
    (direction : Nat → Nat → ℝ) (nd dc : Nat) (tol bw : ℝ) (sep : Bool) (et : String) (e : Equiv.Perm (Fin np)) :
    directional sched (fun m p => f m (permFun e p)) nf f1 bins nb (fun c p => pos c (permFun e p)) dim np direction nd dc tol bw sep et =
      directional sched f nf f1 bins nb pos dim np direction nd dc tol bw sep et :=
  directional_perm_fun sched hs f nf f1 bins nb pos dim np direction nd dc tol bw sep et _ _ (isPerm_of_equiv e)

/-- the isotropic theorem (both distances) for an arbitrary `Equiv.Perm (Fin np)` -/
theorem unstructured_perm_invariant_equiv (sched : Sched) (hs : sched.Admissible)
    (f : Nat → Nat → ℝ) (nf f1 : Nat) (bins : Nat → ℝ) (nb : Nat) (pos : Nat → Nat → ℝ) (dim np : Nat)
    (et dt : String) (e : Equiv.Perm (Fin np)) :
    unstructured sched (fun m p => f m (permFun e p)) nf f1 bins nb (fun d p => pos d (permFun e p)) dim np et dt =
      unstructured sched f nf f1 bins nb pos dim np et dt :=
  unstructured_perm_fun sched hs f nf f1 bins nb pos dim np et dt _ _ (isPerm_of_equiv e)

/-- a non-trivial permutation of three points -/
example : ∃ e : Equiv.Perm (Fin 3), permFun e 0 = 1 ∧ permFun e 1 = 0 ∧ permFun e 2 = 2 :=
  ⟨Equiv.swap 0 1, by decide, by decide, by decide⟩

/-- the schedule hypothesis of all these theorems is met by the sequential schedule -/
example : Sched.Admissible (id : Sched) := sched_id_admissible

end GSV.Props.C09PermDir
