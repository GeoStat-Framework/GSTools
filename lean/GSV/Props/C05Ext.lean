/-
  C05 on the model's own arrays: `Krige.get_mean(post_process=False)` (the einsum `cond · M · e_n`) is what
  the kernel returns for an `only_mean` right-hand side; unbiased / drift variants reproduce every function in the span
  of their drift functions (the target-side detour `anisometrize ∘ isometrize`, finding D16, is an explicit
  hypothesis); the structured call is the unstructured call on `generate_grid(axes)`, reshaped (law-free).
-/
import GSV.Props.C05
import GSV.Props.Grid
namespace GSV.Props.C05
open GSV GSV.Props GSV.Model.Krige GSV.Krigesum Finset Matrix

set_option linter.unusedSectionVars false

theorem getMeanUnb_range (L : Layout) (M : Nat → Nat → ℝ) (cond : Nat → ℝ) :
    getMeanUnb L M cond = ∑ i ∈ range L.size, cond i * M i L.n :=
  forRange_cast_zero_add_eq_sum _ _

/-- the `only_mean` right-hand side of an unbiased system without drifts is the unit vector `e_n` -/
theorem onlyMean_rhs_unb (L : Layout) (hu : L.unb = true) (hnf : L.nf = 0) (hne : L.ne = 0)
    (c f e : Nat → Nat → ℝ) (j p : Nat) (hj : j < L.size) :
    assembleRHS L true c f e j p = if j = L.n then 1 else 0 := by
  have hs : L.size = L.n + 1 := by rw [Layout.size, u_of_unb hu, hnf, hne]
  by_cases h : j < L.n
  · rw [assembleRHS_data h, if_neg (Nat.ne_of_lt h)]
    exact Nat.cast_zero
  · obtain rfl : j = L.n := by omega
    rw [assembleRHS_border le_rfl, border_unb hu, if_pos rfl, Nat.cast_one]

/-- **`get_mean` = `only_mean`** (ordinary kriging, no drifts; ANY matrix `M`, no inverse hypothesis): the kernel run
    on the `only_mean` right-hand side returns at EVERY target the value `cond · M · e_n` that `get_mean` computes by
    `einsum`, i.e. the constant-mean shortcut of `Krige.__call__` is what the general path would have produced. -/
theorem get_mean_eq_only_mean (L : Layout) (hu : L.unb = true) (hnf : L.nf = 0) (hne : L.ne = 0)
    (M : Nat → Nat → ℝ) (c f e : Nat → Nat → ℝ) (cond : Nat → ℝ) (p : Nat) :
    krigeFieldCell M (assembleRHS L true c f e) cond L.size p ((0:Nat):ℝ) = getMeanUnb L M cond := by
  have hn : L.n < L.size := by rw [Layout.size, u_of_unb hu]; omega
  have hcol : col L.size (assembleRHS L true c f e) p = Pi.single ⟨L.n, hn⟩ 1 := by
    funext j
    rw [col, onlyMean_rhs_unb L hu hnf hne c f e j p j.2, Pi.single_apply]
    simp only [Fin.ext_iff]
  rw [field_eq_bilinear, hcol, mulVec_single_one, getMeanUnb_range, Finset.sum_range]
  rfl

/-- simple kriging (no unbiasedness row, no drifts): the `only_mean` field is `0`, the value `get_mean` returns raw
    (`res = 0.0`; the given mean is added by the post-processing) -/
theorem only_mean_simple (L : Layout) (hu : L.unb = false) (hnf : L.nf = 0) (hne : L.ne = 0)
    (M : Nat → Nat → ℝ) (c f e : Nat → Nat → ℝ) (cond : Nat → ℝ) (p : Nat) :
    krigeFieldCell M (assembleRHS L true c f e) cond L.size p ((0:Nat):ℝ) = 0 := by
  refine (cells_of_zero_column M _ cond L.size p fun i hi => ?_).1
  rw [assembleRHS_data (L := L) (size_of_simple hu hnf hne ▸ hi)]
  exact Nat.cast_zero

/-- `get_mean_eq_only_mean` through the model of the call path (`only_mean` forces the field-only kernel): every target of an
    `only_mean` call carries `get_mean` — any chunk size, any admissible schedule -/
theorem get_mean_eq_only_mean_call (sched : Sched) (hs : sched.Admissible) (L : Layout) (hu : L.unb = true)
    (hnf : L.nf = 0) (hne : L.ne = 0) (M : Nat → Nat → ℝ) (c f e : Nat → Nat → ℝ) (cond : Nat → ℝ)
    (pnt cs p : Nat) (hcs : 0 < cs) (hp : p < pnt) :
    krigeCallField sched L M (assembleRHS L true c f e) cond pnt cs p = getMeanUnb L M cond := by
  rw [krigeCallField_eq sched hs L M _ cond pnt cs p hcs hp]
  exact get_mean_eq_only_mean L hu hnf hne M c f e cond p

/-- the layout hypotheses are those of `Ordinary` kriging: e.g. three conditioning points, size 4, mean row 3 -/
example : (⟨3, true, 0, 0⟩ : Layout).unb = true ∧ (⟨3, true, 0, 0⟩ : Layout).nf = 0 ∧ (⟨3, true, 0, 0⟩ : Layout).ne = 0 ∧
    (⟨3, true, 0, 0⟩ : Layout).size = 4 := ⟨rfl, rfl, rfl, rfl⟩

theorem sum_range_size (L : Layout) (g : Nat → ℝ) :
    ∑ r ∈ range L.size, g r =
      ∑ r ∈ range L.n, g r + (if L.unb then g L.n else 0) + ∑ r ∈ range L.nf, g (L.fStart + r) +
        ∑ r ∈ range L.ne, g (L.eStart + r) := by
  rw [Layout.size, sum_range_add, sum_range_add, sum_range_add, fStart_eq, eStart_eq]
  congr 3
  unfold Layout.u
  cases L.unb <;> simp

/-- coefficients on the border rows: `a` on the unbiasedness row, `b r` on functional-drift row `r`, `d r` on
    external-drift row `r`, zero on the data rows -/
noncomputable def driftCoef (L : Layout) (a : ℝ) (b d : Nat → ℝ) : Nat → ℝ := fun r =>
  if L.unb ∧ r = L.n then a else border L (fun r _ => b r) (fun r _ => d r) r 0

theorem driftCoef_data {L : Layout} {a : ℝ} {b d : Nat → ℝ} {r : Nat} (hr : r < L.n) : driftCoef L a b d r = 0 :=
  (if_neg fun h => Nat.ne_of_lt hr h.2).trans ((border_data hr).trans Nat.cast_zero)

theorem driftCoef_sum (L : Layout) (a : ℝ) (b d : Nat → ℝ) (G H : Nat → Nat → ℝ) (c : Nat) (g : Nat → ℝ)
    (hg : ∀ r, L.n ≤ r → g r = border L G H r c) :
    ∑ r ∈ range L.size, driftCoef L a b d r * g r =
      (if L.unb then a else 0) + ∑ r ∈ range L.nf, b r * G r c + ∑ r ∈ range L.ne, d r * H r c := by
  have hf := fStart_eq L
  have he := eStart_eq L
  have hD : ∀ r, r < L.n → driftCoef L a b d r * g r = 0 := fun r hr => by
    rw [driftCoef_data hr, zero_mul]
  have hU : (if L.unb then driftCoef L a b d L.n * g L.n else 0) = if L.unb then a else 0 :=
    ite_congr rfl (fun hu => by
      rw [hg _ le_rfl, border_unb hu, driftCoef, if_pos ⟨hu, rfl⟩, Nat.cast_one, mul_one]) fun _ => rfl
  have hF : ∀ r, r < L.nf → driftCoef L a b d (L.fStart + r) * g (L.fStart + r) = b r * G r c := fun r hr => by
    rw [hg _ (by omega), border_fStart hr, driftCoef, if_neg (fun h => by have := u_of_unb h.1; omega),
      border_fStart hr]
  have hE : ∀ r, r < L.ne → driftCoef L a b d (L.eStart + r) * g (L.eStart + r) = d r * H r c := fun r hr => by
    rw [hg _ (by omega), border_eStart hr, driftCoef, if_neg (fun h => by have := u_of_unb h.1; omega),
      border_eStart hr]
  rw [sum_range_size, sum_eq_zero fun r hr => hD r (mem_range.mp hr), zero_add, hU,
    sum_congr rfl fun r hr => hF r (mem_range.mp hr), sum_congr rfl fun r hr => hE r (mem_range.mp hr)]

/-- **drift reproduction on the model's arrays** — every variant (ordinary, universal, external drift, generic class
    with or without unbiasedness row, any numbers of drifts): if the prepared data are, at every conditioning point,
    the combination `a·[unbiased] + Σ_r b_r F_r(x_i) + Σ_r d_r E_r(x_i)` of the system's own border columns, the
    estimate at any target is the same combination `a·[unbiased] + Σ_r b_r f_r(p) + Σ_r d_r e_r(p)` of the TARGET
    drift values the right-hand side carries.  Holds for the full and the `only_mean` right-hand side. -/
theorem reproduces_drift (L : Layout) (C : Nat → Nat → ℝ) (err : Nat → ℝ) (F E : Nat → Nat → ℝ)
    (hC : ∀ i j, C i j = C j i) (om : Bool) (c f e : Nat → Nat → ℝ) (M : Nat → Nat → ℝ)
    (hMK : toMat L.size M * toMat L.size (assembleK L C err F E) = 1) (valn mean : Nat → ℝ)
    (a : ℝ) (b d : Nat → ℝ)
    (hdata : ∀ i, i < L.n → valn i - mean i =
      (if L.unb then a else 0) + ∑ r ∈ range L.nf, b r * F r i + ∑ r ∈ range L.ne, d r * E r i) (p : Nat) :
    krigeFieldCell M (assembleRHS L om c f e) (krigeCond L valn mean) L.size p ((0:Nat):ℝ) =
      (if L.unb then a else 0) + ∑ r ∈ range L.nf, b r * f r p + ∑ r ∈ range L.ne, d r * e r p := by
  -- the prepared data are `K` applied to the coefficient vector: the data block meets zeros, the border columns of a
  -- data row carry `1`, `F r i`, `E r i`, and the border rows meet the zero corner
  have hz : toVec L.size (krigeCond L valn mean) =
      toMat L.size (assembleK L C err F E) *ᵥ toVec L.size (driftCoef L a b d) := by
    funext i
    simp only [mulVec, dotProduct, toVec, toMat, mul_comm (assembleK L C err F E _ _)]
    rw [← Finset.sum_range (fun j => driftCoef L a b d j * assembleK L C err F E i j)]
    by_cases hi : (i : Nat) < L.n
    · rw [driftCoef_sum L a b d F E i _ fun r hr => assembleK_col hi hr, krigeCond, if_pos hi,
        hdata i hi]
    · rw [krigeCond, if_neg hi, Nat.cast_zero]
      refine (sum_eq_zero fun j _ => ?_).symm
      rcases Nat.lt_or_ge j L.n with hj | hj
      · rw [driftCoef_data hj, zero_mul]
      · rw [assembleK_corner (Nat.le_of_not_lt hi) hj, Nat.cast_zero, mul_zero]
  rw [field_eq_bilinear, reproduces_span (toMat L.size (assembleK L C err F E)) (toMat L.size M) _ _ hMK
    (by ext i j; exact assembleK_symm L C err F E hC j i) _ hz]
  simp only [dotProduct, toVec, col]
  rw [← Finset.sum_range (fun j => driftCoef L a b d j * assembleRHS L om c f e j p)]
  exact driftCoef_sum L a b d f e p _ fun r hr => assembleRHS_border hr

/-- **constants are reproduced** by every unbiased variant, stated on the model's own arrays -/
theorem reproduces_constants (L : Layout) (hu : L.unb = true) (C : Nat → Nat → ℝ) (err : Nat → ℝ) (F E : Nat → Nat → ℝ)
    (hC : ∀ i j, C i j = C j i) (om : Bool) (c f e : Nat → Nat → ℝ) (M : Nat → Nat → ℝ)
    (hMK : toMat L.size M * toMat L.size (assembleK L C err F E) = 1) (valn mean : Nat → ℝ) (a : ℝ)
    (hconst : ∀ i, i < L.n → valn i - mean i = a) (p : Nat) :
    krigeFieldCell M (assembleRHS L om c f e) (krigeCond L valn mean) L.size p ((0:Nat):ℝ) = a := by
  rw [reproduces_drift L C err F E hC om c f e M hMK valn mean a (fun _ => 0) (fun _ => 0)
    (fun i hi => by simp only [hu, if_true, zero_mul, sum_const_zero, add_zero, hconst i hi]) p]
  simp only [hu, if_true, zero_mul, sum_const_zero, add_zero]

/-- `get_mean` of constant (prepared) data is that constant, whenever `M` inverts the assembled matrix -/
theorem get_mean_constant (L : Layout) (hu : L.unb = true) (hnf : L.nf = 0) (hne : L.ne = 0)
    (C : Nat → Nat → ℝ) (err : Nat → ℝ) (F E : Nat → Nat → ℝ) (hC : ∀ i j, C i j = C j i) (M : Nat → Nat → ℝ)
    (hMK : toMat L.size M * toMat L.size (assembleK L C err F E) = 1) (valn mean : Nat → ℝ) (a : ℝ)
    (hconst : ∀ i, i < L.n → valn i - mean i = a) :
    getMeanUnb L M (krigeCond L valn mean) = a := by
  rw [← get_mean_eq_only_mean L hu hnf hne M (fun _ _ => 0) (fun _ _ => 0) (fun _ _ => 0) _ 0]
  exact reproduces_constants L hu C err F E hC true _ _ _ M hMK valn mean a hconst 0

/-- **drift FUNCTIONS are reproduced** — with the code's detour made explicit.  `φ r` are the drift functions on a
    position type `P`, `x i` the conditioning positions (used raw in the matrix: `F r i = φ r (x i)`), `y p` the
    targets.  The code evaluates the target drift at `detour (y p)` with `detour = anisometrize ∘ isometrize`
    (`_get_krige_vecs`), so the right-hand side is `f r p = φ r (detour (y p))`.  Under the hypothesis that the
    detour returns the target itself (C12/C13 prove it except for wrapped longitudes, finding D16), data that are
    `a·[unbiased] + Σ b_r φ_r(x_i) + Σ d_r E_r(x_i)` give the estimate `a·[unbiased] + Σ b_r φ_r(y_p) + Σ d_r e_r(p)`. -/
theorem reproduces_drift_functions {P : Type} (φ : Nat → P → ℝ) (x y : Nat → P) (detour : P → P)
    (L : Layout) (C : Nat → Nat → ℝ) (err : Nat → ℝ) (E : Nat → Nat → ℝ)
    (hC : ∀ i j, C i j = C j i) (om : Bool) (c e : Nat → Nat → ℝ) (M : Nat → Nat → ℝ)
    (hMK : toMat L.size M * toMat L.size (assembleK L C err (fun r i => φ r (x i)) E) = 1) (valn mean : Nat → ℝ)
    (a : ℝ) (b d : Nat → ℝ)
    (hdata : ∀ i, i < L.n → valn i - mean i =
      (if L.unb then a else 0) + ∑ r ∈ range L.nf, b r * φ r (x i) + ∑ r ∈ range L.ne, d r * E r i)
    (p : Nat) (hdetour : detour (y p) = y p) :
    krigeFieldCell M (assembleRHS L om c (fun r q => φ r (detour (y q))) e) (krigeCond L valn mean) L.size p ((0:Nat):ℝ) =
      (if L.unb then a else 0) + ∑ r ∈ range L.nf, b r * φ r (y p) + ∑ r ∈ range L.ne, d r * e r p := by
  rw [reproduces_drift L C err (fun r i => φ r (x i)) E hC om c _ e M hMK valn mean a b d hdata p, hdetour]

/-- hypotheses satisfiable by a non-trivial universal-kriging system: two points at `x = 0, 1`, uncorrelated with
    unit variance (`C` the identity),
    one linear drift `φ(x) = x`, unbiasedness row; the explicit inverse of the `4×4` matrix -/
example : ∃ (K M : Matrix (Fin 4) (Fin 4) ℝ), M * K = 1 ∧ K.IsSymm ∧
    K = toMat 4 (assembleK ⟨2, true, 1, 0⟩ (fun i j => if i = j then 1 else 0) (fun _ => 0)
      (fun _ i => (i : ℝ)) (fun _ _ => 0)) := by
  have hK : toMat 4 (assembleK ⟨2, true, 1, 0⟩ (fun i j => if i = j then 1 else 0) (fun _ => 0)
      (fun _ i => (i : ℝ)) (fun _ _ => 0)) = !![1 + 0, 0, Nat.cast 1, Nat.cast 0; 0, 1 + 0, Nat.cast 1, Nat.cast 1;
        Nat.cast 1, Nat.cast 1, Nat.cast 0, Nat.cast 0; Nat.cast 0, Nat.cast 1, Nat.cast 0, Nat.cast 0] :=
    (etaExpand_eq _).symm
  refine ⟨_, !![0, 0, 1, -1; 0, 0, 0, 1; 1, 0, -1, 1; -1, 1, 1, -2], ?_, ?_, rfl⟩
  · rw [hK, one_fin_four]
    simp only [cons_mul, vecMul_cons, empty_vecMul, Matrix.empty_mul]
    norm_num
  · exact IsSymm.ext fun i j => assembleK_symm _ _ _ _ _ (fun i j => if_congr eq_comm rfl rfl) j i

section grid
variable {α : Type} [Arith α] [Transc α] [DecidableLT α] [DecidableLE α] [Inhabited α]
open GSV.Model.Grid

/-- right-hand sides of a target list: column `q` is a function `colOf` of the `q`-th target point alone
    (covariances to the conditioning points and drift values AT that point) -/
def rhsOf (colOf : List α → Nat → α) (pts : List (List α)) : Nat → Nat → α :=
  fun i q => colOf (pts.getD q default) i

/-- kriging is pointwise: the value at target `q` of a call on the point list `pts` is a function of `pts[q]` alone -/
theorem krigeCall_pointwise (sched : Sched) (hs : sched.Admissible) (L : Layout) (M : Nat → Nat → α) (cond : Nat → α)
    (sill : α) (colOf : List α → Nat → α) (pts : List (List α)) (cs q : Nat) (hcs : 0 < cs) (hq : q < pts.length) :
    (krigeCall sched L M (rhsOf colOf pts) cond sill pts.length cs).1 q =
      (pts.map fun pt => krigeFieldCell M (fun i _ => colOf pt i) cond L.size 0 ((0:Nat):α))[q]'(by simpa using hq) ∧
    (krigeCall sched L M (rhsOf colOf pts) cond sill pts.length cs).2 q =
      (pts.map fun pt => clipVar sill (krigeErrCell M (fun i _ => colOf pt i) L.size 0 ((0:Nat):α)))[q]'(by simpa using hq) := by
  rw [krigeCall_field sched hs L M _ cond sill _ cs q hcs hq, krigeCall_var sched hs L M _ cond sill _ cs q hcs hq,
    List.getElem_map, List.getElem_map]
  have h : ∀ j, rhsOf colOf pts j q = (fun i (_ : Nat) => colOf pts[q] i) j 0 := by
    intro j
    simp [rhsOf, List.getD_eq_getElem?_getD, List.getElem?_eq_getElem hq]
  obtain ⟨h1, h2⟩ := target_local M (rhsOf colOf pts) (fun i _ => colOf pts[q] i) cond L.size q 0 h ((0:Nat):α)
  rw [h1, h2]
  exact ⟨rfl, rfl⟩

/-- **structured = unstructured for the kriging call path.**  The structured call runs the call loop on
    `generate_grid(axes)` (`genGrid`, meshgrid `ij`, C order) and reshapes the flat field / variance to the grid
    shape; the entry of the reshaped array at the multi-index `is` is the flat entry at `encode dims is`.  That
    entry is the pointwise kriging estimate / clipped variance at the grid point with axis coordinates `is`
    (`pointAt axes is`) — every dimension, every axis length, every chunk size, every admissible schedule. -/
theorem structured_eq_unstructured (sched : Sched) (hs : sched.Admissible) (L : Layout) (M : Nat → Nat → α)
    (cond : Nat → α) (sill : α) (colOf : List α → Nat → α) (axes : List (List α)) (is : List Nat)
    (h : Valid (axes.map List.length) is) (cs : Nat) (hcs : 0 < cs) :
    (krigeCall sched L M (rhsOf colOf (genGrid axes)) cond sill (genGrid axes).length cs).1 (encode (axes.map List.length) is) =
      krigeFieldCell M (fun i _ => colOf (pointAt axes is) i) cond L.size 0 ((0:Nat):α) ∧
    (krigeCall sched L M (rhsOf colOf (genGrid axes)) cond sill (genGrid axes).length cs).2 (encode (axes.map List.length) is) =
      clipVar sill (krigeErrCell M (fun i _ => colOf (pointAt axes is) i) L.size 0 ((0:Nat):α)) := by
  have hq : encode (axes.map List.length) is < (genGrid axes).length := by
    rw [Grid.genGrid_length]; exact Grid.encode_lt h
  obtain ⟨h1, h2⟩ := krigeCall_pointwise sched hs L M cond sill colOf (genGrid axes) cs _ hcs hq
  rw [h1, h2]
  exact ⟨Grid.structured_eq_unstructured _ axes is h, Grid.structured_eq_unstructured _ axes is h⟩

/-- entry `is` of the structured call equals the UNSTRUCTURED call on any point list `pts` at any position `q` holding
    that grid point (in particular the expanded list itself, or the single point), for any other chunk size and schedule -/
theorem structured_eq_unstructured_call (s₁ s₂ : Sched) (h₁ : s₁.Admissible) (h₂ : s₂.Admissible) (L : Layout)
    (M : Nat → Nat → α) (cond : Nat → α) (sill : α) (colOf : List α → Nat → α) (axes : List (List α)) (is : List Nat)
    (h : Valid (axes.map List.length) is) (c₁ c₂ : Nat) (hc₁ : 0 < c₁) (hc₂ : 0 < c₂)
    (pts : List (List α)) (q : Nat) (hq : q < pts.length) (hpt : pts[q] = pointAt axes is) :
    (krigeCall s₁ L M (rhsOf colOf (genGrid axes)) cond sill (genGrid axes).length c₁).1 (encode (axes.map List.length) is) =
      (krigeCall s₂ L M (rhsOf colOf pts) cond sill pts.length c₂).1 q ∧
    (krigeCall s₁ L M (rhsOf colOf (genGrid axes)) cond sill (genGrid axes).length c₁).2 (encode (axes.map List.length) is) =
      (krigeCall s₂ L M (rhsOf colOf pts) cond sill pts.length c₂).2 q := by
  obtain ⟨a1, a2⟩ := structured_eq_unstructured s₁ h₁ L M cond sill colOf axes is h c₁ hc₁
  obtain ⟨b1, b2⟩ := krigeCall_pointwise s₂ h₂ L M cond sill colOf pts c₂ q hc₂ hq
  rw [a1, a2, b1, b2, List.getElem_map, List.getElem_map, hpt]
  exact ⟨rfl, rfl⟩

end grid

/-- non-vacuity: a 2 × 3 grid has the valid multi-index (1, 2), flat position 5 -/
example : GSV.Model.Grid.Valid ([[10, 20], [1, 2, 3]].map List.length) [1, 2] ∧
    GSV.Model.Grid.encode ([[10, 20], [1, 2, 3]].map List.length) [1, 2] = 5 := by
  simp [GSV.Model.Grid.Valid, GSV.Model.Grid.encode]

end GSV.Props.C05

