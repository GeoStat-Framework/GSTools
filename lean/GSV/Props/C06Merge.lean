/-
  C06 (repeated stations with measurement errors, simple kriging): the regular-system counterpart of
  `duplicates_pinv_simple`.  With a positive semidefinite covariance of the distinct locations and positive measurement
  errors, BOTH the system of the repeated measurements and the system of the merged measurements (precision-weighted
  mean values, errors `1 / Σ 1/eᵢ`) are positive definite — regular, no pseudo-inverse involved — and with ANY inverses
  the estimate and the returned (clipped) variance of the two coincide at every target; the variance lies in `[0, sill]`.
  The general statement (every variant, general split weights) is `C05.merge_coincident_with_errors` /
  `C05.merge_coincident_weights`; the measurements are NOT interpolated (compare `rhs_not_column_of_coincident`).
-/
import GSV.Props.C06
import GSV.Props.C05Merge
namespace GSV.Props.C06
open GSV GSV.Props GSV.Props.C05 GSV.Model.Krige Finset Matrix

theorem simple_matrix_indep (n : Nat) (C : Nat → Nat → ℝ) (err : Nat → ℝ) (F E F₂ E₂ : Nat → Nat → ℝ) :
    toMat n (assembleK (simpleLayout n) C err F E) = toMat n (assembleK (simpleLayout n) C err F₂ E₂) := by
  rw [simple_matrix_eq, simple_matrix_eq]

theorem simple_rhs_indep (n : Nat) (om : Bool) (c f e f₂ e₂ : Nat → Nat → ℝ) :
    assembleRHS (simpleLayout n) om c f e = assembleRHS (simpleLayout n) om c f₂ e₂ := by
  funext i p
  rcases Nat.lt_or_ge i n with h | h
  · exact (assembleRHS_data (L := simpleLayout n) h).trans (assembleRHS_data (L := simpleLayout n) h).symm
  · rw [assembleRHS_border (L := simpleLayout n) h, assembleRHS_border (L := simpleLayout n) h]
    exact border_congr (fun _ h => absurd h (Nat.not_lt_zero _)) (fun _ h => absurd h (Nat.not_lt_zero _)) i

/-- **repeated stations with positive measurement errors, simple kriging: regular systems, merged measurements,
    bounded variance.**  `π` sends the `n` conditioning points onto the `m` distinct locations, the covariance of the
    locations is positive semidefinite, every measurement has a positive error.  Then both assembled matrices are
    positive definite, and for ANY inverses `M`, `M'` of them, any target with equal right-hand-side entries and any
    sill `≥ 0`: the estimate and the returned variance of the repeated measurements are those of the merged
    measurements, and the variance lies in `[0, sill]`. -/
theorem merge_coincident_simple (n m : Nat) (π : Nat → Nat) (hπ : ∀ i, i < n → π i < m)
    (hsurj : ∀ a, a < m → ∃ i, i < n ∧ π i = a)
    (C C' : Nat → Nat → ℝ) (err err' : Nat → ℝ) (F E F' E' : Nat → Nat → ℝ)
    (hC : ∀ i j, i < n → j < n → C i j = C' (π i) (π j))
    (hPSD : (toMat m C').PosSemidef)
    (herr : ∀ i, i < n → 0 < err i)
    (herr' : ∀ a, a < m → err' a = 1 / ∑ i ∈ (range n).filter (fun i => π i = a), 1 / err i) :
    (toMat n (assembleK (simpleLayout n) C err F E)).PosDef ∧
    (toMat m (assembleK (simpleLayout m) C' err' F' E')).PosDef ∧
    ∀ (M M' : Nat → Nat → ℝ),
      toMat n M * toMat n (assembleK (simpleLayout n) C err F E) = 1 →
      toMat m M' * toMat m (assembleK (simpleLayout m) C' err' F' E') = 1 →
      ∀ (om : Bool) (c c' f e f' e' : Nat → Nat → ℝ) (p p' : Nat), (∀ i, i < n → c i p = c' (π i) p') →
      ∀ (valn mean valn' mean' : Nat → ℝ),
        (∀ a, a < m → valn' a - mean' a =
          (∑ i ∈ (range n).filter (fun i => π i = a), (valn i - mean i) / err i) /
            (∑ i ∈ (range n).filter (fun i => π i = a), 1 / err i)) →
      ∀ (sill : ℝ), 0 ≤ sill →
        krigeFieldCell M (assembleRHS (simpleLayout n) om c f e) (krigeCond (simpleLayout n) valn mean) n p ((0:Nat):ℝ) =
          krigeFieldCell M' (assembleRHS (simpleLayout m) om c' f' e') (krigeCond (simpleLayout m) valn' mean') m p'
            ((0:Nat):ℝ) ∧
        clipVar sill (krigeErrCell M (assembleRHS (simpleLayout n) om c f e) n p ((0:Nat):ℝ)) =
          clipVar sill (krigeErrCell M' (assembleRHS (simpleLayout m) om c' f' e') m p' ((0:Nat):ℝ)) ∧
        0 ≤ clipVar sill (krigeErrCell M (assembleRHS (simpleLayout n) om c f e) n p ((0:Nat):ℝ)) ∧
        clipVar sill (krigeErrCell M (assembleRHS (simpleLayout n) om c f e) n p ((0:Nat):ℝ)) ≤ sill := by
  have hpos' : ∀ a, a < m → 0 < err' a := fun a ha => by
    rw [herr' a ha]
    exact one_div_pos.mpr (sum_inv_err_pos n π err herr a (hsurj a ha))
  have hPSDn : (toMat n C).PosSemidef := by
    convert hPSD.submatrix fun i : Fin n => (⟨π i, hπ i i.2⟩ : Fin m) using 1
    ext i j
    exact hC i j i.2 j.2
  have hP := simple_posDef_of_errors n C err F E hPSDn herr
  have hP' := simple_posDef_of_errors m C' err' F' E' hPSD hpos'
  refine ⟨hP, hP', ?_⟩
  intro M M' hM hM' om c c' f e f' e' p p' hc valn mean valn' mean' hmean sill hs
  -- neither system reads its drift arrays: take them all zero, so that they agree at coincident points
  let Z : Nat → Nat → ℝ := fun _ _ => 0
  have h := merge_coincident_with_errors (simpleLayout n) m π hπ hsurj C C' err err' Z Z Z Z hC (fun _ _ _ => rfl)
    (fun _ _ _ => rfl) herr herr' om c c' Z Z Z Z p p' hc (fun _ => rfl) (fun _ => rfl) M M'
    (simple_matrix_indep n C err F E Z Z ▸ hM) (simple_matrix_indep m C' err' F' E' Z Z ▸ hM') valn mean valn' mean'
    hmean
  rw [simple_rhs_indep n om c f e Z Z, simple_rhs_indep m om c' f' e' Z Z]
  refine ⟨h.1, congrArg (clipVar sill) h.2, ?_⟩
  rw [err_eq_quadratic]
  exact var_le_sill_simple _ _ _ hM hP sill hs

/-- the hypotheses are satisfiable by a repeated station: the all-ones covariance of ONE location is positive
    semidefinite, two measurements there with errors `1/2`, `1/4` merge into one with error `1/6` -/
example : (toMat 1 (fun _ _ => (1:ℝ))).PosSemidef ∧
    (1:ℝ) / ∑ i ∈ (range 2).filter (fun i => (fun _ : Nat => 0) i = 0), 1 / (if i = 0 then (1/2:ℝ) else 1/4) = 1/6 := by
  refine ⟨ones_posSemidef 1, ?_⟩
  simp [Finset.sum_range_succ]
  norm_num

end GSV.Props.C06
