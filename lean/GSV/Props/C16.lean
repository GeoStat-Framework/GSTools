/-
  C16 — vector fields from isotropic models are incompressible.

  The divergence, mean and second-moment statements are about `GSV.Summator.summate_incompr`, the definition
  generated from `field/summator.pyx` (tie A), instantiated at ℝ, under the three-term glue of
  `IncomprRandMeth.__call__` (generator.py):
      mean_u * e1 + mean_u * sqrt(var / mode_no) * summed_modes          (nugget = 0).
  The variance splits are integrals of the projector `proj` that sum consists of (`kernelField_eq_sum`); the last
  section is about a hand-written model of the shapes `update` / `reset_seed` leave behind (`GenShape`).
-/
import GSV.Lemmas.Incompr
import Mathlib.Probability.ProbabilityMassFunction.Integrals
import Mathlib.Probability.Distributions.Uniform
import Mathlib.MeasureTheory.Integral.Prod
namespace GSV.Props.C16
open GSV GSV.Props GSV.Incompr GSV.Summator Finset MeasureTheory

/-- component `d` of the kernel's output at the single point `x`
    (`pos` = the `dim × 1` array holding `x`; `cov_samples` is `dim × N`, `z_1`, `z_2` have length `N`) -/
noncomputable def kernelField (k : Nat → Nat → ℝ) (z1 z2 : Nat → ℝ) (dim N d : Nat) (x : Nat → ℝ) : ℝ :=
  summate_incompr k dim N z1 N z2 N (fun d' _ => x d') dim 1 d 0

/-- the projector component the kernel builds for mode `j`: `p_d(k_j) = e1_d − k_d k_0 / |k|²` -/
noncomputable def proj (k : Nat → Nat → ℝ) (dim j d : Nat) : ℝ :=
  e1 d - k d j * k 0 j / absSq k dim j

/-- the phase `⟨k_j, x⟩` -/
noncomputable def phase (k : Nat → Nat → ℝ) (dim j : Nat) (x : Nat → ℝ) : ℝ :=
  ∑ d ∈ range dim, k d j * x d

/-- `IncomprRandMeth.__call__` without nugget: `mean_u·e1 + mean_u·sqrt(var/N)·summed_modes` -/
noncomputable def genField (meanU var : ℝ) (k : Nat → Nat → ℝ) (z1 z2 : Nat → ℝ) (dim N d : Nat)
    (x : Nat → ℝ) : ℝ :=
  meanU * e1 d + meanU * Real.sqrt (var / (N : ℝ)) * kernelField k z1 z2 dim N d x

/-- the kernel's output when the mode array has `rows` rows and the positions have `dim` rows: `|k|²` is taken over
    the `rows` rows, phase and projector components over the `dim` rows of the positions (`kernelField` is `rows = dim`) -/
noncomputable def kernelFieldRows (k : Nat → Nat → ℝ) (z1 z2 : Nat → ℝ) (rows dim N d : Nat) (x : Nat → ℝ) : ℝ :=
  summate_incompr k rows N z1 N z2 N (fun d' _ => x d') dim 1 d 0

/-- the projector the kernel builds from a `rows`-row mode array: `|k|²` runs over all `rows` rows -/
noncomputable def projRows (k : Nat → Nat → ℝ) (rows j d : Nat) : ℝ :=
  e1 d - k d j * k 0 j / absSq k rows j

/-- the kernel's output for an arbitrary number of mode rows (pure unfolding of the generated definition) -/
theorem kernelFieldRows_eq_sum (k : Nat → Nat → ℝ) (z1 z2 : Nat → ℝ) {dim d : Nat} (rows N : Nat) (hd : d < dim)
    (x : Nat → ℝ) :
    kernelFieldRows k z1 z2 rows dim N d x =
      ∑ j ∈ range N, projRows k rows j d *
        (z1 j * Real.cos (phase k dim j x) + z2 j * Real.sin (phase k dim j x)) := by
  unfold kernelFieldRows projRows phase
  rw [summate_incompr_spec, if_pos ⟨hd, Nat.one_pos⟩, incomprCell_real]
  simp only [phaseOf, forRange_cast_zero_add_eq_sum]

/-- the kernel's output is the Kraichnan sum (no hypothesis on the wave vectors: pure unfolding) -/
theorem kernelField_eq_sum (k : Nat → Nat → ℝ) (z1 z2 : Nat → ℝ) {dim d : Nat} (N : Nat) (hd : d < dim)
    (x : Nat → ℝ) :
    kernelField k z1 z2 dim N d x =
      ∑ j ∈ range N, proj k dim j d * (z1 j * Real.cos (phase k dim j x) + z2 j * Real.sin (phase k dim j x)) :=
  kernelFieldRows_eq_sum k z1 z2 dim N hd x

/-- contraction of `projRows` with the `dim` components of the wave vector that enter the phase:
    `k_0 (1 − |k|²_dim / |k|²_rows)` — zero for `rows = dim`, not otherwise -/
theorem projRows_contract (k : Nat → Nat → ℝ) {dim : Nat} (rows j : Nat) (hdim : 0 < dim) :
    ∑ d ∈ range dim, projRows k rows j d * k d j = k 0 j * (1 - absSq k dim j / absSq k rows j) := by
  unfold projRows
  have h1 : ∑ d ∈ range dim, (e1 d - k d j * k 0 j / absSq k rows j) * k d j
      = ∑ d ∈ range dim, (e1 d : ℝ) * k d j - k 0 j / absSq k rows j * ∑ d ∈ range dim, (k d j) ^ 2 := by
    rw [mul_sum, ← sum_sub_distrib]
    exact sum_congr rfl fun d _ => by ring
  rw [h1, sum_e1_mul (fun d => k d j) hdim, ← absSq_real]
  ring

/-- `Σ_d p_d(k)·k_d = 0` whenever `|k|² ≠ 0`, in every dimension ≥ 1, for the projector in the
    code's own form.  (With `k_1` in place of `k_0` it is false: example after `jac_trace_zero`.) -/
theorem projector_orthogonal (k : Nat → Nat → ℝ) {dim : Nat} (j : Nat) (hdim : 0 < dim)
    (hk : absSq k dim j ≠ 0) :
    ∑ d ∈ range dim, proj k dim j d * k d j = 0 :=
  (projRows_contract k dim j hdim).trans (by rw [div_self hk, sub_self, mul_zero])

example : absSq (fun d _ => if d = 0 then (3:ℝ) else 4) 2 0 ≠ 0 := by
  rw [absSq_real]; norm_num [sum_range_succ]

theorem absSq_smul (k : Nat → Nat → ℝ) (dim j : Nat) (r : ℝ) (u : Nat → ℝ) (hk : ∀ c, k c j = r * u c) :
    absSq k dim j = r ^ 2 * ∑ c ∈ range dim, u c ^ 2 := by
  rw [absSq_real, mul_sum]
  exact sum_congr rfl fun c _ => by rw [hk, mul_pow]

/-- the projector only depends on the direction of `k` (so the variance split below is a statement
    about directions) -/
theorem proj_scale_invariant (k : Nat → Nat → ℝ) (dim j d : Nat) (r : ℝ) (hr : r ≠ 0) :
    proj (fun d j => r * k d j) dim j d = proj k dim j d := by
  unfold proj
  rw [absSq_smul _ dim j r (fun c => k c j) (fun _ => rfl), ← absSq_real, mul_mul_mul_comm, ← sq,
    mul_div_mul_left _ _ (pow_ne_zero 2 hr)]

/-- the Jacobian entry the code's field has: `∂u_d/∂x_c = Σ_j p_d(k_j)(z₂ cos φ_j − z₁ sin φ_j) k_c` -/
noncomputable def jac (k : Nat → Nat → ℝ) (z1 z2 : Nat → ℝ) (dim N d c : Nat) (x : Nat → ℝ) : ℝ :=
  ∑ j ∈ range N, proj k dim j d *
    (z2 j * Real.cos (phase k dim j x) - z1 j * Real.sin (phase k dim j x)) * k c j

theorem partialRows_hasDerivAt (k : Nat → Nat → ℝ) (z1 z2 : Nat → ℝ) {dim d c : Nat} (rows N : Nat)
    (hd : d < dim) (hc : c < dim) (x : Nat → ℝ) :
    HasDerivAt (fun t => kernelFieldRows k z1 z2 rows dim N d (Function.update x c t))
      (∑ j ∈ range N, projRows k rows j d *
        (z2 j * Real.cos (phase k dim j x) - z1 j * Real.sin (phase k dim j x)) * k c j) (x c) := by
  simp only [kernelFieldRows_eq_sum k z1 z2 rows N hd]
  -- each mode through its phase; at `t = x c` the updated point is `x` itself
  have h := HasDerivAt.fun_sum (u := range N) fun j _ =>
    hasDerivAt_mode (projRows k rows j d) (z1 j) (z2 j) (hasDerivAt_phase (fun d' => k d' j) x hc (x c))
  rwa [Function.update_eq_self] at h

/-- every component of the kernel's field is differentiable along every coordinate line, with the
    derivative `jac` -/
theorem partial_hasDerivAt (k : Nat → Nat → ℝ) (z1 z2 : Nat → ℝ) {dim d c : Nat} (N : Nat)
    (hd : d < dim) (hc : c < dim) (x : Nat → ℝ) :
    HasDerivAt (fun t => kernelField k z1 z2 dim N d (Function.update x c t))
      (jac k z1 z2 dim N d c x) (x c) :=
  partialRows_hasDerivAt k z1 z2 dim N hd hc x

theorem jacRows_trace (k : Nat → Nat → ℝ) {T : Nat → ℝ} {dim : Nat} (rows N : Nat) (hdim : 0 < dim) :
    ∑ d ∈ range dim, ∑ j ∈ range N, projRows k rows j d * T j * k d j
      = ∑ j ∈ range N, T j * (k 0 j * (1 - absSq k dim j / absSq k rows j)) := by
  rw [sum_comm]
  refine sum_congr rfl fun j _ => ?_
  rw [← projRows_contract k rows j hdim, mul_sum]
  exact sum_congr rfl fun d _ => by ring

/-- the divergence the kernel's field has when the mode array has `rows` rows -/
noncomputable def divRows (k : Nat → Nat → ℝ) (z1 z2 : Nat → ℝ) (rows dim N : Nat) (x : Nat → ℝ) : ℝ :=
  ∑ j ∈ range N, (z2 j * Real.cos (phase k dim j x) - z1 j * Real.sin (phase k dim j x)) *
    (k 0 j * (1 - absSq k dim j / absSq k rows j))

/-- divergence for arbitrary mode-array shape: `Σ_d ∂_d u_d = Σ_j (z₂ cos φ_j − z₁ sin φ_j) k_0j (1 − |k_j|²_dim/|k_j|²_rows)` -/
theorem divergence_rows (k : Nat → Nat → ℝ) (z1 z2 : Nat → ℝ) {dim : Nat} (rows N : Nat) (hdim : 0 < dim)
    (x : Nat → ℝ) :
    ∑ d ∈ range dim, deriv (fun t => kernelFieldRows k z1 z2 rows dim N d (Function.update x d t)) (x d)
      = divRows k z1 z2 rows dim N x := by
  rw [sum_congr rfl fun d hd =>
    (partialRows_hasDerivAt k z1 z2 rows N (mem_range.mp hd) (mem_range.mp hd) x).deriv]
  exact jacRows_trace k rows N hdim

/-- `divRows` vanishes when the mode array has as many rows as the positions and no wave vector is zero -/
theorem divRows_self {k : Nat → Nat → ℝ} {z1 z2 : Nat → ℝ} {dim N : Nat} (hk : ∀ j < N, absSq k dim j ≠ 0)
    {x : Nat → ℝ} : divRows k z1 z2 dim dim N x = 0 :=
  sum_eq_zero fun j hj => by rw [div_self (hk j (mem_range.mp hj)), sub_self, mul_zero, mul_zero]

/-- for every mode set with non-zero wave vectors, all amplitudes and every point, the sum of the diagonal
    Jacobian entries `jac` of the kernel's field vanishes -/
theorem jac_trace_zero (k : Nat → Nat → ℝ) (z1 z2 : Nat → ℝ) {dim : Nat} (N : Nat) (hdim : 0 < dim)
    (hk : ∀ j < N, absSq k dim j ≠ 0) (x : Nat → ℝ) :
    ∑ d ∈ range dim, jac k z1 z2 dim N d d x = 0 :=
  (jacRows_trace k dim N hdim).trans (divRows_self hk)

/-- the hypothesis "all wave vectors are non-zero" is satisfiable by a non-trivial mode set -/
example : ∀ j < 5, absSq (fun d j => (j : ℝ) + 1 + d) 3 j ≠ 0 := by
  intro j _
  rw [absSq_ne_zero_iff]
  exact ⟨0, by norm_num, by positivity⟩

/-- what the theorem excludes: with `k_1` in place of `k_0` in the projector (the edit
    `cov_samples[0, j]` → `cov_samples[1, j]`) the contraction with `k` is `k_0 − k_1`, not `0` -/
example : ∑ d ∈ range 2, ((e1 d : ℝ) - (if d = 0 then 3 else 4) * 4 / (3 ^ 2 + 4 ^ 2)) * (if d = 0 then 3 else 4) = -1 := by
  rw [sum_range_succ, sum_range_one, e1_real, e1_real]
  norm_num

/-- divergence-free in terms of `deriv`: `Σ_d ∂_d u_d(x) = 0` for the kernel output (non-zero wave vectors) -/
theorem divergence_free (k : Nat → Nat → ℝ) (z1 z2 : Nat → ℝ) {dim : Nat} (N : Nat) (hdim : 0 < dim)
    (hk : ∀ j < N, absSq k dim j ≠ 0) (x : Nat → ℝ) :
    ∑ d ∈ range dim, deriv (fun t => kernelField k z1 z2 dim N d (Function.update x d t)) (x d) = 0 :=
  (divergence_rows k z1 z2 dim N hdim x).trans (divRows_self hk)

/-- what `IncomprRandMeth.__call__` returns (mean velocity, variance scaling included) is divergence-free for
    non-zero wave vectors: each component is differentiable along each axis and `Σ_d ∂_d u_d(x) = 0` -/
theorem genField_divergence_free (meanU var : ℝ) (k : Nat → Nat → ℝ) (z1 z2 : Nat → ℝ) {dim : Nat} (N : Nat)
    (hdim : 0 < dim) (hk : ∀ j < N, absSq k dim j ≠ 0) (x : Nat → ℝ) :
    (∀ d < dim, DifferentiableAt ℝ (fun t => genField meanU var k z1 z2 dim N d (Function.update x d t)) (x d)) ∧
    ∑ d ∈ range dim, deriv (fun t => genField meanU var k z1 z2 dim N d (Function.update x d t)) (x d) = 0 := by
  have hD : ∀ d < dim, HasDerivAt (fun t => genField meanU var k z1 z2 dim N d (Function.update x d t))
      (meanU * Real.sqrt (var / (N : ℝ)) * jac k z1 z2 dim N d d x) (x d) := fun d hd =>
    ((partial_hasDerivAt k z1 z2 N hd hd x).const_mul _).const_add _
  refine ⟨fun d hd => (hD d hd).differentiableAt, ?_⟩
  rw [sum_congr rfl fun d hd => (hD d (mem_range.mp hd)).deriv, ← mul_sum,
    jac_trace_zero k z1 z2 N hdim hk x, mul_zero]

/-- dimension 2, spelled out: `∂₀u₀ + ∂₁u₁ = 0` -/
theorem divergence_free_2d (meanU var : ℝ) (k : Nat → Nat → ℝ) (z1 z2 : Nat → ℝ) (N : Nat)
    (hk : ∀ j < N, (k 0 j) ^ 2 + (k 1 j) ^ 2 ≠ 0) (x : Nat → ℝ) :
    deriv (fun t => genField meanU var k z1 z2 2 N 0 (Function.update x 0 t)) (x 0) +
    deriv (fun t => genField meanU var k z1 z2 2 N 1 (Function.update x 1 t)) (x 1) = 0 := by
  have h := (genField_divergence_free meanU var k z1 z2 N Nat.two_pos
    (fun j hj => by rw [absSq_real, sum_range_succ, sum_range_one]; exact hk j hj) x).2
  rwa [sum_range_succ, sum_range_one] at h

/-- dimension 3, spelled out: `∂₀u₀ + ∂₁u₁ + ∂₂u₂ = 0` -/
theorem divergence_free_3d (meanU var : ℝ) (k : Nat → Nat → ℝ) (z1 z2 : Nat → ℝ) (N : Nat)
    (hk : ∀ j < N, (k 0 j) ^ 2 + (k 1 j) ^ 2 + (k 2 j) ^ 2 ≠ 0) (x : Nat → ℝ) :
    deriv (fun t => genField meanU var k z1 z2 3 N 0 (Function.update x 0 t)) (x 0) +
    deriv (fun t => genField meanU var k z1 z2 3 N 1 (Function.update x 1 t)) (x 1) +
    deriv (fun t => genField meanU var k z1 z2 3 N 2 (Function.update x 2 t)) (x 2) = 0 := by
  have h := (genField_divergence_free meanU var k z1 z2 N (Nat.succ_pos 2)
    (fun j hj => by rw [absSq_real, sum_range_succ, sum_range_succ, sum_range_one]; exact hk j hj) x).2
  rwa [sum_range_succ, sum_range_succ, sum_range_one] at h

/-! ### divergence as the trace of the Fréchet derivative on `ℝ^dim` -/

/-- a point of `ℝ^dim` in the kernel's indexing convention -/
def embed {dim : Nat} (y : Fin dim → ℝ) : Nat → ℝ := fun c => if h : c < dim then y ⟨c, h⟩ else 0

theorem phase_embed (k : Nat → Nat → ℝ) (dim j : Nat) (y : Fin dim → ℝ) :
    phase k dim j (embed y) = ∑ c : Fin dim, k c j * y c := by
  unfold phase embed
  rw [Finset.sum_range]
  simp only [Fin.is_lt, dite_true, Fin.eta]

/-- the linear functional `v ↦ ⟨k_j, v⟩` on `ℝ^dim` -/
noncomputable def kDual (k : Nat → Nat → ℝ) (dim j : Nat) : (Fin dim → ℝ) →L[ℝ] ℝ :=
  ∑ c : Fin dim, k c j • ContinuousLinearMap.proj (R := ℝ) (φ := fun _ : Fin dim => ℝ) c

theorem kDual_apply (k : Nat → Nat → ℝ) (dim j : Nat) (v : Fin dim → ℝ) :
    kDual k dim j v = ∑ c : Fin dim, k c j * v c := by
  simp only [kDual, _root_.sum_apply, smul_apply, ContinuousLinearMap.proj_apply, smul_eq_mul]

theorem kDual_single (k : Nat → Nat → ℝ) (dim j : Nat) (d : Fin dim) : kDual k dim j (Pi.single d 1) = k d j := by
  simp only [kDual_apply, Pi.single_apply, mul_ite, mul_one, mul_zero, Finset.sum_ite_eq', Finset.mem_univ, if_true]

theorem hasFDerivAt_phase_embed (k : Nat → Nat → ℝ) (dim j : Nat) (y : Fin dim → ℝ) :
    HasFDerivAt (fun y : Fin dim → ℝ => phase k dim j (embed y)) (kDual k dim j) y := by
  simp only [phase_embed, ← kDual_apply]
  exact (kDual k dim j).hasFDerivAt

/-- component `d` of the kernel's field is Fréchet differentiable on `ℝ^dim`, with derivative
    `Σ_j p_d(k_j)(z₂ cos φ_j − z₁ sin φ_j) ⟨k_j, ·⟩` -/
theorem kernelField_hasFDerivAt (k : Nat → Nat → ℝ) (z1 z2 : Nat → ℝ) {dim d : Nat} (N : Nat) (hd : d < dim)
    (y : Fin dim → ℝ) :
    HasFDerivAt (fun y : Fin dim → ℝ => kernelField k z1 z2 dim N d (embed y))
      (∑ j ∈ range N, (proj k dim j d * (z2 j * Real.cos (phase k dim j (embed y)) -
          z1 j * Real.sin (phase k dim j (embed y)))) • kDual k dim j) y := by
  simp only [kernelField_eq_sum k z1 z2 N hd]
  exact HasFDerivAt.fun_sum fun j _ => hasFDerivAt_mode _ _ _ (hasFDerivAt_phase_embed k dim j y)

/-- divergence-free, Fréchet form: for non-zero wave vectors the trace of the Jacobian of the kernel's field on `ℝ^dim` vanishes -/
theorem divergence_free_fderiv (k : Nat → Nat → ℝ) (z1 z2 : Nat → ℝ) {dim : Nat} (N : Nat) (hdim : 0 < dim)
    (hk : ∀ j < N, absSq k dim j ≠ 0) (y : Fin dim → ℝ) :
    ∑ d : Fin dim, fderiv ℝ (fun y : Fin dim → ℝ => kernelField k z1 z2 dim N d (embed y)) y (Pi.single d 1) = 0 := by
  rw [← jac_trace_zero k z1 z2 N hdim hk (embed y), Finset.sum_range]
  refine Finset.sum_congr rfl fun d _ => ?_
  rw [(kernelField_hasFDerivAt k z1 z2 N d.isLt y).fderiv, _root_.sum_apply]
  unfold jac
  exact Finset.sum_congr rfl fun j _ => by rw [smul_apply, kDual_single, smul_eq_mul]

/-- Fréchet form for the generator's output `mean_u e1 + mean_u √(var/N) · kernel`: every component is differentiable
    on `ℝ^dim` and the trace of the Jacobian vanishes (non-zero wave vectors) -/
theorem genField_divergence_free_fderiv (meanU var : ℝ) (k : Nat → Nat → ℝ) (z1 z2 : Nat → ℝ) {dim : Nat} (N : Nat)
    (hdim : 0 < dim) (hk : ∀ j < N, absSq k dim j ≠ 0) (y : Fin dim → ℝ) :
    (∀ d < dim, DifferentiableAt ℝ (fun y : Fin dim → ℝ => genField meanU var k z1 z2 dim N d (embed y)) y) ∧
    ∑ d : Fin dim, fderiv ℝ (fun y : Fin dim → ℝ => genField meanU var k z1 z2 dim N d (embed y)) y (Pi.single d 1) = 0 := by
  have hD : ∀ d < dim, HasFDerivAt (fun y : Fin dim → ℝ => genField meanU var k z1 z2 dim N d (embed y))
      ((meanU * Real.sqrt (var / (N : ℝ))) •
        fderiv ℝ (fun y : Fin dim → ℝ => kernelField k z1 z2 dim N d (embed y)) y) y := fun d hd =>
    ((kernelField_hasFDerivAt k z1 z2 N hd y).differentiableAt.hasFDerivAt.const_mul _).const_add _
  refine ⟨fun d hd => (hD d hd).differentiableAt, ?_⟩
  simp only [fun d : Fin dim => (hD d d.isLt).fderiv, smul_apply, smul_eq_mul]
  rw [← Finset.mul_sum, divergence_free_fderiv k z1 z2 N hdim hk y, mul_zero]

/-- mean for fixed modes: for any mode set, if the amplitudes are integrable with zero mean, the
    expectation of the generated field at any point is `mean_u · e1` — the mean velocity along axis 0
    and zero along the others. -/
theorem mean_given_modes {Ω : Type} [MeasurableSpace Ω] (μ : Measure Ω) [IsProbabilityMeasure μ]
    (meanU var : ℝ) (k : Nat → Nat → ℝ) {dim d : Nat} (N : Nat) (hd : d < dim)
    (Z1 Z2 : Nat → Ω → ℝ)
    (hi1 : ∀ j < N, Integrable (Z1 j) μ) (hi2 : ∀ j < N, Integrable (Z2 j) μ)
    (hm1 : ∀ j < N, ∫ ω, Z1 j ω ∂μ = 0) (hm2 : ∀ j < N, ∫ ω, Z2 j ω ∂μ = 0) (x : Nat → ℝ) :
    ∫ ω, genField meanU var k (fun j => Z1 j ω) (fun j => Z2 j ω) dim N d x ∂μ
      = meanU * (if d = 0 then 1 else 0) := by
  unfold genField
  simp only [kernelField_eq_sum k _ _ N hd x]
  have hterm : ∀ j ∈ range N, Integrable (fun ω => proj k dim j d *
      (Z1 j ω * Real.cos (phase k dim j x) + Z2 j ω * Real.sin (phase k dim j x))) μ := fun j hj =>
    (((hi1 j (mem_range.mp hj)).mul_const _).add ((hi2 j (mem_range.mp hj)).mul_const _)).const_mul _
  rw [integral_add (integrable_const _) ((integrable_finsetSum _ hterm).const_mul _), integral_const, integral_const_mul,
    integral_finsetSum _ hterm, sum_eq_zero fun j hj => ?_, e1_real, probReal_univ, one_smul, mul_zero, add_zero]
  -- every mode has mean zero
  have hj' := mem_range.mp hj
  rw [integral_const_mul, integral_add ((hi1 j hj').mul_const _) ((hi2 j hj').mul_const _)]
  simp only [integral_mul_const, hm1 j hj', hm2 j hj', zero_mul, add_zero, mul_zero]

/-- two fair coins: a concrete probability space carrying two uncorrelated ±1 amplitudes -/
noncomputable def coin2 : Measure (Bool × Bool) := (PMF.uniformOfFintype (Bool × Bool)).toMeasure

noncomputable instance : IsProbabilityMeasure coin2 := by unfold coin2; infer_instance

theorem integral_coin2 (f : Bool × Bool → ℝ) :
    ∫ ω, f ω ∂coin2 = (f (true, true) + f (true, false) + f (false, true) + f (false, false)) / 4 := by
  unfold coin2
  rw [PMF.integral_eq_sum]
  simp only [PMF.uniformOfFintype_apply, Fintype.sum_prod_type, Fintype.sum_bool, smul_eq_mul]
  simp
  ring

/-- ±1 -/
def sgn (b : Bool) : ℝ := if b then 1 else -1

/-- the hypotheses of `mean_given_modes` are satisfiable by non-constant amplitudes -/
example (meanU var : ℝ) (k : Nat → Nat → ℝ) (x : Nat → ℝ) :
    ∫ ω, genField meanU var k (fun _ => sgn ω.1) (fun _ => sgn ω.2) 2 1 0 x ∂coin2 = meanU * 1 := by
  have := mean_given_modes coin2 meanU var k (dim := 2) (d := 0) 1 Nat.two_pos
    (fun _ ω => sgn ω.1) (fun _ ω => sgn ω.2) (fun _ _ => Integrable.of_finite) (fun _ _ => Integrable.of_finite)
    (fun _ _ => by rw [integral_coin2]; simp [sgn]) (fun _ _ => by rw [integral_coin2]; simp [sgn]) x
  simpa using this

/-- for a wave vector `r·u` along a unit vector `u` the projector is `e1 − u u₀` -/
theorem proj_unit {k : Nat → Nat → ℝ} {dim j : Nat} (d : Nat) {r : ℝ} (hr : r ≠ 0) {u : Nat → ℝ}
    (hk : ∀ c, k c j = r * u c) (hu : ∑ c ∈ range dim, u c ^ 2 = 1) :
    proj k dim j d = e1 d - u d * u 0 := by
  unfold proj
  rw [absSq_smul k dim j r u hk, hu, mul_one, hk, hk, mul_mul_mul_comm, ← sq, mul_div_cancel_left₀ _ (pow_ne_zero 2 hr)]

/-- the unit wave vector of direction angle `a` in 2-D, as `RNG.sample_sphere(2)` builds it -/
noncomputable def dir2 (a : ℝ) : Nat → Nat → ℝ := fun d _ => if d = 0 then Real.cos a else Real.sin a

theorem dir2_unit (a : ℝ) : ∑ c ∈ range 2, dir2 a c 0 ^ 2 = 1 := by
  simp only [sum_range_succ, sum_range_zero, zero_add, dir2, if_true, one_ne_zero, if_false]
  exact Real.cos_sq_add_sin_sq a

/-- the squared projector components on the circle, `sin⁴ a` and `sin² a cos² a`, as polynomials in `cos a` -/
noncomputable def dir2sq (d : Nat) (a : ℝ) : ℝ :=
  if d = 0 then 1 + -2 * Real.cos a ^ 2 + 1 * Real.cos a ^ 4 else 0 + 1 * Real.cos a ^ 2 + -1 * Real.cos a ^ 4

theorem proj_dir2_sq (k : Nat → Nat → ℝ) (j : Nat) {r a : ℝ} (hr : r ≠ 0) (hk : ∀ c, k c j = r * dir2 a c 0)
    (d : Nat) (hd : d < 2) : proj k 2 j d ^ 2 = dir2sq d a := by
  rw [proj_unit d hr hk (dir2_unit a), e1_real]
  interval_cases d
  · simp only [dir2, dir2sq, if_true]
    ring
  · simp only [dir2, dir2sq, if_true, one_ne_zero, if_false]
    rw [zero_sub, neg_sq, mul_pow, Real.sin_sq]
    ring

theorem dir2sq_avg (d : Nat) :
    (1 / (2 * Real.pi)) * ∫ a in (0:ℝ)..(2 * Real.pi), dir2sq d a = if d = 0 then 3 / 8 else 1 / 8 := by
  unfold dir2sq
  split
  · rw [integral_cos_quartic_two_pi]; linear_combination (3 / 8) * mul_inv_cancel₀ Real.pi_ne_zero
  · rw [integral_cos_quartic_two_pi]; linear_combination (1 / 8) * mul_inv_cancel₀ Real.pi_ne_zero

/-- variance split, 2-D: averaged over a uniformly distributed direction, the squared projector
    components are `3/8` (axis 0) and `1/8` (axis 1) -/
theorem variance_split_2d (r : ℝ) (hr : r ≠ 0) :
    (1 / (2 * Real.pi)) * ∫ a in (0:ℝ)..(2 * Real.pi), (proj (fun d j => r * dir2 a d j) 2 0 0) ^ 2 = 3 / 8 ∧
    (1 / (2 * Real.pi)) * ∫ a in (0:ℝ)..(2 * Real.pi), (proj (fun d j => r * dir2 a d j) 2 0 1) ^ 2 = 1 / 8 := by
  simp only [fun a d (hd : d < 2) => proj_dir2_sq (fun d j => r * dir2 a d j) 0 hr (fun _ => rfl) d hd, Nat.ofNat_pos,
    Nat.one_lt_ofNat]
  exact ⟨(dir2sq_avg 0).trans (if_pos rfl), (dir2sq_avg 1).trans (if_neg one_ne_zero)⟩

/-- the unit wave vector `RNG.sample_sphere(3)` builds from an angle `a` and a height `w`:
    `(√(1−w²) cos a, √(1−w²) sin a, w)`; uniform on the sphere for `a ~ U(0,2π)`, `w ~ U(−1,1)` (Archimedes) -/
noncomputable def dir3 (a w : ℝ) : Nat → Nat → ℝ := fun d _ =>
  if d = 0 then Real.sqrt (1 - w ^ 2) * Real.cos a else if d = 1 then Real.sqrt (1 - w ^ 2) * Real.sin a else w

theorem sq_sqrt_one_sub_sq {w : ℝ} (hw : w ∈ Set.Icc (-1:ℝ) 1) : Real.sqrt (1 - w ^ 2) ^ 2 = 1 - w ^ 2 :=
  Real.sq_sqrt (sub_nonneg.2 ((sq_le_one_iff_abs_le_one w).2 (abs_le.2 hw)))

theorem dir3_unit (a : ℝ) {w : ℝ} (hw : w ∈ Set.Icc (-1:ℝ) 1) : ∑ c ∈ range 3, dir3 a w c 0 ^ 2 = 1 := by
  simp only [sum_range_succ, sum_range_zero, zero_add, dir3, if_true, one_ne_zero, if_false, OfNat.ofNat_ne_zero,
    OfNat.ofNat_ne_one]
  rw [mul_pow, mul_pow, ← mul_add, Real.cos_sq_add_sin_sq, mul_one, sq_sqrt_one_sub_sq hw, sub_add_cancel]

/-- the squared projector components on the sphere as polynomials in `cos a, sin a, w`
    (the exponents are written `(2:ℕ)`, `(4:ℕ)` so that their type need not be found by unification) -/
noncomputable def dir3sq (d : Nat) (a w : ℝ) : ℝ :=
  if d = 0 then 1 + (-2 * Real.cos a ^ (2:ℕ) + Real.cos a ^ (4:ℕ)) + (2 * Real.cos a ^ (2:ℕ) - 2 * Real.cos a ^ (4:ℕ)) * w ^ (2:ℕ)
      + Real.cos a ^ (4:ℕ) * w ^ (4:ℕ)
  else if d = 1 then (Real.cos a ^ (2:ℕ) - Real.cos a ^ (4:ℕ)) + (-2 * Real.cos a ^ (2:ℕ) + 2 * Real.cos a ^ (4:ℕ)) * w ^ (2:ℕ)
      + (Real.cos a ^ (2:ℕ) - Real.cos a ^ (4:ℕ)) * w ^ (4:ℕ)
  else 0 + Real.cos a ^ (2:ℕ) * w ^ (2:ℕ) + (-Real.cos a ^ (2:ℕ)) * w ^ (4:ℕ)

theorem proj_dir3_sq (k : Nat → Nat → ℝ) (j : Nat) {r a w : ℝ} (hr : r ≠ 0) (hw : w ∈ Set.Icc (-1:ℝ) 1)
    (hk : ∀ c, k c j = r * dir3 a w c 0) (d : Nat) (hd : d < 3) : proj k 3 j d ^ 2 = dir3sq d a w := by
  have hs := sq_sqrt_one_sub_sq hw
  rw [proj_unit d hr hk (dir3_unit a hw), e1_real]
  -- polynomial identities in `w, cos a, sin a` once `√(1 − w²)²` is replaced
  interval_cases d
  · simp only [dir3, dir3sq, if_true]
    rw [mul_mul_mul_comm, ← sq, ← sq, hs]
    ring
  · simp only [dir3, dir3sq, if_true, one_ne_zero, if_false]
    rw [mul_mul_mul_comm, ← sq, hs, zero_sub, neg_sq, mul_pow, mul_pow, Real.sin_sq]
    ring
  · simp only [dir3, dir3sq, if_true, if_false, OfNat.ofNat_ne_zero, OfNat.ofNat_ne_one]
    rw [zero_sub, neg_sq, mul_pow, mul_pow, hs]
    ring

theorem dir3sq_avg (d : Nat) (hd : d < 3) :
    (1 / (4 * Real.pi)) * ∫ a in (0:ℝ)..(2 * Real.pi), ∫ w in (-1:ℝ)..1, dir3sq d a w
      = if d = 0 then 8 / 15 else 1 / 15 := by
  unfold dir3sq
  interval_cases d
  · simp only [if_true, integral_even_quartic]
    rw [intervalIntegral.integral_congr (g := fun a => 2 + -8 / 3 * Real.cos a ^ 2 + 16 / 15 * Real.cos a ^ 4)
      fun a _ => by ring, integral_cos_quartic_two_pi]
    linear_combination (8 / 15) * mul_inv_cancel₀ Real.pi_ne_zero
  · simp only [one_ne_zero, if_false, if_true, integral_even_quartic]
    rw [intervalIntegral.integral_congr (g := fun a => 0 + 16 / 15 * Real.cos a ^ 2 + -16 / 15 * Real.cos a ^ 4)
      fun a _ => by ring, integral_cos_quartic_two_pi]
    linear_combination (1 / 15) * mul_inv_cancel₀ Real.pi_ne_zero
  · simp only [OfNat.ofNat_ne_zero, OfNat.ofNat_ne_one, if_false, integral_even_quartic]
    rw [intervalIntegral.integral_congr (g := fun a => 0 + 4 / 15 * Real.cos a ^ 2 + 0 * Real.cos a ^ 4)
      fun a _ => by ring, integral_cos_quartic_two_pi]
    linear_combination (1 / 15) * mul_inv_cancel₀ Real.pi_ne_zero

/-- variance split, 3-D: averaged over a uniformly distributed direction on the sphere (in the
    sampler's own parametrisation), the squared projector components are `8/15`, `1/15`, `1/15` -/
theorem variance_split_3d (r : ℝ) (hr : r ≠ 0) :
    (1 / (4 * Real.pi)) * ∫ a in (0:ℝ)..(2 * Real.pi), ∫ w in (-1:ℝ)..1,
        (proj (fun d j => r * dir3 a w d j) 3 0 0) ^ 2 = 8 / 15 ∧
    (1 / (4 * Real.pi)) * ∫ a in (0:ℝ)..(2 * Real.pi), ∫ w in (-1:ℝ)..1,
        (proj (fun d j => r * dir3 a w d j) 3 0 1) ^ 2 = 1 / 15 ∧
    (1 / (4 * Real.pi)) * ∫ a in (0:ℝ)..(2 * Real.pi), ∫ w in (-1:ℝ)..1,
        (proj (fun d j => r * dir3 a w d j) 3 0 2) ^ 2 = 1 / 15 := by
  have h : ∀ d < 3, (1 / (4 * Real.pi)) * ∫ a in (0:ℝ)..(2 * Real.pi), ∫ w in (-1:ℝ)..1,
      (proj (fun d j => r * dir3 a w d j) 3 0 d) ^ 2 = if d = 0 then 8 / 15 else 1 / 15 := fun d hd => by
    rw [← dir3sq_avg d hd]
    exact congrArg _ (intervalIntegral.integral_congr fun a _ => intervalIntegral.integral_congr fun w hw =>
      proj_dir3_sq _ 0 hr (by rwa [Set.uIcc_of_le (by norm_num)] at hw) (fun _ => rfl) d hd)
  exact ⟨h 0 (by norm_num), h 1 (by norm_num), h 2 (by norm_num)⟩

/-- the squared projector components add up to the axis-0 component: `Σ_d p_d² = 1 − k_0²/|k|² = p_0`
    (so the shares add up to `E sin²` of the polar angle: 1/2 in 2-D, 2/3 in 3-D) -/
theorem proj_norm_sq (k : Nat → Nat → ℝ) {dim : Nat} (j : Nat) (hdim : 0 < dim) (hk : absSq k dim j ≠ 0) :
    ∑ d ∈ range dim, proj k dim j d ^ 2 = proj k dim j 0 := by
  have horth := projector_orthogonal k j hdim hk
  have h1 : ∀ d ∈ range dim, proj k dim j d ^ 2
      = (e1 d : ℝ) * proj k dim j d - k 0 j / absSq k dim j * (proj k dim j d * k d j) := by
    intro d _
    unfold proj; ring
  rw [sum_congr rfl h1, sum_sub_distrib, ← mul_sum, horth, mul_zero, sub_zero, sum_e1_mul _ hdim]

/-- variance for fixed modes: if the amplitudes are square-integrable, uncorrelated and of unit
    second moment, the second moment of `u_d(x) − mean_u·e1_d` is `mean_u² · var/N · Σ_j p_d(k_j)²` at
    every point.  Together with `variance_split_2d/3d` (average of `p_d²` over a uniform direction)
    this is the split `mean_u²·var·(3/8, 1/8)` resp. `(8/15, 1/15, 1/15)`. -/
theorem variance_given_modes {Ω : Type} [MeasurableSpace Ω] (μ : Measure Ω)
    (meanU var : ℝ) (hvar : 0 ≤ var) (k : Nat → Nat → ℝ) {dim d : Nat} (N : Nat) (hd : d < dim)
    (Z1 Z2 : Nat → Ω → ℝ)
    (hL1 : ∀ j < N, MemLp (Z1 j) 2 μ) (hL2 : ∀ j < N, MemLp (Z2 j) 2 μ)
    (h11 : ∀ i < N, ∀ j < N, ∫ ω, Z1 i ω * Z1 j ω ∂μ = if i = j then 1 else 0)
    (h22 : ∀ i < N, ∀ j < N, ∫ ω, Z2 i ω * Z2 j ω ∂μ = if i = j then 1 else 0)
    (h12 : ∀ i < N, ∀ j < N, ∫ ω, Z1 i ω * Z2 j ω ∂μ = 0) (x : Nat → ℝ) :
    ∫ ω, (genField meanU var k (fun j => Z1 j ω) (fun j => Z2 j ω) dim N d x - meanU * e1 d) ^ 2 ∂μ
      = meanU ^ 2 * (var / (N : ℝ)) * ∑ j ∈ range N, proj k dim j d ^ 2 := by
  -- the field minus its mean is a combination of the amplitudes with coefficients `p_d(k_j) cos φ_j`, `p_d(k_j) sin φ_j`
  unfold genField
  simp only [kernelField_eq_sum k _ _ N hd x, add_sub_cancel_left, mul_pow, mul_add, mul_left_comm (proj k dim _ d)]
  rw [integral_const_mul, Real.sq_sqrt (div_nonneg hvar (Nat.cast_nonneg N)),
    integral_sq_sum_two_orthonormal hL1 hL2 h11 h22 h12]
  simp only [mul_pow, ← mul_add, Real.cos_sq_add_sin_sq, mul_one]

/-- the hypotheses of `variance_given_modes` are satisfiable (two independent fair ±1 coins) -/
example (meanU var : ℝ) (hvar : 0 ≤ var) (k : Nat → Nat → ℝ) (x : Nat → ℝ) :
    ∫ ω, (genField meanU var k (fun _ => sgn ω.1) (fun _ => sgn ω.2) 2 1 0 x - meanU * e1 0) ^ 2 ∂coin2
      = meanU ^ 2 * (var / ((1:ℕ):ℝ)) * ∑ j ∈ range 1, proj k 2 j 0 ^ 2 :=
  variance_given_modes coin2 meanU var hvar k (dim := 2) (d := 0) 1 Nat.two_pos
    (fun _ ω => sgn ω.1) (fun _ ω => sgn ω.2) (fun _ _ => MemLp.of_discrete) (fun _ _ => MemLp.of_discrete)
    (fun i hi j hj => by
      rw [Nat.lt_one_iff.mp hi, Nat.lt_one_iff.mp hj, integral_coin2]
      simp [sgn]
      norm_num)
    (fun i hi j hj => by
      rw [Nat.lt_one_iff.mp hi, Nat.lt_one_iff.mp hj, integral_coin2]
      simp [sgn]
      norm_num)
    (fun i hi j hj => by rw [integral_coin2]; simp [sgn]) x

/-! ### random modes: iterated expectation over the amplitudes, then over the modes

Independence of modes and amplitudes is modelled by giving them separate spaces `Ωk`, `Ωz`; the statements are about
the iterated integral `∫ ∫ … ∂μz ∂μk`, no joint law appears. -/

/-- second moment with random modes `K` on their own space `Ωk` and amplitudes on `Ωz`: the expectation over the
    amplitudes, then over the modes, is `mean_u² · var/N · Σ_j E[p_d(K_j)²]` -/
theorem variance_random_modes {Ωk Ωz : Type} [MeasurableSpace Ωk] [MeasurableSpace Ωz]
    (μk : Measure Ωk) (μz : Measure Ωz)
    (meanU var : ℝ) (hvar : 0 ≤ var) (K : Ωk → Nat → Nat → ℝ) {dim d : Nat} (N : Nat) (hd : d < dim)
    (Z1 Z2 : Nat → Ωz → ℝ)
    (hL1 : ∀ j < N, MemLp (Z1 j) 2 μz) (hL2 : ∀ j < N, MemLp (Z2 j) 2 μz)
    (h11 : ∀ i < N, ∀ j < N, ∫ ω, Z1 i ω * Z1 j ω ∂μz = if i = j then 1 else 0)
    (h22 : ∀ i < N, ∀ j < N, ∫ ω, Z2 i ω * Z2 j ω ∂μz = if i = j then 1 else 0)
    (h12 : ∀ i < N, ∀ j < N, ∫ ω, Z1 i ω * Z2 j ω ∂μz = 0)
    (hint : ∀ j < N, Integrable (fun ωk => proj (K ωk) dim j d ^ 2) μk) (x : Nat → ℝ) :
    ∫ ωk, ∫ ωz, (genField meanU var (K ωk) (fun j => Z1 j ωz) (fun j => Z2 j ωz) dim N d x - meanU * e1 d) ^ 2 ∂μz ∂μk
      = meanU ^ 2 * (var / (N : ℝ)) * ∑ j ∈ range N, ∫ ωk, proj (K ωk) dim j d ^ 2 ∂μk := by
  simp only [variance_given_modes μz meanU var hvar _ N hd Z1 Z2 hL1 hL2 h11 h22 h12 x]
  rw [integral_const_mul, integral_finsetSum _ fun j hj => hint j (mem_range.mp hj)]

/-- mean, random modes: whatever the distribution of the mode set, the iterated expectation (zero-mean amplitudes
    first, then modes) of the field is `mean_u · e1` -/
theorem mean_random_modes {Ωk Ωz : Type} [MeasurableSpace Ωk] [MeasurableSpace Ωz]
    (μk : Measure Ωk) [IsProbabilityMeasure μk] (μz : Measure Ωz) [IsProbabilityMeasure μz]
    (meanU var : ℝ) (K : Ωk → Nat → Nat → ℝ) {dim d : Nat} (N : Nat) (hd : d < dim)
    (Z1 Z2 : Nat → Ωz → ℝ)
    (hi1 : ∀ j < N, Integrable (Z1 j) μz) (hi2 : ∀ j < N, Integrable (Z2 j) μz)
    (hm1 : ∀ j < N, ∫ ω, Z1 j ω ∂μz = 0) (hm2 : ∀ j < N, ∫ ω, Z2 j ω ∂μz = 0) (x : Nat → ℝ) :
    ∫ ωk, ∫ ωz, genField meanU var (K ωk) (fun j => Z1 j ωz) (fun j => Z2 j ωz) dim N d x ∂μz ∂μk
      = meanU * (if d = 0 then 1 else 0) := by
  simp only [mean_given_modes μz meanU var _ N hd Z1 Z2 hi1 hi2 hm1 hm2 x]
  simp

/-- `N` random variables `f_j = g ∘ θ_j` whose parameters `θ_j` all have the law `ν` (the directions of the wave vectors):
    each is integrable, and the mean of their expectations is `∫ g dν` (with the factor `c` that `var/N` brings) -/
theorem mean_integral_of_law {Ω Θ : Type} [MeasurableSpace Ω] [MeasurableSpace Θ] {μ : Measure Ω} {ν : Measure Θ}
    {N : Nat} (hN : 0 < N) {θ : Nat → Ω → Θ} (hθ : ∀ j < N, AEMeasurable (θ j) μ) (hlaw : ∀ j < N, μ.map (θ j) = ν)
    {g : Θ → ℝ} (hg : Integrable g ν) {f : Nat → Ω → ℝ} (hf : ∀ j < N, ∀ ω, f j ω = g (θ j ω)) (c : ℝ) :
    (∀ j < N, Integrable (f j) μ) ∧ c / N * ∑ j ∈ range N, ∫ ω, f j ω ∂μ = c * ∫ t, g t ∂ν := by
  have hg' : ∀ j < N, Integrable g (μ.map (θ j)) := fun j hj => (hlaw j hj).symm ▸ hg
  refine ⟨fun j hj => ?_, ?_⟩
  · rw [funext (hf j hj)]
    exact (integrable_map_measure (hg' j hj).aestronglyMeasurable (hθ j hj)).mp (hg' j hj)
  · rw [sum_congr rfl fun j hj => ?_, sum_const, card_range, nsmul_eq_mul, ← mul_assoc,
      div_mul_cancel₀ _ (Nat.cast_ne_zero.mpr hN.ne')]
    have hj' := mem_range.mp hj
    rw [← hlaw j hj', integral_map (hθ j hj') (hg' j hj').aestronglyMeasurable]
    simp only [hf j hj']

/-- variance split, 2-D, from the law of the direction angles: wave vectors `k_j = R_j · (cos A_j, sin A_j)` with non-zero
    radii and direction angles uniformly distributed on `(0, 2π]`, amplitudes square-integrable,
    uncorrelated with unit second moment and living on their own space: the iterated second moment of
    `u_d(x) − mean_u e1_d` is `mean_u² · var · 3/8` for `d = 0` and `mean_u² · var · 1/8` for `d = 1`. -/
theorem variance_split_2d_total {Ωk Ωz : Type} [MeasurableSpace Ωk] [MeasurableSpace Ωz]
    (μk : Measure Ωk) (μz : Measure Ωz)
    (meanU var : ℝ) (hvar : 0 ≤ var) (N : Nat) (hN : 0 < N)
    (R A : Nat → Ωk → ℝ) (hR : ∀ j < N, ∀ ω, R j ω ≠ 0)
    (hA : ∀ j < N, AEMeasurable (A j) μk)
    (hlaw : ∀ j < N, μk.map (A j) = ENNReal.ofReal (1 / (2 * Real.pi)) • volume.restrict (Set.Ioc 0 (2 * Real.pi)))
    (Z1 Z2 : Nat → Ωz → ℝ)
    (hL1 : ∀ j < N, MemLp (Z1 j) 2 μz) (hL2 : ∀ j < N, MemLp (Z2 j) 2 μz)
    (h11 : ∀ i < N, ∀ j < N, ∫ ω, Z1 i ω * Z1 j ω ∂μz = if i = j then 1 else 0)
    (h22 : ∀ i < N, ∀ j < N, ∫ ω, Z2 i ω * Z2 j ω ∂μz = if i = j then 1 else 0)
    (h12 : ∀ i < N, ∀ j < N, ∫ ω, Z1 i ω * Z2 j ω ∂μz = 0) (x : Nat → ℝ) (d : Nat) (hd : d < 2) :
    ∫ ωk, ∫ ωz, (genField meanU var (fun c j => R j ωk * dir2 (A j ωk) c j) (fun j => Z1 j ωz) (fun j => Z2 j ωz)
        2 N d x - meanU * e1 d) ^ 2 ∂μz ∂μk
      = meanU ^ 2 * var * (if d = 0 then 3 / 8 else 1 / 8) := by
  have hgc : Continuous (dir2sq d) := by
    unfold dir2sq; split <;> fun_prop
  obtain ⟨hint, hsum⟩ := mean_integral_of_law hN hA hlaw
    ((hgc.integrableOn_Icc.mono_set Set.Ioc_subset_Icc_self).smul_measure ENNReal.ofReal_ne_top)
    (fun j hj ω => proj_dir2_sq (fun c j => R j ω * dir2 (A j ω) c j) j (hR j hj ω) (fun _ => rfl) d hd) var
  rw [variance_random_modes μk μz meanU var hvar _ N hd Z1 Z2 hL1 hL2 h11 h22 h12 hint x, mul_assoc, hsum, ← mul_assoc,
    integral_smul_measure, ← intervalIntegral.integral_of_le Real.two_pi_pos.le, ENNReal.toReal_ofReal (by positivity), smul_eq_mul,
    dir2sq_avg]

/-- variance split, 3-D, from the law of angle and height: wave vectors `k_j = R_j · (√(1−W_j²) cos A_j, √(1−W_j²) sin A_j, W_j)`
    (the sampler's construction) with non-zero radii and `(A_j, W_j)` uniform on `(0,2π] × (−1,1]`,
    amplitudes as in `variance_given_modes` on their own space: the iterated second moments of the three
    components of `u(x) − mean_u e1` are `mean_u² · var · (8/15, 1/15, 1/15)`. -/
theorem variance_split_3d_total {Ωk Ωz : Type} [MeasurableSpace Ωk] [MeasurableSpace Ωz]
    (μk : Measure Ωk) (μz : Measure Ωz)
    (meanU var : ℝ) (hvar : 0 ≤ var) (N : Nat) (hN : 0 < N)
    (R A W : Nat → Ωk → ℝ) (hR : ∀ j < N, ∀ ω, R j ω ≠ 0) (hW : ∀ j < N, ∀ ω, W j ω ∈ Set.Icc (-1:ℝ) 1)
    (hAW : ∀ j < N, AEMeasurable (fun ω => (A j ω, W j ω)) μk)
    (hlaw : ∀ j < N, μk.map (fun ω => (A j ω, W j ω)) = ENNReal.ofReal (1 / (4 * Real.pi)) •
      ((volume.restrict (Set.Ioc 0 (2 * Real.pi))).prod (volume.restrict (Set.Ioc (-1:ℝ) 1))))
    (Z1 Z2 : Nat → Ωz → ℝ)
    (hL1 : ∀ j < N, MemLp (Z1 j) 2 μz) (hL2 : ∀ j < N, MemLp (Z2 j) 2 μz)
    (h11 : ∀ i < N, ∀ j < N, ∫ ω, Z1 i ω * Z1 j ω ∂μz = if i = j then 1 else 0)
    (h22 : ∀ i < N, ∀ j < N, ∫ ω, Z2 i ω * Z2 j ω ∂μz = if i = j then 1 else 0)
    (h12 : ∀ i < N, ∀ j < N, ∫ ω, Z1 i ω * Z2 j ω ∂μz = 0) (x : Nat → ℝ) (d : Nat) (hd : d < 3) :
    ∫ ωk, ∫ ωz, (genField meanU var (fun c j => R j ωk * dir3 (A j ωk) (W j ωk) c j) (fun j => Z1 j ωz)
        (fun j => Z2 j ωz) 3 N d x - meanU * e1 d) ^ 2 ∂μz ∂μk
      = meanU ^ 2 * var * (if d = 0 then 8 / 15 else 1 / 15) := by
  have hgc : Continuous fun p : ℝ × ℝ => dir3sq d p.1 p.2 := by
    unfold dir3sq
    refine Continuous.if_const _ ?_ (Continuous.if_const _ ?_ ?_) <;> fun_prop
  have hgi : Integrable (fun p : ℝ × ℝ => dir3sq d p.1 p.2)
      ((volume.restrict (Set.Ioc 0 (2 * Real.pi))).prod (volume.restrict (Set.Ioc (-1:ℝ) 1))) := by
    rw [Measure.prod_restrict]
    exact (hgc.continuousOn.integrableOn_compact (isCompact_Icc.prod isCompact_Icc)).mono_set
      (Set.prod_mono Set.Ioc_subset_Icc_self Set.Ioc_subset_Icc_self)
  obtain ⟨hint, hsum⟩ := mean_integral_of_law hN hAW hlaw (hgi.smul_measure ENNReal.ofReal_ne_top)
    (fun j hj ω => proj_dir3_sq (fun c j => R j ω * dir3 (A j ω) (W j ω) c j) j (hR j hj ω) (hW j hj ω) (fun _ => rfl) d hd) var
  rw [variance_random_modes μk μz meanU var hvar _ N hd Z1 Z2 hL1 hL2 h11 h22 h12 hint x, mul_assoc, hsum, ← mul_assoc,
    integral_smul_measure, integral_prod _ hgi, ENNReal.toReal_ofReal (by positivity), smul_eq_mul]
  simp only [← intervalIntegral.integral_of_le (neg_le_self zero_le_one : (-1:ℝ) ≤ 1)]
  rw [← intervalIntegral.integral_of_le Real.two_pi_pos.le, dir3sq_avg d hd]

/-! ### objects reached through histories: the shape invariant

One `IncomprRandMeth` object lives across model replacements (3-D → 2-D and back), in-place model edits, new seeds and
new mode numbers.  `__call__` hands `_cov_sample` (`rows × N`) and the positions (`dim × X`) to the kernel, which takes
`|k|²` over the `rows` rows of the mode array but builds the phase and the projector over the `dim` rows of the
positions.  `GenShape` is a hand-written model of the shapes that `update`, `reset_seed` and the setters leave behind;
it is tied to the code by checking its invariant on the real objects along random histories (`vlib/props/C16.py`),
not by translation. -/

/-- a 3-row mode array (modes sampled for a 3-D model) used for a 2-D field gives a
    field that is not divergence-free, although every wave vector is non-zero in both senses -/
theorem stale_rows_not_divergence_free :
    ∃ (k : Nat → Nat → ℝ) (z1 z2 : Nat → ℝ) (x : Nat → ℝ),
      (∀ j < 1, absSq k 3 j ≠ 0) ∧ (∀ j < 1, absSq k 2 j ≠ 0) ∧
      ∑ d ∈ range 2, deriv (fun t => kernelFieldRows k z1 z2 3 2 1 d (Function.update x d t)) (x d) ≠ 0 := by
  refine ⟨fun d _ => if d = 1 then 0 else 1, fun _ => 0, fun _ => 1, fun _ => 0, ?_, ?_, ?_⟩
  · exact fun j _ => (absSq_ne_zero_iff _ 3 j).2 ⟨0, by decide, by norm_num⟩
  · exact fun j _ => (absSq_ne_zero_iff _ 2 j).2 ⟨0, by decide, by norm_num⟩
  · rw [divergence_rows _ _ _ 3 1 Nat.two_pos]
    unfold divRows phase
    simp only [absSq_real]
    norm_num [sum_range_succ]

/-- shapes held by one `IncomprRandMeth` object -/
structure GenShape where
  /-- `model.dim` of the generator's private model copy -/
  dim : Nat
  /-- `_mode_no` -/
  modeNo : Nat
  /-- number of rows of `_cov_sample` -/
  rows : Nat
  /-- length of `_z_1` and `_z_2` (= number of columns of `_cov_sample`) -/
  nz : Nat
deriving DecidableEq, Repr

/-- the operations that can reach the generator (directly or through `SRF.__call__`, which calls
    `generator.update(srf.model, seed)`) -/
inductive GenOp where
  /-- `update(model, seed)`: `differs` = `self.model != model`, `dim` = `model.dim`,
      `reseed` = a seed was given and is not the present one -/
  | update (differs : Bool) (dim : Nat) (reseed : Bool)
  /-- `generator.seed = s`; `differs` = `s != self._seed` -/
  | setSeed (differs : Bool)
  /-- `generator.mode_no = n` -/
  | setModeNo (n : Nat)
  /-- `generator.reset_seed(…)` -/
  | resetSeed
  /-- `generator.mean_u = v` -/
  | setMeanU
  /-- `generator(pos)` -/
  | call
deriving DecidableEq, Repr

/-- `reset_seed`: amplitudes get `mode_no` entries, `sample_sphere(model.dim, mode_no)` gets `model.dim` rows -/
def GenShape.resample (s : GenShape) : GenShape := { s with rows := s.dim, nz := s.modeNo }

def GenShape.step (s : GenShape) : GenOp → GenShape
  | .update true d _ => GenShape.resample { s with dim := d }
  | .update false _ reseed => if reseed then s.resample else s
  | .setSeed differs => if differs then s.resample else s
  | .setModeNo n => if n ≠ s.modeNo then GenShape.resample { s with modeNo := n } else s
  | .resetSeed => s.resample
  | .setMeanU => s
  | .call => s

/-- a freshly constructed generator -/
def GenShape.init (dim modeNo : Nat) : GenShape := { dim, modeNo, rows := dim, nz := modeNo }

/-- the invariant `__call__` relies on -/
def GenShape.ok (s : GenShape) : Prop := s.rows = s.dim ∧ s.nz = s.modeNo

theorem GenShape.resample_ok (s : GenShape) : s.resample.ok := ⟨rfl, rfl⟩

theorem GenShape.ok_ite {c : Prop} [Decidable c] {s t : GenShape} (hs : s.ok) (ht : t.ok) : (if c then s else t).ok := by
  split
  · exact hs
  · exact ht

/-- every operation keeps the invariant (each branch of `step` returns `s` or ends in `resample`) -/
theorem GenShape.step_ok (s : GenShape) (op : GenOp) (h : s.ok) : (s.step op).ok := by
  cases op with
  | update differs d reseed =>
    cases differs
    · exact ok_ite s.resample_ok h
    · exact resample_ok _
  | setSeed differs => exact ok_ite s.resample_ok h
  | setModeNo n => exact ok_ite (resample_ok _) h
  | resetSeed => exact s.resample_ok
  | setMeanU => exact h
  | call => exact h

/-- shape invariant of the hand model `GenShape`: after every history of operations on one generator object the mode array has `model.dim` rows
    and the amplitude arrays have `mode_no` entries -/
theorem shape_invariant (dim modeNo : Nat) (ops : List GenOp) :
    (ops.foldl GenShape.step (GenShape.init dim modeNo)).ok :=
  List.foldlRecOn ops _ ⟨rfl, rfl⟩ fun s h op _ => s.step_ok op h

/-- a history with a dimension change 3 → 2 → 3, a mode-number change and kept seeds -/
example : [GenOp.call, .update true 2 false, .call, .setModeNo 7, .update true 3 false, .setMeanU, .call].foldl
    GenShape.step (GenShape.init 3 16) = { dim := 3, modeNo := 7, rows := 3, nz := 7 } := by decide

/-- what the invariant excludes: an `update` that keeps the sampled modes when the model is replaced by one of a
    lower dimension (a "cross-section of an isotropic field" shortcut) leaves a 3-row mode array in a 2-D generator -/
example : ¬ GenShape.ok ({ (GenShape.init 3 16) with dim := 2 }) := by
  simp [GenShape.ok, GenShape.init]

/-- `IncomprRandMeth.__call__` for the arrays a generator in shape `s` holds -/
noncomputable def genFieldShape (s : GenShape) (meanU var : ℝ) (k : Nat → Nat → ℝ) (z1 z2 : Nat → ℝ) (d : Nat)
    (x : Nat → ℝ) : ℝ :=
  meanU * e1 d + meanU * Real.sqrt (var / (s.modeNo : ℝ)) * kernelFieldRows k z1 z2 s.rows s.dim s.nz d x

theorem genFieldShape_of_ok {s : GenShape} (h : s.ok) (meanU var : ℝ) (k : Nat → Nat → ℝ) (z1 z2 : Nat → ℝ) (d : Nat)
    (x : Nat → ℝ) :
    genFieldShape s meanU var k z1 z2 d x = genField meanU var k z1 z2 s.dim s.modeNo d x := by
  unfold genFieldShape genField
  rw [h.1, h.2]
  rfl

/-- every field generated along a history is divergence-free: whatever sequence of model replacements (including
    dimension changes), seed and mode-number changes led to the present shapes of `GenShape`, the field `__call__`
    produces from any arrays `k`, `z1`, `z2` read with those shapes has vanishing divergence (non-zero wave vectors).
    This is `shape_invariant` followed by `genField_divergence_free`; the arrays are not part of the modelled state. -/
theorem history_divergence_free (dim0 modeNo0 : Nat) (ops : List GenOp) (meanU var : ℝ) (k : Nat → Nat → ℝ)
    (z1 z2 : Nat → ℝ) (x : Nat → ℝ)
    (hdim : 0 < (ops.foldl GenShape.step (GenShape.init dim0 modeNo0)).dim)
    (hk : ∀ j < (ops.foldl GenShape.step (GenShape.init dim0 modeNo0)).modeNo,
      absSq k (ops.foldl GenShape.step (GenShape.init dim0 modeNo0)).dim j ≠ 0) :
    ∑ d ∈ range (ops.foldl GenShape.step (GenShape.init dim0 modeNo0)).dim,
      deriv (fun t => genFieldShape (ops.foldl GenShape.step (GenShape.init dim0 modeNo0)) meanU var k z1 z2 d
        (Function.update x d t)) (x d) = 0 := by
  have hs := shape_invariant dim0 modeNo0 ops
  simp only [genFieldShape_of_ok hs]
  exact (genField_divergence_free meanU var k z1 z2 _ hdim hk x).2

/-- the hypotheses of `history_divergence_free` are satisfiable after a 3-D → 2-D replacement -/
example : 0 < ([GenOp.update true 2 false].foldl GenShape.step (GenShape.init 3 5)).dim ∧
    ∀ j < ([GenOp.update true 2 false].foldl GenShape.step (GenShape.init 3 5)).modeNo,
      absSq (fun d j => (j : ℝ) + 1 + d) ([GenOp.update true 2 false].foldl GenShape.step (GenShape.init 3 5)).dim j ≠ 0 := by
  refine ⟨by decide, fun j _ => ?_⟩
  rw [absSq_ne_zero_iff]
  exact ⟨0, by decide, by positivity⟩

end GSV.Props.C16
