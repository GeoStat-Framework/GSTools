/-
  Law-free specifications of the generated variogram kernels (variogram/estimator.pyx).
  Each output cell equals the kernel's own loop nest specialised to that cell with scalar
  accumulators — for every admissible schedule of the `prange` loops and any carrier `α`.
-/
import GSV.Gen.Estimator
import GSV.Lemmas.Ctl
namespace GSV.Props
open GSV GSV.Transc GSV.Estimator

set_option linter.unusedSectionVars false
variable {α : Type} [Arith α] [Transc α] [DecidableLT α] [DecidableLE α]

def normMatheron (v : α) (c : Int) : α := v / (((2:Nat):α) * ((max c (1:Int) : Int) : α))

def normCressie (v : α) (c : Int) : α :=
  ((0.5:α) * npow (((((1:Nat):α) / ((max c (1:Int) : Int) : α)) * v)) 4) /
    (((0.457:α) + ((0.494:α) / ((max c (1:Int) : Int) : α))) + ((0.045:α) / (((max c (1:Int)) ^ 2 : Int) : α)))

theorem normalization_matheron_spec (v : Nat → α) (n : Nat) (c : Nat → Int) (n' : Nat) (i : Nat) :
    normalization_matheron v n c n' i = if i < n then normMatheron (v i) (c i) else v i :=
  (forRange_owned (fun (s : normalization_matheron.St α) => s.variogram) (fun i x => normMatheron x (c i)) _
    (fun _ _ _ hk => upd_other _ _ hk) (fun _ _ => upd_same _ _ _) 0 n _ i).trans (by simp only [Nat.zero_le, true_and])

theorem normalization_cressie_spec (v : Nat → α) (n : Nat) (c : Nat → Int) (n' : Nat) (i : Nat) :
    normalization_cressie v n c n' i = if i < n then normCressie (v i) (c i) else v i :=
  (forRange_owned (fun (s : normalization_cressie.St α) => s.variogram) (fun i x => normCressie x (c i)) _
    (fun _ _ _ hk => upd_other _ _ hk) (fun _ _ => upd_same _ _ _) 0 n _ i).trans (by simp only [Nat.zero_le, true_and])

/-- the per-cell normalisation selected by the estimator letter -/
def normOf (et : String) (v : α) (c : Int) : α := if (et == "m") = true then normMatheron v c else normCressie v c

theorem choose_normalization_spec (et : String) (v : Nat → α) (n : Nat) (c : Nat → Int) (n' : Nat) (i : Nat) :
    choose_estimator_normalization et v n c n' i = if i < n then normOf et (v i) (c i) else v i := by
  unfold choose_estimator_normalization normOf
  split
  · rw [normalization_matheron_spec]
  · rw [normalization_cressie_spec]

def normOfVecRow (et : String) (v : Nat → α) (n : Nat) (c : Nat → Int) (i : Nat) : α :=
  if i < n then normOf et (v i) (c i) else v i

theorem normalization_matheron_vec_spec (v : Nat → Nat → α) (nd n : Nat) (c : Nat → Nat → Int) (c0 c1 : Nat) (d : Nat) :
    normalization_matheron_vec v nd n c c0 c1 d = if d < nd then normalization_matheron (v d) n (c d) c1 else v d :=
  (forRange_owned (fun (s : normalization_matheron_vec.St α) => s.variogram)
    (fun d row => normalization_matheron row n (c d) c1) _ (fun _ _ _ hk => if_neg hk) (fun _ _ => if_pos rfl) 0 nd _ d).trans
    (by simp only [Nat.zero_le, true_and])

theorem normalization_cressie_vec_spec (v : Nat → Nat → α) (nd n : Nat) (c : Nat → Nat → Int) (c0 c1 : Nat) (d : Nat) :
    normalization_cressie_vec v nd n c c0 c1 d = if d < nd then normalization_cressie (v d) n (c d) c1 else v d :=
  (forRange_owned (fun (s : normalization_cressie_vec.St α) => s.variogram)
    (fun d row => normalization_cressie row n (c d) c1) _ (fun _ _ _ hk => if_neg hk) (fun _ _ => if_pos rfl) 0 nd _ d).trans
    (by simp only [Nat.zero_le, true_and])

/-- the 2-D normalisations apply the chosen 1-D normalisation to each of the `nd` rows -/
theorem choose_normalization_vec_spec (et : String) (v : Nat → Nat → α) (nd n : Nat) (c : Nat → Nat → Int) (c0 c1 : Nat) (d i : Nat) :
    choose_estimator_normalization_vec et v nd n c c0 c1 d i =
      if i < n then (if d < nd then normOf et (v d i) (c d i) else v d i) else v d i := by
  have row : choose_estimator_normalization_vec et v nd n c c0 c1 d =
      if d < nd then choose_estimator_normalization et (v d) n (c d) c1 else v d := by
    unfold choose_estimator_normalization_vec choose_estimator_normalization
    split
    · exact normalization_matheron_vec_spec ..
    · exact normalization_cressie_vec_spec ..
  rw [row]
  split
  · exact choose_normalization_spec ..
  · exact (ite_self _).symm

/-- the last step of the point-list kernels: cell `i` of the sums is replaced by its normalisation `N`, which is `G` of
    the accumulated sum and count on the `n` owned cells and the sum itself elsewhere -/
theorem normalized_cell (G : α → Int → α) {N vi : α} {ci : Int} {n i : Nat} {x z : α × Int}
    (h : (vi, ci) = if i < n then x else z) (hN : N = if i < n then G vi ci else vi) :
    (N, ci) = if i < n then (G x.1 x.2, x.2) else z := by
  have hv : vi = _ := congrArg Prod.fst h
  have hc : ci = _ := congrArg Prod.snd h
  rw [hN, hv, hc]
  split <;> rfl

theorem ite_keep {σ τ : Type} (π : σ → τ) {c : Prop} [Decidable c] {a b : σ} {z : τ} (ha : π a = z) (hb : π b = z) :
    π (if c then a else b) = z := by
  split <;> assumption

theorem ite_proj {σ τ : Type} (π : σ → τ) {c : Prop} [Decidable c] {a b : σ} {a' b' : τ} (ha : π a = a') (hb : π b = b') :
    π (if c then a else b) = if c then a' else b' := by
  split <;> assumption

def unstructured.cell (s : unstructured.St α) (i : Nat) : α × Int := (s.variogram i, s.counts i)

/-- what the fields contribute for the point pair `(j, k)`: (sum, count) accumulated over the fields -/
def pairAcc (f : Nat → Nat → α) (nf : Nat) (est : α → α) (j k : Nat) (acc : α × Int) : α × Int :=
  forRange 0 nf acc fun m acc =>
    if ¬ (isnan (f m k) = true ∨ isnan (f m j) = true) then (acc.1 + est (f m k - f m j), acc.2 + (1:Int)) else acc

/-- the loop nest of `unstructured` specialised to bin `i` -/
def binCell (f : Nat → Nat → α) (nf : Nat) (est : α → α) (dist : Nat → Nat → α) (bins : Nat → α)
    (np i : Nat) (acc : α × Int) : α × Int :=
  forRange 0 (np - 1) acc fun j acc =>
    forRange (j + 1) np acc fun k acc =>
      if dist j k < bins i ∨ dist j k ≥ bins (i + 1) then acc else pairAcc f nf est j k acc

/-- the distance function selected by the distance letter -/
def distOf (dt : String) (dim : Nat) (pos : Nat → Nat → α) (p0 p1 : Nat) (j k : Nat) : α :=
  if (dt == "e") = true then dist_euclid dim pos p0 p1 j k else dist_haversine dim pos p0 p1 j k

/-- the shape shared by the point-list kernels: a `prange` over the bins whose body runs over all point pairs `j < k`.
    If the work for one pair in bin `i` changes only cell `i` of the observed array, and that cell by `g i j k`, then
    after the loop — in any admissible order — cell `i` holds the pair loops run on that cell alone. -/
theorem parRange_pairs_owned {σ β : Type} (get : σ → Nat → β) (g : Nat → Nat → Nat → β → β)
    {step : Nat → Nat → Nat → σ → σ}
    (hother : ∀ i j k s i', i' ≠ i → get (step i j k s) i' = get s i')
    (hown : ∀ i j k s, get (step i j k s) i = g i j k (get s i))
    (sched : Sched) (hs : sched.Admissible) {nb np : Nat} {st : σ} (i : Nat) :
    get (parRange sched 0 nb st fun i s => forRange 0 (np - 1) s fun j s => forRange (j + 1) np s (step i j)) i =
      if i < nb then forRange 0 (np - 1) (get st i) fun j acc => forRange (j + 1) np acc (g i j) else get st i := by
  refine (parRange_owned get (fun i acc => forRange 0 (np - 1) acc fun j acc => forRange (j + 1) np acc (g i j)) _
    ?_ ?_ sched hs 0 nb st i).trans (by simp only [Nat.zero_le, true_and])
  · intro i s i' hi'
    exact forRange_keep (get · i') _ (fun j s =>
      forRange_keep (get · i') _ (fun k s => hother i j k s i' hi') _ _ _) _ _ _
  · intro i s
    exact forRange_proj (get · i) _ _ (fun j s =>
      forRange_proj (get · i) _ _ (fun k s => hown i j k s) _ _ _) _ _ _

theorem unstructured_spec (sched : Sched) (hs : sched.Admissible)
    (f : Nat → Nat → α) (nf f1 : Nat) (bins : Nat → α) (nb : Nat) (pos : Nat → Nat → α) (dim np : Nat)
    (et dt : String) (i : Nat) :
    ((unstructured sched f nf f1 bins nb pos dim np et dt).1 i, (unstructured sched f nf f1 bins nb pos dim np et dt).2 i) =
      if i < nb - 1 then
        let c := binCell f nf (choose_estimator_func et) (distOf dt dim pos dim np) bins np i (((0:Nat):α), (0:Int))
        (normOf et c.1 c.2, c.2)
      else (((0:Nat):α), (0:Int)) := by
  have hD : distOf dt dim pos dim np = (if (dt == "e") = true then dist_euclid else dist_haversine) dim pos dim np := by
    funext j k; unfold distOf; split <;> rfl
  rw [hD]
  unfold unstructured
  dsimp only
  -- the kernel uses the selected distance only as a function of the pair
  generalize (if (dt == "e") = true then dist_euclid else dist_haversine) dim pos dim np = D
  refine normalized_cell (normOf et) (parRange_pairs_owned unstructured.cell
    (fun i j k acc => if D j k < bins i ∨ D j k ≥ bins (i + 1) then acc else pairAcc f nf (choose_estimator_func et) j k acc)
    ?_ ?_ sched hs i) (choose_normalization_spec ..)
  · intro i j k s i' hi'
    refine ite_keep (unstructured.cell · i') rfl ?_
    refine forRange_keep (unstructured.cell · i') _ (fun m s => ?_) _ _ _
    exact ite_keep (unstructured.cell · i') (Prod.ext (upd_other _ _ hi') (upd_other _ _ hi')) rfl
  · intro i j k s
    refine ite_proj (unstructured.cell · i) rfl ?_
    refine forRange_proj (unstructured.cell · i) _ _ (fun m s => ?_) _ _ _
    exact ite_proj (unstructured.cell · i) (Prod.ext (upd_same _ _ _) (upd_same _ _ _)) rfl

/-- the shape shared by the along-axis kernels: sequential loops over the cells `(i, j)` and inside them a `prange` over
    the lags `k = 1 … K - i - 1`, each lag owning cell `k`; no iteration owns a lag beyond the last one -/
theorem grid_parRange_owned {σ β : Type} (get : σ → Nat → β) (g : Nat → Nat → Nat → β → β)
    {step : Nat → Nat → Nat → σ → σ}
    (hother : ∀ i j k s k', k' ≠ k → get (step i j k s) k' = get s k')
    (hown : ∀ i j k s, get (step i j k s) k = g i j k (get s k))
    (sched : Sched) (hs : sched.Admissible) {n0 n1 K : Nat} {st : σ} (k : Nat) :
    get (forRange 0 n0 st fun i s => forRange 0 n1 s fun j s => parRange sched 1 (K - i) s (step i j)) k =
      if k < K then forRange 0 n0 (get st k) fun i acc => forRange 0 n1 acc fun j acc =>
        if 1 ≤ k ∧ k < K - i then g i j k acc else acc
      else get st k := by
  have h := fun i j s => parRange_owned get (g i j) _ (hother i j) (hown i j) sched hs 1 (K - i) s k
  split
  · exact forRange_proj (get · k) _ _ (fun i _ => forRange_proj (get · k) _ _ (h i) _ _ _) _ _ _
  · have hk : ∀ i, ¬ (1 ≤ k ∧ k < K - i) := fun i h' => ‹¬ k < K› (Nat.lt_of_lt_of_le h'.2 (K.sub_le i))
    exact forRange_keep (get · k) _ (fun i _ =>
      forRange_keep (get · k) _ (fun j s => (h i j s).trans (if_neg (hk i))) _ _ _) _ _ _

/-- the last step of the along-axis kernels: the value half of `normalized_cell` -/
theorem lag_normalized {et : String} {v : Nat → α} {c : Nat → Int} {K k : Nat} {x : α × Int}
    (h : (v k, c k) = if k < K then x else (((0:Nat):α), (0:Int))) :
    choose_estimator_normalization et v K c K k = if k < K then normOf et x.1 x.2 else ((0:Nat):α) :=
  (congrArg Prod.fst (normalized_cell (normOf et) h (choose_normalization_spec ..))).trans
    (apply_ite Prod.fst _ _ _)

/-- the loop nest of `structured` specialised to lag `k`.  `n0 - 1 + 1` is the kernel's `k_max = i_max + 1` with
    `i_max = n0 - 1` as generated (it is `n0` unless `n0 = 0`); the specifications of the along-axis kernels keep it. -/
def structCell (f : Nat → Nat → α) (est : α → α) (n0 n1 k : Nat) (acc : α × Int) : α × Int :=
  forRange 0 (n0 - 1) acc fun i acc =>
    forRange 0 n1 acc fun j acc =>
      if 1 ≤ k ∧ k < n0 - 1 + 1 - i then (acc.1 + est (f i j - f (i + k) j), acc.2 + (1:Int)) else acc

theorem structured_spec (sched : Sched) (hs : sched.Admissible)
    (f : Nat → Nat → α) (n0 n1 : Nat) (et : String) (k : Nat) :
    structured sched f n0 n1 et k =
      if k < n0 - 1 + 1 then
        let c := structCell f (choose_estimator_func et) n0 n1 k (((0:Nat):α), (0:Int))
        normOf et c.1 c.2
      else ((0:Nat):α) := by
  unfold structured
  dsimp only
  exact lag_normalized (grid_parRange_owned (fun (s : structured.St α) k => (s.variogram k, s.counts k))
    (fun i j k acc => (acc.1 + choose_estimator_func et (f i j - f (i + k) j), acc.2 + (1:Int)))
    (fun i j k s k' hk' => Prod.ext (upd_other _ _ hk') (upd_other _ _ hk'))
    (fun i j k s => Prod.ext (upd_same _ _ _) (upd_same _ _ _)) sched hs k)

/-- the loop nest of `ma_structured` specialised to lag `k` -/
def maStructCell (f : Nat → Nat → α) (mask : Nat → Nat → Nat) (est : α → α) (n0 n1 k : Nat) (acc : α × Int) : α × Int :=
  forRange 0 (n0 - 1) acc fun i acc =>
    forRange 0 n1 acc fun j acc =>
      if 1 ≤ k ∧ k < n0 - 1 + 1 - i then
        (if mask i j = 0 ∧ mask (i + k) j = 0 then (acc.1 + est (f i j - f (i + k) j), acc.2 + (1:Int)) else acc)
      else acc

theorem ma_structured_spec (sched : Sched) (hs : sched.Admissible)
    (f : Nat → Nat → α) (n0 n1 : Nat) (mask : Nat → Nat → Nat) (m0 m1 : Nat) (et : String) (k : Nat) :
    ma_structured sched f n0 n1 mask m0 m1 et k =
      if k < n0 - 1 + 1 then
        let c := maStructCell f mask (choose_estimator_func et) n0 n1 k (((0:Nat):α), (0:Int))
        normOf et c.1 c.2
      else ((0:Nat):α) := by
  unfold ma_structured
  dsimp only
  refine lag_normalized (grid_parRange_owned (fun (s : ma_structured.St α) k => (s.variogram k, s.counts k))
    (fun i j k acc => if mask i j = 0 ∧ mask (i + k) j = 0 then
      (acc.1 + choose_estimator_func et (f i j - f (i + k) j), acc.2 + (1:Int)) else acc)
    (fun i j k s k' hk' => ?_) (fun i j k s => ?_) sched hs k)
  · split
    · exact Prod.ext (upd_other _ _ hk') (upd_other _ _ hk')
    · rfl
  · split
    · exact Prod.ext (upd_same _ _ _) (upd_same _ _ _)
    · rfl

/-- the direction test of the kernel for the pair `(j, k)` at distance `ds` and direction `d` -/
def dirOK (dim : Nat) (pos : Nat → Nat → α) (np : Nat) (direction : Nat → Nat → α) (nd dc : Nat)
    (tol bw : α) (ds : α) (j k d : Nat) : Prop :=
  dir_test dim pos dim np ds direction nd dc tol bw k j d = true

instance (dim : Nat) (pos : Nat → Nat → α) (np : Nat) (direction : Nat → Nat → α) (nd dc : Nat)
    (tol bw : α) (ds : α) (j k d : Nat) : Decidable (dirOK dim pos np direction nd dc tol bw ds j k d) := by
  unfold dirOK; infer_instance

/-- what the pair `(j, k)` contributes to cell `(d, i)` of `directional`.
    With `sep` (separated directions) a pair is credited to the *first* listed direction that accepts it. -/
def dirPair (f : Nat → Nat → α) (nf : Nat) (est : α → α) (dim : Nat) (pos : Nat → Nat → α) (np : Nat)
    (bins : Nat → α) (direction : Nat → Nat → α) (nd dc : Nat) (tol bw : α) (sep : Bool)
    (d i j k : Nat) (acc : α × Int) : α × Int :=
  if dist_euclid dim pos dim np j k < bins i ∨ dist_euclid dim pos dim np j k ≥ bins (i + 1) then acc else
    if d < nd ∧ dirOK dim pos np direction nd dc tol bw (dist_euclid dim pos dim np j k) j k d ∧
        (sep = true → ∀ d', d' < d → ¬ dirOK dim pos np direction nd dc tol bw (dist_euclid dim pos dim np j k) j k d')
    then pairAcc f nf est j k acc else acc

/-- the loop nest of `directional` specialised to direction `d` and bin `i` -/
def dirCell (f : Nat → Nat → α) (nf : Nat) (est : α → α) (dim : Nat) (pos : Nat → Nat → α) (np : Nat)
    (bins : Nat → α) (direction : Nat → Nat → α) (nd dc : Nat) (tol bw : α) (sep : Bool)
    (d i : Nat) (acc : α × Int) : α × Int :=
  forRange 0 (np - 1) acc fun j acc =>
    forRange (j + 1) np acc fun k acc => dirPair f nf est dim pos np bins direction nd dc tol bw sep d i j k acc

def directional.cell (s : directional.St α) (d i : Nat) : α × Int := (s.variogram d i, s.counts d i)

theorem directional_spec (sched : Sched) (hs : sched.Admissible)
    (f : Nat → Nat → α) (nf f1 : Nat) (bins : Nat → α) (nb : Nat) (pos : Nat → Nat → α) (dim np : Nat)
    (direction : Nat → Nat → α) (nd dc : Nat) (tol bw : α) (sep : Bool) (et : String) (d i : Nat) :
    ((directional sched f nf f1 bins nb pos dim np direction nd dc tol bw sep et).1 d i,
     (directional sched f nf f1 bins nb pos dim np direction nd dc tol bw sep et).2 d i) =
      if i < nb - 1 then
        let c := dirCell f nf (choose_estimator_func et) dim pos np bins direction nd dc tol bw sep d i (((0:Nat):α), (0:Int))
        ((if d < nd then normOf et c.1 c.2 else c.1), c.2)
      else (((0:Nat):α), (0:Int)) := by
  unfold directional
  dsimp only
  refine normalized_cell (fun v c => if d < nd then normOf et v c else v)
    (parRange_pairs_owned (fun (s : directional.St α) i => directional.cell s d i)
      (fun i => dirPair f nf (choose_estimator_func et) dim pos np bins direction nd dc tol bw sep d i) ?_ ?_
      sched hs i) (choose_normalization_vec_spec ..)
  · intro i j k s i' hi'
    refine ite_keep (directional.cell · d i') rfl ?_
    refine forRangeBrk_keep (directional.cell · d i') _ (fun d' s => ?_) _ _ _
    refine ite_keep (fun sb : directional.St α × Bool => directional.cell sb.1 d i') rfl ?_
    refine forRange_keep (directional.cell · d i') _ (fun m s => ?_) _ _ _
    exact ite_keep (directional.cell · d i') (Prod.ext (if_neg fun h => hi' h.2) (if_neg fun h => hi' h.2)) rfl
  · intro i j k s
    refine ite_proj (directional.cell · d i) rfl ?_
    -- the loop over the directions credits the first accepting one (`sep`) or every accepting one
    refine forRangeBrk_first_hit (fun (s : directional.St α) d => directional.cell s d i)
      (fun (s : directional.St α) d => dirOK dim pos np direction nd dc tol bw s.dist j k d) sep _
      (fun d acc => pairAcc f nf (choose_estimator_func et) j k acc)
      (fun d' s k' hk' => ?_) (fun d' s => ?_) (fun d' s d'' => ?_) nd _ d
    · refine forRange_keep (directional.cell · k' i) _ (fun m s => ?_) _ _ _
      exact ite_keep (directional.cell · k' i) (Prod.ext (if_neg fun h => hk' h.1) (if_neg fun h => hk' h.1)) rfl
    · refine forRange_proj (directional.cell · d' i) _ _ (fun m s => ?_) _ _ _
      exact ite_proj (directional.cell · d' i) (Prod.ext (if_pos ⟨rfl, rfl⟩) (if_pos ⟨rfl, rfl⟩)) rfl
    · -- the fields' loop leaves the distance the direction tests read alone
      rw [forRange_keep (fun (s : directional.St α) => s.dist) _ (fun m s => by split <;> rfl) _ _ _]

end GSV.Props
