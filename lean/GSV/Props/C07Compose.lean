/-
  C07 — end-to-end composition: the conditioning formula of `CondSRF.__call__` (Model/Cond.lean) fed with the
  output of the kriging call it actually makes (`krigeCall`: chunk loop around the generated kernel, on the
  assembled system of Model/Krige.lean, `post_process=False`, `return_var=True`), followed by the field
  post-processing (`postCell`: mean, normaliser, trend).  At a target on a conditioning point whose kriging-matrix
  diagonal reaches the sill the conditioned value IS the datum; that hypothesis is necessary (positive nugget, zero
  measurement error, non-exact mode: `datum + nugget noise`); far from the data simple kriging returns the
  post-processed unconditional value.
-/
import GSV.Props.C06
import GSV.Props.C07
namespace GSV.Props.C07
open GSV GSV.Props GSV.Props.C05 GSV.Model.Krige GSV.Model.Cond Finset Matrix

/-- **the kriging call at a datum**: both outputs of the call `CondSRF` makes (`krigeCall`, any chunk size,
    any admissible schedule), at a target `p` that coincides with conditioning point `j`, when `M` inverts the
    assembled matrix: raw estimate = prepared datum, variance = `max(sill − K_jj, 0)`. -/
theorem krigeCall_at_data (sched : Sched) (hs : sched.Admissible)
    (L : Layout) (C : Nat → Nat → ℝ) (err : Nat → ℝ) (F E : Nat → Nat → ℝ)
    (c f e : Nat → Nat → ℝ) (M : Nat → Nat → ℝ)
    (hMK : toMat L.size M * toMat L.size (assembleK L C err F E) = 1)
    (valn mean : Nat → ℝ) (j p : Nat) (hj : j < L.n)
    (hc : ∀ i, i < L.n → c i p = if i = j then C i j + err i else C i j)
    (hf : ∀ r, f r p = F r j) (he : ∀ r, e r p = E r j) (sill : ℝ)
    (pnt cs : Nat) (hcs : 0 < cs) (hp : p < pnt) :
    (krigeCall sched L M (assembleRHS L false c f e) (krigeCond L valn mean) sill pnt cs).1 p = valn j - mean j ∧
    (krigeCall sched L M (assembleRHS L false c f e) (krigeCond L valn mean) sill pnt cs).2 p =
      clipVar sill (C j j + err j) := by
  rw [krigeCall_field sched hs _ _ _ _ _ _ _ _ hcs hp, krigeCall_var sched hs _ _ _ _ _ _ _ _ hcs hp]
  exact C06.exact_at_data_model L C err F E c f e M hMK valn mean j p hj hc hf he sill

/-- before `post_field`: the conditioned raw value is the prepared datum (setting and hypotheses as explained at
    `cond_honours_data`, which adds mean, normaliser and trend) -/
theorem cond_honours_data_raw (sched : Sched) (hs : sched.Admissible)
    (L : Layout) (C : Nat → Nat → ℝ) (err : Nat → ℝ) (F E : Nat → Nat → ℝ)
    (c f e : Nat → Nat → ℝ) (M : Nat → Nat → ℝ)
    (hMK : toMat L.size M * toMat L.size (assembleK L C err F E) = 1)
    (valn mean : Nat → ℝ) (j p : Nat) (hj : j < L.n)
    (hc : ∀ i, i < L.n → c i p = if i = j then C i j + err i else C i j)
    (hf : ∀ r, f r p = F r j) (he : ∀ r, e r p = E r j)
    (sill : ℝ) (hsill : sill ≤ C j j + err j)
    (pnt cs : Nat) (hcs : 0 < cs) (hp : p < pnt)
    (raw var nugget noise : ℝ) :
    condValue
        ((krigeCall sched L M (assembleRHS L false c f e) (krigeCond L valn mean) sill pnt cs).1 p)
        ((krigeCall sched L M (assembleRHS L false c f e) (krigeCond L valn mean) sill pnt cs).2 p)
        raw var nugget noise = valn j - mean j := by
  obtain ⟨hf1, hv1⟩ := krigeCall_at_data sched hs L C err F E c f e M hMK valn mean
    j p hj hc hf he sill pnt cs hcs hp
  rw [hf1, hv1, clipVar_of_ge sill _ hsill, honours_data]

/-- **C07 end to end: the conditioned field honours the data.**
    Setting: any kriging variant (`L`: with/without unbiasedness row, functional and external drifts), `M` an
    inverse of the assembled kriging matrix, target `p` coinciding with conditioning point `j` (`hc`, `hf`, `he`:
    the right-hand side entries at `p` are the matrix entries of column `j` — zero measurement error, or `exact`
    mode with the nugget-aware covariance), the diagonal entry `K_jj = C j j + err j` reaches the sill
    (`hsill`: nugget-free model with zero error, `C j j = var = sill`; or exact mode, `C j j + err j = var + nugget`),
    the normaliser round-trips on the detrended datum (`hnorm`, C18).
    Then for EVERY unconditional field value `raw`, EVERY nugget noise value (i.e. every seed), every `var`,
    `nugget`, every chunk size and admissible schedule, the value `CondSRF.__call__` returns at `p`,
    `post_field(rawkrige + var_scale·rawfield + nug_scale·noise)`, is the conditioning value `val j`. -/
theorem cond_honours_data (sched : Sched) (hs : sched.Admissible)
    (L : Layout) (C : Nat → Nat → ℝ) (err : Nat → ℝ) (F E : Nat → Nat → ℝ)
    (c f e : Nat → Nat → ℝ) (M : Nat → Nat → ℝ)
    (hMK : toMat L.size M * toMat L.size (assembleK L C err F E) = 1)
    (norm denorm : ℝ → ℝ) (val trend mean : Nat → ℝ) (j p : Nat) (hj : j < L.n)
    (hc : ∀ i, i < L.n → c i p = if i = j then C i j + err i else C i j)
    (hf : ∀ r, f r p = F r j) (he : ∀ r, e r p = E r j)
    (sill : ℝ) (hsill : sill ≤ C j j + err j)
    (hnorm : denorm (norm (val j - trend j)) = val j - trend j)
    (pnt cs : Nat) (hcs : 0 < cs) (hp : p < pnt)
    (raw var nugget noise : ℝ) :
    postCell denorm (mean j) (trend j)
      (condValue
        ((krigeCall sched L M (assembleRHS L false c f e) (prepCond L norm val trend mean) sill pnt cs).1 p)
        ((krigeCall sched L M (assembleRHS L false c f e) (prepCond L norm val trend mean) sill pnt cs).2 p)
        raw var nugget noise) = val j := by
  rw [prepCond, cond_honours_data_raw sched hs L C err F E c f e M hMK (fun i => norm (val i - trend i)) mean j p hj hc hf
    he sill hsill pnt cs hcs hp]
  exact C06.postCell_prepared norm denorm _ _ _ hnorm

/-- **the diagonal hypothesis is necessary** — positive model nugget, the diagonal entry `K_jj` equal to
    `sill − nugget` (= `var`: measurement error 0 with the plain covariance, `Krige(cond_err=0.0, exact=False)`),
    everything else as in `cond_honours_data_raw`: the conditioned raw value is the prepared datum PLUS the
    full nugget noise of the generator. -/
theorem cond_at_data_nugget_residual (sched : Sched) (hs : sched.Admissible)
    (L : Layout) (C : Nat → Nat → ℝ) (err : Nat → ℝ) (F E : Nat → Nat → ℝ)
    (c f e : Nat → Nat → ℝ) (M : Nat → Nat → ℝ)
    (hMK : toMat L.size M * toMat L.size (assembleK L C err F E) = 1)
    (valn mean : Nat → ℝ) (j p : Nat) (hj : j < L.n)
    (hc : ∀ i, i < L.n → c i p = if i = j then C i j + err i else C i j)
    (hf : ∀ r, f r p = F r j) (he : ∀ r, e r p = E r j)
    (sill nugget : ℝ) (hn : 0 < nugget) (hdiag : C j j + err j = sill - nugget)
    (pnt cs : Nat) (hcs : 0 < cs) (hp : p < pnt)
    (raw var noise : ℝ) :
    condValue
        ((krigeCall sched L M (assembleRHS L false c f e) (krigeCond L valn mean) sill pnt cs).1 p)
        ((krigeCall sched L M (assembleRHS L false c f e) (krigeCond L valn mean) sill pnt cs).2 p)
        raw var nugget noise = valn j - mean j + noise := by
  obtain ⟨hf1, hv1⟩ := krigeCall_at_data sched hs L C err F E c f e M hMK valn mean
    j p hj hc hf he sill pnt cs hcs hp
  have hk : clipVar sill (C j j + err j) = nugget := by
    rw [hdiag, clipVar_of_le _ _ (sub_le_self _ hn.le), sub_sub_cancel]
  rw [hf1, hv1, hk, formula_nugget _ nugget raw var nugget noise hn (le_refl _), sub_self, zero_div, Real.sqrt_zero,
    zero_mul, add_zero]

/-- a configuration in which the conditioned value at a datum is NOT the datum exists (`Krige(Gaussian(var=.5, nugget=.3), …,
    cond_err=0.0)` in a `CondSRF` misses its data by the nugget noise).  The witness: one conditioning point, simple
    kriging, `var = 1/2`, `nugget = 3/10`, zero measurement error, datum `1`, nugget noise `1`; there the conditioned value
    is `2`. -/
theorem not_honours_data_zero_err_nugget :
    ∃ (L : Layout) (C : Nat → Nat → ℝ) (err : Nat → ℝ) (M : Nat → Nat → ℝ) (c : Nat → Nat → ℝ)
      (valn : Nat → ℝ) (var nugget noise : ℝ),
      toMat L.size M * toMat L.size (assembleK L C err (fun _ _ => 0) (fun _ _ => 0)) = 1 ∧
      (∀ i, i < L.n → c i 0 = if i = 0 then C i 0 + err i else C i 0) ∧ err 0 = 0 ∧ 0 < L.n ∧
      condValue
        ((krigeCall id L M (assembleRHS L false c (fun _ _ => 0) (fun _ _ => 0)) (krigeCond L valn (fun _ => 0))
            (var + nugget) 1 1).1 0)
        ((krigeCall id L M (assembleRHS L false c (fun _ _ => 0) (fun _ _ => 0)) (krigeCond L valn (fun _ => 0))
            (var + nugget) 1 1).2 0)
        0 var nugget noise ≠ valn 0 := by
  have hMK : toMat (Layout.size ⟨1, false, 0, 0⟩) (fun _ _ => (2:ℝ)) *
      toMat (Layout.size ⟨1, false, 0, 0⟩) (assembleK ⟨1, false, 0, 0⟩ (fun _ _ => (1/2:ℝ)) (fun _ => 0)
        (fun _ _ => 0) (fun _ _ => 0)) = 1 := by
    show toMat 1 _ * toMat 1 _ = 1
    ext i j
    fin_cases i; fin_cases j
    simp [toMat, assembleK, Matrix.mul_apply]
  have hc : ∀ i, i < 1 → (1/2:ℝ) = if i = 0 then 1/2 + 0 else 1/2 := fun i _ => by rw [add_zero, ite_self]
  refine ⟨⟨1, false, 0, 0⟩, fun _ _ => 1/2, fun _ => 0, fun _ _ => 2, fun _ _ => 1/2, fun _ => 1, 1/2, 3/10, 1,
    hMK, hc, rfl, Nat.one_pos, ?_⟩
  rw [cond_at_data_nugget_residual id sched_id_admissible ⟨1, false, 0, 0⟩ (fun _ _ => (1/2:ℝ)) (fun _ => 0)
    (fun _ _ => 0) (fun _ _ => 0) (fun _ _ => (1/2:ℝ)) (fun _ _ => 0) (fun _ _ => 0) (fun _ _ => (2:ℝ)) hMK
    (fun _ => 1) (fun _ => 0) 0 0 Nat.one_pos hc (fun _ => rfl) (fun _ => rfl) (1/2 + 3/10) (3/10) (by norm_num)
    (by norm_num) 1 1 Nat.one_pos Nat.one_pos 0 (1/2) 1]
  norm_num

/-- **C07 far field, simple kriging, end to end**: layout of simple kriging (no unbiasedness row, no drifts), all
    covariances between the conditioning points and the target `p` vanish (`hc`), `sill = var + nugget`, `var > 0`,
    `nugget ≥ 0`.  Then — for ANY stored matrix `M`, any data, any chunk size and admissible schedule — the raw
    conditioned value is the unconditional field value plus (for a positive nugget) its unscaled nugget noise, so
    the returned value is `post(raw (+ noise))`: `mean + raw (+ noise)` for the identity normaliser and no trend. -/
theorem cond_far_field_simple (sched : Sched) (hs : sched.Admissible)
    (L : Layout) (hunb : L.unb = false) (hnf : L.nf = 0) (hne : L.ne = 0)
    (c f e : Nat → Nat → ℝ) (M : Nat → Nat → ℝ) (cond : Nat → ℝ) (p : Nat)
    (hc : ∀ i, i < L.n → c i p = 0)
    (var nugget : ℝ) (hv : 0 < var) (hn : 0 ≤ nugget)
    (pnt cs : Nat) (hcs : 0 < cs) (hp : p < pnt) (raw noise : ℝ) :
    condValue
        ((krigeCall sched L M (assembleRHS L false c f e) cond (var + nugget) pnt cs).1 p)
        ((krigeCall sched L M (assembleRHS L false c f e) cond (var + nugget) pnt cs).2 p)
        raw var nugget noise = raw + (if 0 < nugget then noise else 0) := by
  rw [krigeCall_field sched hs _ _ _ _ _ _ _ _ hcs hp, krigeCall_var sched hs _ _ _ _ _ _ _ _ hcs hp]
  have hsz := size_of_simple hunb hnf hne
  have h0 : ∀ i, i < L.size → assembleRHS L false c f e i p = 0 := fun i hi =>
    (assembleRHS_data (L := L) (hsz ▸ hi)).trans (hc i (hsz ▸ hi))
  obtain ⟨h1, h2⟩ := cells_of_zero_column M (assembleRHS L false c f e) cond L.size p h0
  rw [h1, h2]
  have hk : clipVar (var + nugget) 0 = var + nugget := by
    rw [clipVar_of_le _ _ (add_nonneg hv.le hn), sub_zero]
  rw [hk]
  exact far_field_simple raw var nugget noise hv hn

/-- `cond_far_field_simple` after `post_field`: identity normaliser and zero trend give `mean + raw (+ noise)` -/
theorem cond_far_field_simple_post (sched : Sched) (hs : sched.Admissible)
    (L : Layout) (hunb : L.unb = false) (hnf : L.nf = 0) (hne : L.ne = 0)
    (c f e : Nat → Nat → ℝ) (M : Nat → Nat → ℝ) (cond : Nat → ℝ) (p : Nat)
    (hc : ∀ i, i < L.n → c i p = 0)
    (var nugget : ℝ) (hv : 0 < var) (hn : 0 ≤ nugget)
    (pnt cs : Nat) (hcs : 0 < cs) (hp : p < pnt) (raw noise meanT : ℝ) :
    postCell id meanT 0
      (condValue
        ((krigeCall sched L M (assembleRHS L false c f e) cond (var + nugget) pnt cs).1 p)
        ((krigeCall sched L M (assembleRHS L false c f e) cond (var + nugget) pnt cs).2 p)
        raw var nugget noise) = meanT + raw + (if 0 < nugget then noise else 0) := by
  rw [cond_far_field_simple sched hs L hunb hnf hne c f e M cond p hc var nugget hv hn pnt cs hcs hp]
  rw [postCell, id_eq, add_zero]
  ring

/-- ordinary kriging with two data (3×3 system with unbiasedness row), covariances `C = [[1, 1/2], [1/2, 1]]`,
    zero measurement error, an explicit inverse `M`; target = conditioning point 1; sill = 1 = `C 1 1`.
    Instance of `cond_honours_data`: whatever `raw`/`noise`, the conditioned value is `val 1 = 7`. -/
example (raw noise : ℝ) :
    let L : Layout := ⟨2, true, 0, 0⟩
    let C : Nat → Nat → ℝ := fun i j => if i = j then 1 else 1/2
    let M : Nat → Nat → ℝ := fun i j =>
      if i < 2 ∧ j < 2 then (if i = j then 1 else -1) else if i = 2 ∧ j = 2 then -3/4 else 1/2
    postCell id 0 0
      (condValue
        ((krigeCall id L M (assembleRHS L false (fun i _ => C i 1) (fun _ _ => 0) (fun _ _ => 0))
            (prepCond L id (fun i => if i = 1 then 7 else 3) (fun _ => 0) (fun _ => 0)) 1 1 1).1 0)
        ((krigeCall id L M (assembleRHS L false (fun i _ => C i 1) (fun _ _ => 0) (fun _ _ => 0))
            (prepCond L id (fun i => if i = 1 then 7 else 3) (fun _ => 0) (fun _ => 0)) 1 1 1).2 0)
        raw 1 0 noise) = 7 := by
  have hM : toMat 3 (fun i j => if i < 2 ∧ j < 2 then (if i = j then 1 else -1) else if i = 2 ∧ j = 2 then -3/4 else 1/2) =
      !![1, -1, 1/2; -1, 1, 1/2; 1/2, 1/2, -3/4] := (etaExpand_eq _).symm
  have hK : toMat 3 (assembleK ⟨2, true, 0, 0⟩ (fun i j => if i = j then 1 else 1/2) (fun _ => 0) (fun _ _ => 0)
      (fun _ _ => 0)) = !![1 + 0, 1/2, Nat.cast 1; 1/2, 1 + 0, Nat.cast 1; Nat.cast 1, Nat.cast 1, Nat.cast 0] :=
    (etaExpand_eq _).symm
  intro L C M
  have hMK : toMat L.size M * toMat L.size (assembleK L C (fun _ => 0) (fun _ _ => 0) (fun _ _ => 0)) = 1 := by
    show toMat 3 _ * toMat 3 _ = 1
    rw [show toMat 3 M = _ from hM, show toMat 3 (assembleK L C _ _ _) = _ from hK, mul_fin_three, one_fin_three]
    norm_num
  exact cond_honours_data id sched_id_admissible L C (fun _ => 0) (fun _ _ => 0) (fun _ _ => 0)
    (fun i _ => C i 1) (fun _ _ => 0) (fun _ _ => 0) M hMK id id (fun i => if i = 1 then 7 else 3) (fun _ => 0)
    (fun _ => 0) 1 0 (by decide)
    (fun i _ => by rw [add_zero, ite_self])
    (fun _ => rfl) (fun _ => rfl) 1 (by simp [C]) rfl 1 1 (by decide) (by decide) raw 1 0 noise

/-- far field: a simple-kriging layout with two data and a target whose covariances to both vanish -/
example (raw noise : ℝ) (M : Nat → Nat → ℝ) (cond : Nat → ℝ) :
    condValue
        ((krigeCall id ⟨2, false, 0, 0⟩ M (assembleRHS ⟨2, false, 0, 0⟩ false (fun _ _ => 0) (fun _ _ => 0) (fun _ _ => 0))
            cond ((2:ℝ) + 1/4) 1 1).1 0)
        ((krigeCall id ⟨2, false, 0, 0⟩ M (assembleRHS ⟨2, false, 0, 0⟩ false (fun _ _ => 0) (fun _ _ => 0) (fun _ _ => 0))
            cond ((2:ℝ) + 1/4) 1 1).2 0)
        raw 2 (1/4) noise = raw + noise := by
  have := cond_far_field_simple id sched_id_admissible ⟨2, false, 0, 0⟩ rfl rfl rfl (fun _ _ => 0) (fun _ _ => 0)
    (fun _ _ => 0) M cond 0 (fun _ _ => rfl) 2 (1/4) (by norm_num) (by norm_num) 1 1 (by decide) (by decide) raw noise
  rw [this]; norm_num

end GSV.Props.C07
