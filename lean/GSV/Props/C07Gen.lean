/-
  C07 — the UNCONDITIONAL part of a conditioned field after model changes, with and without a seed argument.

  `CondSRF.__call__` begins with `self.generator.update(self.model, seed)`.  The generator owns a private deep copy of the
  model and the random modes drawn for it (Model/Cond.lean: `GenState`, `genUpdate`).  In EVERY history the unconditional
  field of a call is the one of an independent `SRF(model_now, seed in force)`; in protocol-respecting histories the whole
  conditioned field is that of a freshly built object.  Updating the generator only when a seed is passed
  (`GenRule.onSeedOnly`) would not do: see the examples at the end.
-/
import GSV.Props.C07
namespace GSV.Props.C07
open GSV GSV.Model.Cond

/-- the generator's modes were drawn with its seed for its private model copy -/
def GenInv (g : GenState) : Prop := g.modesSeed = g.seed ∧ g.modesModel = g.model

/-- the generator of a freshly built object is consistent -/
theorem genInit_inv (sd m : Nat) : GenInv (genInit sd m) := ⟨rfl, rfl⟩

/-- after `update(model, seed)` the private copy is the model handed in — whatever the seed argument -/
theorem genUpdate_model (g : GenState) (m : Nat) (req : SeedReq) : (genUpdate g m req).model = m := by
  unfold genUpdate
  split
  · next h =>
    cases req with
    | keep => exact h
    | set s => simp only []; split <;> exact h
  · rfl

/-- after `update(model, seed)` the seed is the requested one, or the present one when none was requested -/
theorem genUpdate_seed (g : GenState) (m : Nat) (req : SeedReq) : (genUpdate g m req).seed = seedInForce g req := by
  unfold genUpdate
  split
  · cases req with
    | keep => rfl
    | set s =>
      simp only [seedInForce]
      split
      · next h => exact h.symm
      · rfl
  · rfl

/-- `update` turns a consistent generator into the generator of a freshly built object with the model handed in and the
    seed in force: whatever it does not redraw was already drawn with that seed for that model -/
theorem genUpdate_eq_genInit {g : GenState} {m : Nat} {req : SeedReq} (h : GenInv g) :
    genUpdate g m req = genInit (seedInForce g req) m := by
  obtain ⟨sd, md, ms, mm⟩ := g
  obtain ⟨rfl, rfl⟩ : ms = sd ∧ mm = md := h
  unfold genUpdate
  split
  · next hm =>
    cases hm
    cases req with
    | keep => rfl
    | set s =>
      simp only []
      split
      · next hs => cases hs; rfl
      · rfl
  · rfl

/-- `RandMeth.update(model, seed)` keeps the generator consistent: afterwards its modes are again the ones drawn with its
    seed for its model copy -/
theorem genUpdate_inv (g : GenState) (m : Nat) (req : SeedReq) (h : GenInv g) : GenInv (genUpdate g m req) := by
  rw [genUpdate_eq_genInit h]
  exact genInit_inv _ _

/-- **the unconditional field of a call is the fresh one**: generator consistent before the call (every reachable state),
    any seed request (`keep` = no seed argument), any current model `m` (changed or not, refreshed or not) -/
theorem call_uncond_fresh (g : GenState) (m p : Nat) (req : SeedReq) (h : GenInv g) :
    genTok (genUpdate g m req) p = genFreshTok (seedInForce g req) m p := by
  rw [genUpdate_eq_genInit h]
  rfl

/-- the combined machine is the cache machine plus the generator: every theorem about `step` transfers to `gstep` -/
theorem gstep_core (s : GState) (op : Op) (req : SeedReq) :
    (gstep s op req).1.core = (step s.core op).1 ∧ (gstep s op req).2.1 = (step s.core op).2 := ⟨rfl, rfl⟩

theorem grun_core (l : List (Op × SeedReq)) (s : GState) : (grun s l).core = (run s.core (l.map Prod.fst)).1 := by
  induction l generalizing s with
  | nil => rfl
  | cons o l ih => exact ih _

theorem gstep_genInv (s : GState) (op : Op) (req : SeedReq) (h : GenInv s.gen) : GenInv (gstep s op req).1.gen := by
  cases op with
  | call p? rn st vn kst => exact genUpdate_inv _ _ _ h
  | _ => exact h

theorem grun_genInv (ops : List (Op × SeedReq)) (s : GState) (h : GenInv s.gen) : GenInv (grun s ops).gen := by
  induction ops generalizing s with
  | nil => exact h
  | cons o ops ih => exact ih _ (gstep_genInv s o.1 o.2 h)

/-- a `CondSRF` call reads the model, it never assigns it -/
theorem call_model (s : State) (p? : Option Nat) (rn : Nat) (st : Bool) (vn : Nat) (kst : Bool) :
    (step s (.call p? rn st vn kst)).1.model = s.model := by
  have hm : ∀ p, (setPos s p).model = s.model := fun p => by unfold setPos; split <;> rfl
  unfold step
  rcases call_outcome .bothRef s p? rn st vn kst with ⟨_, e⟩ | ⟨p, r, v, _, _, e⟩ | ⟨p, _, _, e⟩ <;> rw [e]
  · exact hm p
  · exact hm p

theorem gstep_uncond_eq (s : GState) (op : Op) (req : SeedReq) :
    (gstep s op req).2.2 = match (step s.core op).2 with
      | some _ => (step s.core op).1.pos.map (genTok (gstep s op req).1.gen)
      | none => none := rfl

theorem gstep_call_uncond (s : GState) (op : Op) (req : SeedReq) (h : GenInv s.gen) {o : KrigeTok × KrigeTok × Bool} {p : Nat}
    (ho : (step s.core op).2 = some o) (hp : (step s.core op).1.pos = some p) :
    (gstep s op req).2.2 = some (genFreshTok (seedInForce s.gen req) (gstep s op req).1.core.model p) := by
  obtain ⟨p?, rn, st, vn, kst, rfl⟩ := out_some_isCall ho
  rw [gstep_uncond_eq, ho, hp]
  show some (genTok (genUpdate s.gen s.core.model req) p) = some (genFreshTok _ (step s.core (.call p? rn st vn kst)).1.model p)
  rw [call_model, call_uncond_fresh _ _ _ _ h]

/-- every unconditional field of a run is the one of a freshly built object (seed in force, current model, current
    positions) -/
def AllUncondFresh : GState → List (Op × SeedReq) → Prop
  | _, [] => True
  | s, (op, req) :: ops =>
    (∀ t, (gstep s op req).2.2 = some t →
        ∃ p, (gstep s op req).1.core.pos = some p ∧
          t = genFreshTok (seedInForce s.gen req) (gstep s op req).1.core.model p) ∧
    AllUncondFresh (gstep s op req).1 ops

/-- **C07, the unconditional part never goes stale**: in EVERY history of a freshly built object — calls with a new seed,
    the same seed or NO seed, at given or stored positions, model changes in place or by re-assignment with or without the
    refresh, new data, deletions, direct kriging calls, calls that raise — the unconditional field entering a conditioned
    field is the field an independent `SRF(current model, seed in force)` produces at the current positions -/
theorem histories_uncond_fresh (ops : List (Op × SeedReq)) (s : GState) (h : GenInv s.gen) : AllUncondFresh s ops := by
  induction ops generalizing s with
  | nil => trivial
  | cons o ops ih =>
    obtain ⟨op, req⟩ := o
    refine ⟨fun t ht => ?_, ih _ (gstep_genInv s op req h)⟩
    -- a token means an output, hence a call, at positions that are stored afterwards
    cases ho : (step s.core op).2 with
    | none => rw [gstep_uncond_eq, ho] at ht; cases ht
    | some o =>
      cases hp : (step s.core op).1.pos with
      | none => rw [gstep_uncond_eq, ho, hp] at ht; cases ht
      | some p =>
        rw [gstep_call_uncond s op req h ho hp] at ht
        exact ⟨p, hp, (Option.some.inj ht).symm⟩

/-- a seed passed to a call stays in force for the later calls that pass none — also when that call raised -/
theorem seed_kept (s : GState) (p? : Option Nat) (rn : Nat) (st : Bool) (vn : Nat) (kst : Bool) (sd : Nat) :
    seedInForce (gstep s (.call p? rn st vn kst) (.set sd)).1.gen .keep = sd :=
  genUpdate_seed _ _ _

/-- **one call, both parts**: in a synced state with a consistent generator a CondSRF call — with or without a seed, with
    given or stored positions — returns the raw kriging field, the kriging variance AND the unconditional field of a freshly
    built object with the seed in force, i.e. the conditioned field of that object; the state stays synced / consistent -/
theorem gstep_call_fresh (s : GState) (p? : Option Nat) (rn : Nat) (st : Bool) (vn : Nat) (kst : Bool) (req : SeedReq)
    (hl : LinkInv s.core) (hs : Synced s.core) (hg : GenInv s.gen) :
    let r := gstep s (.call p? rn st vn kst) req
    (∀ tr tv b, r.2.1 = some (tr, tv, b) →
        ∃ p, r.1.core.pos = some p ∧ tr = freshTok r.1.core p ∧ tv = freshTok r.1.core p ∧
          r.2.2 = some (genFreshTok (seedInForce s.gen req) r.1.core.model p)) ∧
    LinkInv r.1.core ∧ Synced r.1.core ∧ GenInv r.1.gen := by
  have hc := call_fresh_of_synced s.core p? rn st vn kst hl hs
  refine ⟨fun tr tv b hout => ?_, step_linkInv s.core _ hl, hc.2, gstep_genInv s _ req hg⟩
  obtain ⟨p, hp, h1, h2⟩ := hc.1 tr tv b hout
  exact ⟨p, hp, h1, h2, gstep_call_uncond s _ req hg hout hp⟩

/-- all call outputs of a run — kriging tokens and unconditional token — are the fresh ones -/
def AllCondFresh : GState → List (Op × SeedReq) → Prop
  | _, [] => True
  | s, (op, req) :: ops =>
    (∀ tr tv b, (gstep s op req).2.1 = some (tr, tv, b) →
        ∃ p, (gstep s op req).1.core.pos = some p ∧ tr = freshTok (gstep s op req).1.core p ∧
          tv = freshTok (gstep s op req).1.core p ∧
          (gstep s op req).2.2 = some (genFreshTok (seedInForce s.gen req) (gstep s op req).1.core.model p)) ∧
    AllCondFresh (gstep s op req).1 ops

/-- **C07 for whole conditioned fields**: starting from a synced object with a consistent generator (a freshly built one, or
    any object right after the documented refresh), every history of harmless operations — CondSRF calls with a new seed, the
    same seed or no seed — returns at every call the kriging estimate, kriging variance and unconditional field of a freshly
    built object with the seed in force -/
theorem ghistories_fresh (ops : List (Op × SeedReq)) (hops : ∀ o ∈ ops, Harmless o.1) (s : GState)
    (hl : LinkInv s.core) (hs : Synced s.core) (hg : GenInv s.gen) : AllCondFresh s ops := by
  induction ops generalizing s with
  | nil => trivial
  | cons o ops ih =>
    obtain ⟨op, req⟩ := o
    obtain ⟨hop, hops⟩ := List.forall_mem_cons.1 hops
    refine ⟨fun tr tv b hout => ?_, ih hops _ (step_linkInv s.core op hl) (step_synced s.core op hop hl hs)
      (gstep_genInv s op req hg)⟩
    obtain ⟨p?, rn, st, vn, kst, rfl⟩ := out_some_isCall hout
    exact (gstep_call_fresh s p? rn st vn kst req hl hs hg).1 tr tv b hout

/-- after ANY history, the documented refresh followed by harmless operations (calls with or without seed) yields fresh
    conditioned fields again — the model change + refresh + call-without-seed scenario -/
theorem grefresh_then_fresh (pre : List (Op × SeedReq)) (c? : Option Nat) (req0 : SeedReq) (post : List (Op × SeedReq))
    (hpost : ∀ o ∈ post, Harmless o.1) (c m mu sd : Nat) :
    AllCondFresh (gstep (grun (ginit c m mu sd) pre) (.setCondition c?) req0).1 post := by
  have hl : LinkInv (grun (ginit c m mu sd) pre).core := by
    rw [grun_core]
    exact run_linkInv _ _ (init_linkInv c m mu)
  exact ghistories_fresh post hpost _ (step_linkInv _ _ hl) (refresh_syncs _ c?)
    (gstep_genInv _ _ _ (grun_genInv pre _ (genInit_inv sd m)))

/-- the scenario on concrete identifiers: generate, change the model in place, refresh, call WITHOUT seed and without
    positions: kriging tokens and unconditional token are the fresh ones of model 2, seed 5 -/
example : let s := grun (ginit 1 1 1 5) [(.call (some 7) 0 true 0 true, .keep), (.modelChange 2, .keep), (.setCondition none, .keep)]
    (gstep s (.call none 0 true 0 true) .keep).2 =
      (some (freshTok s.core 7, freshTok s.core 7, false), some (genFreshTok 5 2 7)) := by decide

/-- **synchronising the generator at every call is necessary**: under "update only when a seed is passed" the same history
    returns fresh kriging tokens and a STALE unconditional field (modes of model 1, scaled with the variance of model 1) —
    the data are still honoured (the scaling vanishes there), the field is not the one of a fresh object;
    passing the seed explicitly hides it -/
example : let h : List (Op × SeedReq) := [(.call (some 7) 0 true 0 true, .keep), (.modelChange 2, .keep), (.setCondition none, .keep)]
    let s := grunWith .onSeedOnly .bothRef (ginit 1 1 1 5) h
    (gstepWith .onSeedOnly .bothRef s (.call none 0 true 0 true) .keep).2 =
      (some (freshTok s.core 7, freshTok s.core 7, false), some ⟨5, 1, 1, 7⟩) ∧
    (⟨5, 1, 1, 7⟩ : GenTok) ≠ genFreshTok 5 2 7 ∧
    (gstepWith .onSeedOnly .bothRef s (.call none 0 true 0 true) (.set 5)).2.2 = some (genFreshTok 5 2 7) := by decide

/-- a call that raises for lack of positions has already taken over its seed: the next call without seed uses it -/
example : let s := (gstep (ginit 1 1 1 5) (.call none 0 true 0 true) (.set 9)).1
    (gstep (ginit 1 1 1 5) (.call none 0 true 0 true) (.set 9)).2 = (none, none) ∧
    (gstep s (.call (some 7) 0 true 0 true) .keep).2.2 = some (genFreshTok 9 1 7) := by decide

/-- the hypotheses of `ghistories_fresh` are satisfiable by a non-trivial history -/
example : AllCondFresh (ginit 1 1 1 5)
    [(.call (some 7) 0 true 0 true, .keep), (.setCondition (some 2), .keep), (.call none 0 false 0 true, .set 6),
     (.call none 0 true 0 true, .keep), (.krigeCall (some 8) (some 0), .keep), (.call none 1 true 0 true, .set 6)] :=
  ghistories_fresh _ (by intro o h; simp at h; rcases h with rfl | rfl | rfl | rfl | rfl | rfl <;> trivial) _
    (init_linkInv 1 1 1) (init_synced 1 1 1) (genInit_inv 5 1)

/-- `histories_uncond_fresh` needs no harmless history: an in-place model change without refresh between two calls -/
example : AllUncondFresh (ginit 1 1 1 5)
    [(.call (some 7) 0 true 0 true, .keep), (.modelChange 2, .keep), (.call none 0 true 0 true, .keep)] :=
  histories_uncond_fresh _ _ (genInit_inv 5 1)

end GSV.Props.C07
