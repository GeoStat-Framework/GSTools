/-
  C11 — seeded field generation is deterministic and local.

  Law-free, on the kernels regenerated from summator.pyx: the value at a location is a function of that
  location's coordinates only — independent of point order, of which other points are requested, of batching and of
  the schedule; bit-exact for IEEE doubles.
  The generator bookkeeping (private model copy, seed, mode number, derived arrays) as a state machine: every
  field-level call returns what a freshly constructed object returns, nugget noise included — the noise a fresh object
  gives after the same number of noise draws since the stream was last restarted; the stream is restarted exactly by a
  change the generator can see (model incl. nugget, seed value, mode number, explicit reset).
  Positions: a field-level call stores and evaluates the positions it was given; a call WITHOUT position argument is the
  call with the stored positions given explicitly; with nothing stored it raises.
-/
import GSV.Props.KernelSummate
import GSV.Model.Gen
namespace GSV.Props.C11
open GSV GSV.Transc GSV.Summator GSV.Props GSV.Model.Gen

set_option linter.unusedSectionVars false

section locality
variable {α : Type} [Arith α] [Transc α] [DecidableLT α] [DecidableLE α]

theorem phaseOf_local (k x x' : Nat → Nat → α) (dim j i i' : Nat)
    (h : ∀ d, d < dim → x d i = x' d i') : phaseOf k x dim j i = phaseOf k x' dim j i' :=
  forRange_congr 0 dim _ _ (fun d _ hd acc => by rw [h d hd]) _

/-- randomization method (`summate`): the value at output cell `i` depends only on column `i` of the positions — whatever
    the other columns, the number of points and the (admissible) schedule are -/
theorem summate_local (s s' : Sched) (hs : s.Admissible) (hs' : s'.Admissible)
    (cov : Nat → Nat → α) (c0 c1 : Nat) (z1 : Nat → α) (n1 : Nat) (z2 : Nat → α) (n2 : Nat)
    (pos pos' : Nat → Nat → α) (dim X X' i i' : Nat) (hi : i < X) (hi' : i' < X')
    (h : ∀ d, d < dim → pos d i = pos' d i') :
    summate s cov c0 c1 z1 n1 z2 n2 pos dim X i = summate s' cov c0 c1 z1 n1 z2 n2 pos' dim X' i' := by
  rw [summate_spec s hs, summate_spec s' hs', if_pos hi, if_pos hi']
  -- the sum reads the positions through the phases only
  simp only [summateCell, phaseOf_local cov pos pos' dim _ i i' h]

/-- Fourier method (`summate_fourier`): the value at output cell `i` depends only on column `i` of the positions -/
theorem summate_fourier_local (s s' : Sched) (hs : s.Admissible) (hs' : s'.Admissible)
    (sf : Nat → α) (f0 : Nat) (modes : Nat → Nat → α) (c0 c1 : Nat) (z1 : Nat → α) (n1 : Nat) (z2 : Nat → α) (n2 : Nat)
    (pos pos' : Nat → Nat → α) (dim X X' i i' : Nat) (hi : i < X) (hi' : i' < X')
    (h : ∀ d, d < dim → pos d i = pos' d i') :
    summate_fourier s sf f0 modes c0 c1 z1 n1 z2 n2 pos dim X i =
      summate_fourier s' sf f0 modes c0 c1 z1 n1 z2 n2 pos' dim X' i' := by
  rw [summate_fourier_spec s hs, summate_fourier_spec s' hs', if_pos hi, if_pos hi']
  simp only [fourierCell, phaseOf_local modes pos pos' dim _ i i' h]

/-- incompressible vector fields (`summate_incompr`): component `d` at output cell `i` depends only on column `i` of the
    positions -/
theorem summate_incompr_local
    (cov : Nat → Nat → α) (c0 c1 : Nat) (z1 : Nat → α) (n1 : Nat) (z2 : Nat → α) (n2 : Nat)
    (pos pos' : Nat → Nat → α) (dim X X' d i i' : Nat) (hi : i < X) (hi' : i' < X')
    (h : ∀ d, d < dim → pos d i = pos' d i') :
    summate_incompr cov c0 c1 z1 n1 z2 n2 pos dim X d i = summate_incompr cov c0 c1 z1 n1 z2 n2 pos' dim X' d i' := by
  rw [summate_incompr_spec, summate_incompr_spec]
  simp only [hi, hi', incomprCell, phaseOf_local cov pos pos' dim _ i i' h]

/-- evaluating a reordered / subsetted point list yields the reordered / subsetted field:
    if `pos' = pos ∘ σ` (any map of indices — permutation, subset, repetition, split) then
    `field' i = field (σ i)` -/
theorem summate_reindex (s s' : Sched) (hs : s.Admissible) (hs' : s'.Admissible)
    (cov : Nat → Nat → α) (c0 c1 : Nat) (z1 : Nat → α) (n1 : Nat) (z2 : Nat → α) (n2 : Nat)
    (pos : Nat → Nat → α) (dim X X' : Nat) (σ : Nat → Nat) (hσ : ∀ i, i < X' → σ i < X) (i : Nat) (hi : i < X') :
    summate s' cov c0 c1 z1 n1 z2 n2 (fun d i => pos d (σ i)) dim X' i =
      summate s cov c0 c1 z1 n1 z2 n2 pos dim X (σ i) :=
  summate_local s' s hs' hs cov c0 c1 z1 n1 z2 n2 _ pos dim X' X i (σ i) hi (hσ i hi) (fun _ _ => rfl)

end locality

/-- the arrays are the ones derived from the generator's own current settings -/
def Coherent (s : State) : Prop := s.derived = derive s.genModel s.seed s.modeNo s.epoch

/-- a freshly built generator holds the arrays derived from its settings -/
theorem init_coherent (m : MVal) (seed : Option Nat) (n : Nat) : Coherent (init m seed n) := rfl

theorem resetSeed_coherent {s : State} {a : SeedArg} : Coherent (resetSeed s a) := rfl

/-- `update(model, seed)` does nothing when the generator's copy already is `model` and the seed argument is `keep` or
    the present value; otherwise it takes over the model and restarts the stream -/
theorem update_eq (s : State) (m : MVal) (a : SeedArg) :
    update s m a = if s.genModel = m ∧ (a = .keep ∨ a = .set s.seed) then s else resetSeed { s with genModel := m } a := by
  unfold update setSeed
  by_cases hm : s.genModel = m
  · subst hm
    rcases a with _ | x
    · simp
    · by_cases hx : x = s.seed <;> simp [hx]
  · simp [hm]

theorem setSeed_coherent {s : State} {x : Option Nat} (h : Coherent s) : Coherent (setSeed s x) := by
  unfold setSeed
  split
  · exact resetSeed_coherent
  · exact h

theorem genCall_fst (s : State) (n : Nat) (b : Bool) (p : Option Nat) :
    (genCall s n b p).1 = if b = true ∧ s.genModel.nug ≠ 0 then { s with draws := s.draws + 1 } else s := by
  unfold genCall
  split <;> rfl

theorem genCall_coherent {s : State} {n : Nat} {b : Bool} {p : Option Nat} (h : Coherent s) :
    Coherent (genCall s n b p).1 := by
  rw [genCall_fst]
  split <;> exact h

theorem preCall_coherent {s : State} {a : SeedArg} {p : Option Nat} (h : Coherent s) : Coherent (preCall s a p) := by
  have hu : Coherent (update s s.srfModel a) := by
    rw [update_eq]
    split
    · exact h
    · exact resetSeed_coherent
  cases p <;> exact hu

/-- a field-level call with a position argument: the generator runs in `preCall` at the given set -/
theorem step_srfCall_given (s : State) (a : SeedArg) (p n : Nat) :
    step s (.srfCall a (some p) n) =
      ((genCall (preCall s a (some p)) n true (some p)).1, some (genCall (preCall s a (some p)) n true (some p)).2) := rfl

/-- for integer seeds the reseed counter does not matter; for `None` seeds coherence is kept because
    nothing but a reseed changes the counter -/
theorem step_coherent (s : State) (op : Op) (h : Coherent s) : Coherent (step s op).1 := by
  cases op with
  | srfCall a p n =>
    simp only [step]
    split
    · exact genCall_coherent (preCall_coherent h)
    · exact preCall_coherent h
  | setPos _ | modelChange _ => exact h
  | genSetSeed x => exact setSeed_coherent h
  | genSetModeNo n =>
    simp only [step]
    split
    · exact resetSeed_coherent
    · exact h
  | genResetSeed a => exact resetSeed_coherent
  | genCall n b => exact genCall_coherent h

/-- in every reachable state the derived arrays equal `derive(current settings)` -/
theorem reachable_coherent (ops : List Op) (m : MVal) (seed : Option Nat) (n : Nat) :
    Coherent (run (init m seed n) ops).1 := by
  suffices H : ∀ s, Coherent s → Coherent (run s ops).1 from H _ (init_coherent m seed n)
  induction ops with
  | nil => intro s h; exact h
  | cons op ops ih => intro s h; exact ih _ (step_coherent s op h)

/-- after `update(model, seed)` the generator's private copy is the given model -/
theorem update_genModel (s : State) (m : MVal) (a : SeedArg) : (update s m a).genModel = m := by
  rw [update_eq]
  split
  · next h => exact h.1
  · rfl

theorem preCall_genModel (s : State) (a : SeedArg) (p : Option Nat) : (preCall s a p).genModel = s.srfModel := by
  cases p <;> exact update_genModel s s.srfModel a

/-- whatever happened before (in-place model changes, seed or mode-number changes,
    earlier calls), a field-level call `srf(pos, seed=…)` uses arrays derived from the field's *current*
    model, the resulting seed and mode number — exactly what a freshly constructed object uses. -/
theorem srfCall_equals_fresh (s : State) (a : SeedArg) (p n : Nat) (h : Coherent s) :
    ∃ o, (step s (.srfCall a (some p) n)).2 = some o ∧
      o.field = derive s.srfModel (step s (.srfCall a (some p) n)).1.seed (step s (.srfCall a (some p) n)).1.modeNo
        (step s (.srfCall a (some p) n)).1.epoch ∧
      (step s (.srfCall a (some p) n)).1.genModel = s.srfModel := by
  have hm := preCall_genModel s a (some p)
  have hc : Coherent (preCall s a (some p)) := preCall_coherent h
  rw [step_srfCall_given]
  unfold genCall
  split <;> exact ⟨_, rfl, by simp only []; rw [hc, hm], hm⟩

/-- assigning a seed equal in VALUE to the present one changes nothing — in particular the stream is not restarted.  (Seeds
    are values in the model; the correspondence runs it against seed objects of differing identity.) -/
theorem seed_value_only (s : State) (x : Option Nat) (h : x = s.seed) : setSeed s x = s :=
  if_neg (not_not_intro h)

/-- nugget noise is drawn from consecutive stream positions: two calls without an intervening reseed
    never reuse variates -/
theorem noise_positions_advance (s : State) (n k : Nat) (hn : s.genModel.nug ≠ 0) :
    let r1 := genCall s n true
    let r2 := genCall r1.1 k true
    r1.2.noise.map (fun t => (t.1, t.2.2)) = some (s.seed, s.draws, n) ∧
    r2.2.noise.map (fun t => (t.1, t.2.2)) = some (s.seed, s.draws + 1, k) := by
  simp [genCall, hn]

/-- a generating call changes nothing but the stream position, and that by one iff noise is drawn -/
theorem genCall_fst_spec (s : State) (n : Nat) (b : Bool) (p : Option Nat) :
    (genCall s n b p).1.genModel = s.genModel ∧ (genCall s n b p).1.srfModel = s.srfModel ∧
    (genCall s n b p).1.seed = s.seed ∧ (genCall s n b p).1.modeNo = s.modeNo ∧
    (genCall s n b p).1.derived = s.derived ∧ (genCall s n b p).1.epoch = s.epoch ∧
    (b = true → s.genModel.nug ≠ 0 → (genCall s n b p).1.draws = s.draws + 1) ∧
    (¬ (b = true ∧ s.genModel.nug ≠ 0) → (genCall s n b p).1.draws = s.draws) := by
  rw [genCall_fst]
  split
  · next hn => exact ⟨rfl, rfl, rfl, rfl, rfl, rfl, fun _ _ => rfl, fun h => absurd hn h⟩
  · next hn => exact ⟨rfl, rfl, rfl, rfl, rfl, rfl, fun h1 h2 => absurd ⟨h1, h2⟩ hn, fun _ => rfl⟩

theorem burnN_eq (k : Nat) (s : State) :
    burnN k s = if s.genModel.nug ≠ 0 then { s with draws := s.draws + k } else s := by
  induction k generalizing s with
  | zero => split <;> rfl
  | succ k ih =>
    rw [burnN, ih, genCall_fst]
    by_cases hn : s.genModel.nug ≠ 0 <;> simp [hn, Nat.add_assoc, Nat.add_comm 1 k]

/-- a fresh object on which `burn` noise draws were made: same settings, stream position `burn`
    (for a model with nugget), and it is coherent -/
theorem replayState_spec (r : Recipe) :
    (replayState r).genModel = r.model ∧ (replayState r).srfModel = r.model ∧ (replayState r).seed = r.seed ∧
    (replayState r).modeNo = r.modeNo ∧ (r.model.nug ≠ 0 → (replayState r).draws = r.burn) ∧ Coherent (replayState r) := by
  rw [replayState, burnN_eq]
  split
  · exact ⟨rfl, rfl, rfl, rfl, fun _ => Nat.zero_add _, rfl⟩
  · next hn => exact ⟨rfl, rfl, rfl, rfl, fun h => absurd h hn, rfl⟩

/-- the output of a generating call reads the derived arrays, the seed, the nugget level and — when noise is drawn — the
    stream position and, for a random seed, the reseed counter; nothing else -/
theorem genCall_out_congr {s t : State} (hd : s.derived = t.derived) (hs : s.seed = t.seed)
    (hg : s.genModel.nug = t.genModel.nug) (he : s.seed = none → s.epoch = t.epoch)
    (hw : s.genModel.nug ≠ 0 → s.draws = t.draws) (n : Nat) (b : Bool) (p : Option Nat) :
    (genCall s n b p).2 = (genCall t n b p).2 := by
  unfold genCall
  rw [← hg, ← hd, ← hs]
  split
  · next h =>
    rw [← hw h.2]
    cases hse : s.seed with
    | none => rw [← he hse]
    | some x => rfl
  · rfl

/-- noise replay at the generator level: with an integer seed, the complete output of a generating call —
    summed modes *and* nugget noise — in any coherent state equals the output of a freshly constructed
    generator with the same model, seed and mode number on which as many noise draws were made before
    as the state has made since its stream was last restarted. -/
theorem genCall_equals_fresh_replay (s : State) (x : Nat) (hs : s.seed = some x) (h : Coherent s)
    (n : Nat) (b : Bool) (p : Option Nat) :
    (genCall (replayState (recipe s)) n b p).2 = (genCall s n b p).2 := by
  obtain ⟨hg, _, hsd, hmn, hdr, hc⟩ := replayState_spec (recipe s)
  refine genCall_out_congr ?_ hsd (congrArg MVal.nug hg) (fun e => nomatch hs.symm.trans (hsd.symm.trans e))
    (fun e => hdr (hg ▸ e)) n b p
  -- both arrays are derived from the same settings; with an integer seed the reseed counter does not enter
  rw [hc, h, hg, hsd, hmn]
  show derive s.genModel s.seed s.modeNo _ = derive s.genModel s.seed s.modeNo _
  rw [hs]
  rfl

theorem resetSeed_pos (s : State) (q : Option Nat) (a : SeedArg) :
    resetSeed { s with pos := q } a = { resetSeed s a with pos := q } := rfl

theorem update_pos (s : State) (q : Option Nat) (m : MVal) (a : SeedArg) :
    update { s with pos := q } m a = { update s m a with pos := q } := by
  rw [update_eq, update_eq]
  split <;> rfl

/-- `generator.update` does not touch the stored positions -/
theorem update_keeps_pos (s : State) (m : MVal) (a : SeedArg) : (update s m a).pos = s.pos := by
  rw [update_eq]
  split <;> rfl

theorem genCall_out_pos {s : State} {q : Option Nat} {n : Nat} {b : Bool} {p : Option Nat} :
    (genCall { s with pos := q } n b p).2 = (genCall s n b p).2 :=
  genCall_out_congr (s := { s with pos := q }) (t := s) rfl rfl rfl (fun _ => rfl) (fun _ => rfl) n b p

/-- the fresh object that reproduces a field-level call: the field's current model, the resulting seed and
    mode number, and the number of noise draws since the stream was last restarted -/
def callRecipe (s : State) (a : SeedArg) (p : Option Nat) (x : Nat) : Recipe :=
  { model := s.srfModel, seed := some x, modeNo := (preCall s a p).modeNo, burn := (preCall s a p).draws }

/-- noise replay at the field level: after ANY history, a field-level call that leaves an integer seed
    returns exactly what a freshly constructed object returns that has the field's current model, the
    resulting seed and mode number, has made `burn` noise draws, and is evaluated at the same positions
    — where `burn` is the number of noise draws since the last restart of the stream, and the stream is
    restarted by `update` iff the model (incl. its nugget) or the seed value changed. -/
theorem srfCall_equals_fresh_replay (s : State) (a : SeedArg) (p n x : Nat) (h : Coherent s)
    (hs : (preCall s a (some p)).seed = some x) :
    (step s (.srfCall a (some p) n)).2 =
      (step (replayState (callRecipe s a (some p) x)) (.srfCall .keep (some p) n)).2 := by
  have hr : recipe (preCall s a (some p)) = callRecipe s a (some p) x := by
    simp only [recipe, callRecipe, preCall_genModel, hs]
  obtain ⟨hgm, hsm, _⟩ := replayState_spec (callRecipe s a (some p) x)
  rw [step_srfCall_given, step_srfCall_given]
  -- on the fresh object `update` sees its own model and does nothing; `set_pos` does not touch what the generator reads
  show some _ = some (genCall (setPos (update _ _ .keep) p) n true (some p)).2
  rw [update_eq, if_pos ⟨hgm.trans hsm.symm, .inl rfl⟩, ← hr]
  exact congrArg some ((genCall_equals_fresh_replay _ x hs (preCall_coherent h) n true (some p)).symm.trans
    genCall_out_pos.symm)

/-- the stream is restarted exactly by a visible change: if the generator's copy already equals the field's
    model and the seed argument is `keep` or the present value, a field-level call continues the stream -/
theorem srfCall_continues_stream (s : State) (a : SeedArg) (p : Option Nat)
    (hm : s.genModel = s.srfModel) (ha : a = .keep ∨ a = .set s.seed) :
    (preCall s a p).draws = s.draws ∧ (preCall s a p).epoch = s.epoch := by
  have key : update s s.srfModel a = s := by rw [update_eq, if_pos ⟨hm, ha⟩]
  cases p <;> rw [preCall, key] <;> exact ⟨rfl, rfl⟩

/-- any change of the field's model that `CovModel.__eq__` sees (variance, nugget, anisotropy, angles,
    length scale, shape arguments — all of it is in `MVal`) or a different seed value restarts it at position 0 -/
theorem srfCall_restarts_stream (s : State) (a : SeedArg) (p : Option Nat)
    (hc : s.genModel ≠ s.srfModel ∨ ∃ x, a = .set x ∧ x ≠ s.seed) :
    (preCall s a p).draws = 0 ∧ (preCall s a p).epoch = s.epoch + 1 := by
  have key : update s s.srfModel a = resetSeed { s with genModel := s.srfModel } a := by
    rw [update_eq, if_neg]
    rintro ⟨hm, ha⟩
    rcases hc with hc | ⟨x, rfl, hx⟩
    · exact hc hm
    · exact ha.elim nofun fun e => hx (SeedArg.set.inj e)
  cases p <;> rw [preCall, key] <;> exact ⟨rfl, rfl⟩

/-- a field-level call stores the positions it was given and its output belongs to
    them — independently of the positions stored by earlier calls (and of everything else in the state) -/
theorem srfCall_pos_is_given (s : State) (a : SeedArg) (p n : Nat) :
    (step s (.srfCall a (some p) n)).1.pos = some p ∧
      ∃ o, (step s (.srfCall a (some p) n)).2 = some o ∧ o.pos = some p := by
  rw [step_srfCall_given]
  unfold genCall
  split <;> exact ⟨rfl, _, rfl, rfl⟩

/-- a field-level call WITHOUT position argument, when a position set `q` is stored, is in
    every respect (new state, output) the call with `q` given explicitly.  Together with `srfCall_equals_fresh`,
    `srfCall_equals_fresh_replay` and `srfCall_pos_is_given` this is the statement that re-evaluating stored positions
    after any history — in-place changes of the model (variance, length scale, anisotropy, rotation: all of it is in
    the model value the generator is updated with and whose geometry is applied), of the seed, of the mode number —
    returns what a freshly constructed object returns at those positions. -/
theorem srfCall_reuse_eq_given (s : State) (a : SeedArg) (n q : Nat) (h : s.pos = some q) :
    step s (.srfCall a none n) = step s (.srfCall a (some q) n) := by
  have hp : (preCall s a none).pos = some q := (update_keeps_pos s s.srfModel a).trans h
  -- storing the set that is stored already changes nothing
  have he : preCall s a (some q) = preCall s a none := by
    show { preCall s a none with pos := some q } = _
    rw [← hp]
  rw [step_srfCall_given, he]
  simp only [step, hp]

/-- with nothing stored the call raises (no output); `generator.update` has already run -/
theorem srfCall_without_pos_raises (s : State) (a : SeedArg) (n : Nat) (h : s.pos = none) :
    step s (.srfCall a none n) = (update s s.srfModel a, none) := by
  have hp : (preCall s a none).pos = none := (update_keeps_pos s s.srfModel a).trans h
  simp only [step, hp]
  rfl

/-- the reuse call returns the stored set's values and leaves it stored -/
theorem srfCall_reuse_pos (s : State) (a : SeedArg) (n q : Nat) (h : s.pos = some q) :
    (step s (.srfCall a none n)).1.pos = some q ∧ ∃ o, (step s (.srfCall a none n)).2 = some o ∧ o.pos = some q := by
  rw [srfCall_reuse_eq_given s a n q h]
  exact srfCall_pos_is_given s a q n

/-- after ANY history, a call without position argument that leaves an integer seed returns
    exactly — nugget noise included — what a freshly constructed object with the field's CURRENT model, the resulting
    seed and mode number returns at the stored positions after `burn` noise draws -/
theorem srfCall_reuse_equals_fresh_replay (s : State) (a : SeedArg) (n x q : Nat) (h : Coherent s)
    (hq : s.pos = some q) (hs : (preCall s a none).seed = some x) :
    (step s (.srfCall a none n)).2 =
      (step (replayState (callRecipe s a none x)) (.srfCall .keep (some q) n)).2 :=
  (congrArg Prod.snd (srfCall_reuse_eq_given s a n q hq)).trans (srfCall_equals_fresh_replay s a q n x h hs)

/-- in particular right after an in-place change of the field's model (`m` carries anisotropy and rotation, too):
    the fresh object of the comparison is built from the NEW model value -/
theorem reuse_after_modelChange (s : State) (m : MVal) (a : SeedArg) (n x q : Nat) (h : Coherent s)
    (hq : s.pos = some q) (hs : (preCall (step s (.modelChange m)).1 a none).seed = some x) :
    (callRecipe (step s (.modelChange m)).1 a none x).model = m ∧
    (step (step s (.modelChange m)).1 (.srfCall a none n)).2 =
      (step (replayState (callRecipe (step s (.modelChange m)).1 a none x)) (.srfCall .keep (some q) n)).2 :=
  ⟨rfl, srfCall_reuse_equals_fresh_replay _ a n x q h hq hs⟩

/-- `set_pos(p)` followed by a call without positions is the call at `p` -/
theorem setPos_then_reuse (s : State) (a : SeedArg) (p n : Nat) :
    step (step s (.setPos p)).1 (.srfCall a none n) = step s (.srfCall a (some p) n) := by
  show step (setPos s p) (.srfCall a none n) = _
  rw [srfCall_reuse_eq_given (setPos s p) a n p rfl, step_srfCall_given, step_srfCall_given]
  have : preCall (setPos s p) a (some p) = preCall s a (some p) := by
    simp only [preCall, setPos, update_pos]
  rw [this]

/-- the stored positions never influence the output of an operation that does not ask for them: two states that differ
    only in the stored positions give the same output for every operation except the call without position argument
    (so the value at a location cannot depend on which points an earlier call requested); for that call see
    `srfCall_reuse_eq_given` -/
theorem stored_pos_irrelevant (s : State) (q : Option Nat) (op : Op) (hop : ∀ a n, op ≠ .srfCall a none n) :
    (step { s with pos := q } op).2 = (step s op).2 := by
  cases op with
  | srfCall a p n =>
    cases p with
    | none => exact absurd rfl (hop a n)
    | some p =>
      simp only [step_srfCall_given, preCall, update_pos]
      rfl
  | genCall n b => exact congrArg some genCall_out_pos
  | _ => rfl

/-- `reachable_coherent` on a history with an in-place model change, a mode-number change and a `None` seed -/
example : Coherent (run (init ⟨1, 1⟩ (some 7) 100)
    [.srfCall (.set (some 7)) (some 0) 5, .modelChange ⟨2, 0⟩, .srfCall .keep none 5, .genSetModeNo 50, .setPos 1,
     .srfCall (.set none) none 3]).1 :=
  reachable_coherent _ _ _ _

/-- the hypotheses of `srfCall_equals_fresh_replay` are met after a history with noise drawn, an in-place
    change of the nugget only, and a call that keeps the seed: the stream is restarted (burn = 0) -/
example : (preCall (run (init ⟨1, 1⟩ (some 7) 100) [.srfCall .keep (some 0) 5, .modelChange ⟨1, 2⟩]).1 .keep (some 0)).draws = 0 ∧
    (preCall (run (init ⟨1, 1⟩ (some 7) 100) [.srfCall .keep (some 0) 5, .genCall 3 true]).1 .keep (some 1)).draws = 2 := by decide

/-- the hypotheses of `srfCall_reuse_equals_fresh_replay` / `reuse_after_modelChange` are met after a call at set 3, an
    in-place model change and a generator-level seed change: set 3 is still stored, the seed is an integer, and the
    reuse call's output carries the NEW model (identifier 2) at set 3; on a fresh object the call without positions raises -/
example :
    let s := (run (init ⟨1, 0⟩ (some 7) 100) [.srfCall .keep (some 3) 5, .modelChange ⟨2, 0⟩, .genSetSeed (some 12)]).1
    s.pos = some 3 ∧ (preCall s .keep none).seed = some 12 ∧
    ((step s (.srfCall .keep none 5)).2.map fun o => (o.field.model, o.pos)) = some (2, some 3) ∧
    (step (init ⟨1, 0⟩ (some 7) 100) (.srfCall .keep none 5)).2 = none := by decide

end GSV.Props.C11
