/-
  Tie A for the analytic spectral closed forms (C04), EXACT form — informative, not an obligation of `./check C04`.

  The functions of `GSV.Model.Spectral` are equal to the definitions regenerated from `covmodel/models.py`
  (`GSV/Gen/SpectralFormulas.lean`) on EVERY carrier `α` (hence on `Float`): same operator tree, the
  `if self.dim == 1 … return None` chains are the model's `match`.  Brittle by design: a behaviour-preserving regrouping
  of a source formula breaks these proofs.  The registered obligations are the `ℝ`-level theorems
  `GSV.Props.GenTieSpectral.*_eq_model_real`; the theorems of this file are audited on every run and reported under
  `coverage.informative` of the evidence.
-/
import GSV.Props.GenTieSpectral

set_option linter.unusedSectionVars false

namespace GSV.Props.GenTieSpectralExact
open GSV GSV.Transc GSV.PyExpr GSV.Model.Spectral GSV.Gen.SpectralFormulas GSV.Props.GenTieSpectral

variable {α : Type} [Arith α] [Transc α] [DecidableLT α] [DecidableLE α]

theorem Gaussian_spectral_density_eq_model (d : Nat) (ℓ k : α) :
    Gaussian.spectral_density d ℓ k = gauDensity d ℓ k := rfl

theorem Gaussian_spectral_rad_cdf_eq_model (sps : Sps α) (d : Nat) (ℓ r : α) :
    Gaussian.spectral_rad_cdf sps d ℓ r = gauCdf (specialOf sps) d ℓ r := by
  rcases d with _ | _ | _ | _ | d <;> rfl

theorem Gaussian_spectral_rad_ppf_eq_model (sps : Sps α) (d : Nat) (ℓ u : α) :
    Gaussian.spectral_rad_ppf sps d ℓ u = gauPpf (specialOf sps) d ℓ u := by
  rcases d with _ | _ | _ | d <;> rfl

theorem Exponential_spectral_density_eq_model (sps : Sps α) (d : Nat) (ℓ k : α)
    (H : ∀ n : Nat, sps.gamma (((n:Nat):α) / ((2:Nat):α)) = gammaHalf n) :
    Exponential.spectral_density sps d ℓ k = expDensity d ℓ k := by
  simp only [Exponential.spectral_density, expDensity, H]

theorem Exponential_spectral_rad_cdf_eq_model (d : Nat) (ℓ r : α) :
    Exponential.spectral_rad_cdf d ℓ r = expCdf d ℓ r := by
  rcases d with _ | _ | _ | _ | d <;> rfl

theorem Matern_spectral_density_eq_model (sps : Sps α) (d : Nat) (ℓ ν k : α) :
    Matern.spectral_density sps d ℓ ν k = maternDensity (specialOf sps) d ℓ ν k := rfl

end GSV.Props.GenTieSpectralExact
