/-
  C03 — model functions are mutually consistent and match their documented closed forms: theorems at `ℝ` about
  `GSV.Model.CovFn`, the definitions the driver runs on `Float` (derivation of the four functions, their variants,
  closed forms and integral scales, `tools/special.py`, histories of in-place changes).
-/
import GSV.Lemmas.CovFn
import Mathlib.Analysis.SpecialFunctions.Gamma.Beta
namespace GSV.Props.C03
open GSV GSV.Transc GSV.Model.CovFn GSV.Lemmas.CovFn MeasureTheory Set

/-! ## derivation of the four functions -/

/-- the three consistency relations of the property for a family of functions -/
structure Consistent (p : Par ℝ) (F : Fns ℝ) : Prop where
  vario : ∀ r, F.variogram r = p.var + p.nugget - F.covariance r
  cov : ∀ r, F.covariance r = p.var * F.correlation r
  cor : ∀ r, 0 ≤ r → F.correlation r = F.cor (p.rescale * r / p.lenScale)

theorem lenRescaled_pos {p : Par ℝ} (hl : 0 < p.lenScale) (hs : 0 < p.rescale) : 0 < lenRescaled p :=
  div_pos hl hs

theorem dVariogram_eq (p : Par ℝ) (cov : ℝ → ℝ) (r : ℝ) : dVariogram p cov r = p.var + p.nugget - cov r :=
  sub_add_eq_add_sub _ _ _

theorem rescale_mul_div (p : Par ℝ) (r : ℝ) : p.rescale * r / p.lenScale = r / lenRescaled p := by
  rw [lenRescaled, div_div_eq_mul_div, mul_comm]

theorem correlationFromCor_apply (p : Par ℝ) (c : ℝ → ℝ) {r : ℝ} (hr : 0 ≤ r) :
    correlationFromCor p c r = c (p.rescale * r / p.lenScale) := by
  rw [correlationFromCor, fabs_real, abs_of_nonneg hr, rescale_mul_div]

theorem corFromCorrelation_apply (p : Par ℝ) (c : ℝ → ℝ) (hl : 0 < p.lenScale) (hs : 0 < p.rescale) {r : ℝ}
    (hr : 0 ≤ r) : corFromCorrelation p c (p.rescale * r / p.lenScale) = c r := by
  have hL := lenRescaled_pos hl hs
  rw [corFromCorrelation, fabs_real, rescale_mul_div, abs_of_nonneg (div_nonneg hr hL.le), div_mul_cancel₀ _ hL.ne']

theorem correlation_lenRescaled_mul (p : Par ℝ) (c : ℝ → ℝ) (hl : 0 < p.lenScale) (hs : 0 < p.rescale) {h : ℝ}
    (hh : 0 ≤ h) : (fromCor p c).correlation (lenRescaled p * h) = c h := by
  have hL := lenRescaled_pos hl hs
  show c (|lenRescaled p * h| / lenRescaled p) = c h
  rw [abs_of_nonneg (mul_nonneg hL.le hh), mul_div_cancel_left₀ _ hL.ne']

theorem dCovariance_dCorrelation {p : Par ℝ} (hv : p.var ≠ 0) (g : ℝ → ℝ) (r : ℝ) :
    dCovariance p (dCorrelation p g) r = p.var + p.nugget - g r := by
  simp only [dCovariance, dCorrelation, Nat.cast_one, mul_sub, mul_one, mul_div_cancel₀ _ hv]
  ring

theorem dVariogram_dCovariance_dCorrelation {p : Par ℝ} (hv : p.var ≠ 0) (g : ℝ → ℝ) :
    dVariogram p (dCovariance p (dCorrelation p g)) = g :=
  funext fun r => by rw [dVariogram_eq, dCovariance_dCorrelation hv, sub_sub_cancel]

theorem dCovariance_dCorrelation_dVariogram {p : Par ℝ} (hv : p.var ≠ 0) (cov : ℝ → ℝ) :
    dCovariance p (dCorrelation p (dVariogram p cov)) = cov :=
  funext fun r => by rw [dCovariance_dCorrelation hv, dVariogram_eq, sub_sub_cancel]

theorem dCorrelation_dVariogram_dCovariance {p : Par ℝ} (hv : p.var ≠ 0) (c : ℝ → ℝ) :
    dCorrelation p (dVariogram p (dCovariance p c)) = c :=
  funext fun r => mul_left_cancel₀ hv (congrFun (dCovariance_dCorrelation_dVariogram hv (dCovariance p c)) r)

theorem derived_from_cor (p : Par ℝ) (c : ℝ → ℝ) : Consistent p (fromCor p c) :=
  ⟨fun _ => dVariogram_eq .., fun _ => rfl, fun _ hr => correlationFromCor_apply p c hr⟩

theorem derived_from_correlation (p : Par ℝ) (c : ℝ → ℝ) (hl : 0 < p.lenScale) (hs : 0 < p.rescale) :
    Consistent p (fromCorrelation p c) :=
  ⟨fun _ => dVariogram_eq .., fun _ => rfl, fun _ hr => (corFromCorrelation_apply p c hl hs hr).symm⟩

/-- a class that supplies `covariance` (or `variogram`) gets the functions of the class that supplies the `correlation`
    derived from it -/
theorem fromCovariance_eq {p : Par ℝ} (hv : p.var ≠ 0) (cov : ℝ → ℝ) :
    fromCovariance p cov = fromCorrelation p (dCorrelation p (dVariogram p cov)) := by
  simp only [fromCovariance, fromCorrelation, dCovariance_dCorrelation_dVariogram hv]

theorem fromVariogram_eq {p : Par ℝ} (hv : p.var ≠ 0) (g : ℝ → ℝ) :
    fromVariogram p g = fromCorrelation p (dCorrelation p g) := by
  simp only [fromVariogram, fromCorrelation, dVariogram_dCovariance_dCorrelation hv]

theorem derived_from_covariance (p : Par ℝ) (c : ℝ → ℝ) (hv : p.var ≠ 0) (hl : 0 < p.lenScale)
    (hs : 0 < p.rescale) : Consistent p (fromCovariance p c) :=
  fromCovariance_eq hv c ▸ derived_from_correlation p _ hl hs

theorem derived_from_variogram (p : Par ℝ) (g : ℝ → ℝ) (hv : p.var ≠ 0) (hl : 0 < p.lenScale)
    (hs : 0 < p.rescale) : Consistent p (fromVariogram p g) :=
  fromVariogram_eq hv g ▸ derived_from_correlation p _ hl hs

/-- two families agree as functions of a lag `≥ 0` -/
def SameOnNonneg (F G : Fns ℝ) : Prop :=
  ∀ r, 0 ≤ r → F.cor r = G.cor r ∧ F.correlation r = G.correlation r ∧
    F.covariance r = G.covariance r ∧ F.variogram r = G.variogram r

/-- a model defined through `cor`, re-defined through any of the other three functions that the first
    definition produced, has the same four functions -/
theorem routes_agree (p : Par ℝ) (c : ℝ → ℝ) (hv : p.var ≠ 0) (hl : 0 < p.lenScale) (hs : 0 < p.rescale) :
    SameOnNonneg (fromCorrelation p (fromCor p c).correlation) (fromCor p c) ∧
    SameOnNonneg (fromCovariance p (fromCor p c).covariance) (fromCor p c) ∧
    SameOnNonneg (fromVariogram p (fromCor p c).variogram) (fromCor p c) := by
  -- both other routes recover the `correlation` they started from
  have corr : dCorrelation p (dVariogram p (fromCor p c).covariance) = (fromCor p c).correlation :=
    dCorrelation_dVariogram_dCovariance hv _
  have corr' : dCorrelation p (fromCor p c).variogram = (fromCor p c).correlation := corr
  rw [fromCovariance_eq hv, fromVariogram_eq hv, corr, corr', and_self, and_self]
  intro r hr
  refine ⟨?_, rfl, rfl, rfl⟩
  show (fromCor p c).correlation (|r| * lenRescaled p) = c r
  rw [abs_of_nonneg hr, mul_comm, correlation_lenRescaled_mul p c hl hs hr]

/-! ## the variants of `base.py`: nugget, axis, Yadrenko -/

theorem isclose0_fabs_iff {r : ℝ} : isclose0 (fabs r) = true ↔ |r| ≤ 1e-8 := by
  simp [isclose0]

theorem nugget_variants_off_zero (p : Par ℝ) (F : Fns ℝ) (r : ℝ) (h : 1e-8 < |r|) :
    varioNugget F r = F.variogram |r| ∧ covNugget p F r = F.covariance |r| := by
  have := mt isclose0_fabs_iff.mp (not_le.mpr h)
  exact ⟨if_neg this, if_neg this⟩

theorem nugget_variants_at_zero (p : Par ℝ) (F : Fns ℝ) (r : ℝ) (h : |r| ≤ 1e-8) :
    varioNugget F r = 0 ∧ covNugget p F r = p.var + p.nugget := by
  have := isclose0_fabs_iff.mpr h
  exact ⟨(if_pos this).trans Nat.cast_zero, if_pos this⟩

theorem nugget_variants_sum (p : Par ℝ) (F : Fns ℝ) (hF : Consistent p F) (r : ℝ) :
    varioNugget F r + covNugget p F r = p.var + p.nugget := by
  rcases le_or_gt |r| 1e-8 with h | h
  · rw [(nugget_variants_at_zero p F r h).1, (nugget_variants_at_zero p F r h).2, zero_add]
  · rw [(nugget_variants_off_zero p F r h).1, (nugget_variants_off_zero p F r h).2, hF.vario, sub_add_cancel]

/-- at lag zero the base functions are `nugget` and `var` (when `cor 0 = 1`), i.e. the nugget-aware
    variants differ from them by exactly the nugget -/
theorem base_at_zero (p : Par ℝ) (F : Fns ℝ) (hF : Consistent p F) (h1 : F.cor 0 = 1) :
    F.correlation 0 = 1 ∧ F.covariance 0 = p.var ∧ F.variogram 0 = p.nugget ∧
    covNugget p F 0 - F.covariance 0 = p.nugget ∧ F.variogram 0 - varioNugget F 0 = p.nugget := by
  have hc : F.correlation 0 = 1 := by rw [hF.cor 0 le_rfl, mul_zero, zero_div, h1]
  have hcov : F.covariance 0 = p.var := by rw [hF.cov, hc, mul_one]
  have hvar : F.variogram 0 = p.nugget := by rw [hF.vario, hcov, add_sub_cancel_left]
  obtain ⟨h0, h0'⟩ := nugget_variants_at_zero p F 0 (by norm_num)
  exact ⟨hc, hcov, hvar, by rw [h0', hcov, add_sub_cancel_left], by rw [h0, hvar, sub_zero]⟩

theorem axis_zero (anis : List ℝ) (r : ℝ) : axisLag anis 0 r = some r := rfl

theorem axis_succ (anis : List ℝ) (k : ℕ) (hk : k < anis.length) (r : ℝ) :
    axisLag anis (k + 1) r = some (|r| / anis[k]) := by
  simp [axisLag, hk]

/-- along axis `k+1` the model behaves like the isotropic model with length scale
    `len_scale * anis[k]` (`len_scale_vec`) -/
theorem axis_is_len_scale_vec (p : Par ℝ) (c : ℝ → ℝ) (a r : ℝ) (ha : 0 < a) :
    (fromCor p c).correlation (|r| / a) = (fromCor { p with lenScale := p.lenScale * a } c).correlation r ∧
    (fromCor p c).covariance (|r| / a) = (fromCor { p with lenScale := p.lenScale * a } c).covariance r ∧
    (fromCor p c).variogram (|r| / a) = (fromCor { p with lenScale := p.lenScale * a } c).variogram r := by
  have h : correlationFromCor p c (|r| / a) = correlationFromCor { p with lenScale := p.lenScale * a } c r := by
    simp only [correlationFromCor, lenRescaled, fabs_real]
    rw [abs_of_nonneg (div_nonneg (abs_nonneg r) ha.le), div_div, mul_div_right_comm, mul_comm]
  exact ⟨h, congrArg (p.var * ·) h, congrArg (p.var - p.var * · + p.nugget) h⟩

/-- the Yadrenko lag is the straight-line distance of two points of the sphere of radius `R` that are
    the great-circle distance `ζ ∈ [0, 2πR]` apart -/
theorem chordal_is_chord (R ζ : ℝ) (hR : 0 < R) (h0 : 0 ≤ ζ) (h1 : ζ ≤ 2 * Real.pi * R) :
    Real.sqrt ((R * Real.cos (ζ / R) - R) ^ 2 + (R * Real.sin (ζ / R)) ^ 2) = chordal R ζ := by
  have h2R : 0 < 2 * R := mul_pos two_pos hR
  have hs : 0 ≤ Real.sin (ζ / (2 * R)) :=
    Real.sin_nonneg_of_nonneg_of_le_pi (div_nonneg h0 h2R.le) ((div_le_iff₀ h2R).mpr (h1.trans_eq (by ring)))
  rw [chordal, sin_real, Nat.cast_ofNat, ← Real.sqrt_sq (mul_nonneg h2R.le hs),
    ← mul_div_mul_left ζ R two_ne_zero, mul_div_assoc, Real.cos_two_mul, Real.sin_two_mul]
  congr 1
  linear_combination 4 * R ^ 2 * (Real.cos (ζ / (2 * R)) ^ 2 - 1) * Real.sin_sq_add_cos_sq (ζ / (2 * R))

/-! ## closed forms -/

theorem cor_zero_eq_one :
    gaussianCor (0:ℝ) = 1 ∧ exponentialCor (0:ℝ) = 1 ∧ (∀ a : ℝ, a ≠ 0 → stableCor a 0 = 1) ∧
    (∀ a : ℝ, rationalCor a 0 = 1) ∧ cubicCor (0:ℝ) = 1 ∧ linearCor (0:ℝ) = 1 ∧ circularCor (0:ℝ) = 1 ∧
    sphericalCor (0:ℝ) = 1 ∧ (∀ nu : ℝ, tplSimpleCor nu 0 = 1) ∧
    (∀ n : ℕ, superSphericalNatCor n (0:ℝ) = 1) ∧ superSphericalHalfCor (0:ℝ) = 1 ∧
    matern12Cor (0:ℝ) = 1 ∧ matern32Cor (0:ℝ) = 1 ∧ matern52Cor (0:ℝ) = 1 ∧ maternLimitCor (0:ℝ) = 1 ∧
    jbessel12Cor (0:ℝ) = 1 ∧ jbessel32Cor (0:ℝ) = 1 := by
  have h0 : isclose0 (0:ℝ) = true := by simp [isclose0]; norm_num
  simp +contextual [gaussianCor, exponentialCor, stableCor, Real.zero_rpow, rationalCor, cubicCor_eq, cubicPoly_real,
    linearCor_eq, circularCor_eq, circularInner_zero, sphericalCor_eq, sphericalPoly_real, tplSimpleCor_eq,
    superSphericalNatCor, superSphericalHalfCor, matern12Cor, matern32Cor, matern52Cor, maternLimitCor, jbessel12Cor,
    jbessel32Cor, h0]

/-- Spherical: the clamped polynomial is the documented polynomial inside the support, vanishes outside,
    and the two branches meet at the edge -/
theorem spherical_support_edge :
    (∀ h : ℝ, |h| ≤ 1 → sphericalCor h = 1 - 1.5 * |h| + 0.5 * |h| ^ 3) ∧
    (∀ h : ℝ, 1 ≤ |h| → sphericalCor h = 0) ∧ sphericalPoly (1:ℝ) = 0 :=
  ⟨fun h hh => by rw [sphericalCor_eq, min_eq_left hh, sphericalPoly_real],
   fun h hh => by rw [sphericalCor_eq, min_eq_right hh, sphericalPoly_one], sphericalPoly_one⟩

theorem cubic_support_edge :
    (∀ h : ℝ, |h| ≤ 1 → cubicCor h = 1 - 7 * |h| ^ 2 + 8.75 * |h| ^ 3 - 3.5 * |h| ^ 5 + 0.75 * |h| ^ 7) ∧
    (∀ h : ℝ, 1 ≤ |h| → cubicCor h = 0) ∧ cubicPoly (1:ℝ) = 0 :=
  ⟨fun h hh => by rw [cubicCor_eq, min_eq_left hh, cubicPoly_real],
   fun h hh => by rw [cubicCor_eq, min_eq_right hh, cubicPoly_one], cubicPoly_one⟩

theorem linear_support_edge :
    (∀ h : ℝ, |h| ≤ 1 → linearCor h = 1 - |h|) ∧ (∀ h : ℝ, 1 ≤ |h| → linearCor h = 0) :=
  ⟨fun h hh => by rw [linearCor_eq, min_eq_left hh], fun h hh => by rw [linearCor_eq, min_eq_right hh, sub_self]⟩

theorem tplSimple_support_edge (nu : ℝ) (hnu : nu ≠ 0) :
    (∀ h : ℝ, |h| ≤ 1 → tplSimpleCor nu h = (1 - |h|) ^ nu) ∧ (∀ h : ℝ, 1 ≤ |h| → tplSimpleCor nu h = 0) :=
  ⟨fun h hh => by rw [tplSimpleCor_eq, min_eq_left hh],
   fun h hh => by rw [tplSimpleCor_eq, min_eq_right hh, sub_self, Real.zero_rpow hnu]⟩

/-- Circular: the expression of the inner branch vanishes at `1`, so the strict test `|h| < 1` of the
    code and the documented `≤` describe the same function: `cor = inner ∘ clamp` -/
theorem circular_support_edge :
    circularInner (1:ℝ) = 0 ∧ (∀ h : ℝ, 1 ≤ |h| → circularCor h = 0) ∧
    (∀ h : ℝ, circularCor h = circularInner (min |h| 1)) :=
  ⟨circularInner_one, fun h hh => by rw [circularCor_eq, min_eq_right hh, circularInner_one], circularCor_eq⟩

/-- HyperSpherical in `d = 1, 2, 3` is Linear, Circular, Spherical (on lags `h ≥ 0`) -/
theorem hyperSpherical_dims (h : ℝ) (hh : 0 ≤ h) :
    (∃ f, hyperSphericalCor (α := ℝ) 1 = some f ∧ f h = linearCor h) ∧
    (∃ f, hyperSphericalCor (α := ℝ) 2 = some f ∧ f h = circularCor h) ∧
    (∃ f, hyperSphericalCor (α := ℝ) 3 = some f ∧ f h = sphericalCor h) := by
  have ha : |h| = h := abs_of_nonneg hh
  refine ⟨⟨_, rfl, ?_⟩, ⟨_, rfl, ?_⟩, ⟨_, rfl, ?_⟩⟩
  · rw [superSphericalNatCor_real, hyp_zero, hyp_zero, linearCor_eq, ha, one_div_one, mul_one, mul_one]
    exact ite_lt_one_eq_clamp (P := fun x => 1 - x) (sub_self 1) h
  · rw [superSphericalHalfCor, circularCor_eq, ha, Nat.cast_one, Nat.cast_zero]
    exact ite_lt_one_eq_clamp circularInner_one h
  · rw [superSphericalNatCor_real, hyp_one, hyp_one, sphericalCor_eq, ha, ← ite_lt_one_eq_clamp sphericalPoly_one,
      sphericalPoly_real]
    refine if_congr Iff.rfl ?_ rfl
    ring

/-- SuperSpherical with a natural `ν = n` (and HyperSpherical in odd dimension `d = 2n + 1`): the model's
    terminating series is the documented `1 - h ₂F₁(1/2, -n; 3/2; h²) / ₂F₁(1/2, -n; 3/2; 1)` with Mathlib's
    Gauss hypergeometric function -/
theorem superSpherical_nat_is_hypergeometric (n : ℕ) (h : ℝ) :
    superSphericalNatCor n h =
      if h < 1 then 1 - h * (1 / ordinaryHypergeometric (1 / 2 : ℝ) (-(n:ℝ)) (3 / 2) (1:ℝ))
        * ordinaryHypergeometric (1 / 2 : ℝ) (-(n:ℝ)) (3 / 2) (h ^ 2)
      else 0 := by
  rw [superSphericalNatCor_real, hyp2f1HalfNegNat_eq, hyp2f1HalfNegNat_eq]

/-- the compactly supported closed forms are continuous: the branches of the code agree at the edge -/
theorem compact_support_continuous :
    Continuous (sphericalCor : ℝ → ℝ) ∧ Continuous (cubicCor : ℝ → ℝ) ∧ Continuous (linearCor : ℝ → ℝ) ∧
    Continuous (circularCor : ℝ → ℝ) ∧ (∀ nu : ℝ, 0 < nu → Continuous (tplSimpleCor nu : ℝ → ℝ)) := by
  have harccos := Real.continuous_arccos
  simp only [funext sphericalCor_eq, funext sphericalPoly_real, funext cubicCor_eq, funext cubicPoly_real,
    funext linearCor_eq, funext circularCor_eq, funext circularInner_real, funext (tplSimpleCor_eq _)]
  exact ⟨by fun_prop, by fun_prop, by fun_prop, by fun_prop,
    fun nu hnu => Continuous.rpow_const (by fun_prop) fun _ => Or.inr hnu.le⟩

/-! ## integral scales -/

/-- the integral scale of a model defined through `cor` is `len_scale / rescale` times that of `cor` -/
theorem integral_scale_scaling (p : Par ℝ) (c : ℝ → ℝ) (hl : 0 < p.lenScale) (hs : 0 < p.rescale) :
    ∫ r in Ioi (0:ℝ), (fromCor p c).correlation r = integralScale p (∫ h in Ioi (0:ℝ), c h) := by
  show ∫ r in Ioi (0:ℝ), c (|r| / lenRescaled p) = lenRescaled p * _
  simpa only [div_eq_inv_mul, inv_inv] using
    integral_comp_mul_abs c (lenRescaled p)⁻¹ (inv_pos.mpr (lenRescaled_pos hl hs))

theorem integral_scale_gaussian (p : Par ℝ) (hl : 0 < p.lenScale) (hs : 0 < p.rescale) :
    ∫ r in Ioi (0:ℝ), (fromCor p gaussianCor).correlation r = integralScale p gaussianCorIntegral := by
  rw [integral_scale_scaling p _ hl hs, integral_gaussianCor]

theorem integral_scale_exponential (p : Par ℝ) (hl : 0 < p.lenScale) (hs : 0 < p.rescale) :
    ∫ r in Ioi (0:ℝ), (fromCor p exponentialCor).correlation r = integralScale p exponentialCorIntegral := by
  rw [integral_scale_scaling p _ hl hs, integral_exponentialCor]

/-- Stable, every `α > 0`: the integral of the correlation over the lags is `len_rescaled * Γ(1 + 1/α)`, the value
    `Stable.calc_integral_scale` returns (`stableCalcIS`) -/
theorem integral_scale_stable (p : Par ℝ) (a : ℝ) (ha : 0 < a) (hl : 0 < p.lenScale) (hs : 0 < p.rescale) :
    ∫ r in Ioi (0:ℝ), (fromCor p (stableCor a)).correlation r
      = lenRescaled p * Real.Gamma (1 + 1 / a) := by
  rw [integral_scale_scaling p _ hl hs, integral_stableCor a ha]; rfl

theorem integral_scale_linear (p : Par ℝ) (hl : 0 < p.lenScale) (hs : 0 < p.rescale) :
    ∫ r in Ioi (0:ℝ), (fromCor p linearCor).correlation r = integralScale p linearCorIntegral := by
  rw [integral_scale_scaling p _ hl hs, integral_linearCor]

theorem integral_scale_spherical (p : Par ℝ) (hl : 0 < p.lenScale) (hs : 0 < p.rescale) :
    ∫ r in Ioi (0:ℝ), (fromCor p sphericalCor).correlation r = integralScale p sphericalCorIntegral := by
  rw [integral_scale_scaling p _ hl hs, integral_sphericalCor]

theorem integral_scale_cubic (p : Par ℝ) (hl : 0 < p.lenScale) (hs : 0 < p.rescale) :
    ∫ r in Ioi (0:ℝ), (fromCor p cubicCor).correlation r = integralScale p cubicCorIntegral := by
  rw [integral_scale_scaling p _ hl hs, integral_cubicCor]

theorem integral_scale_tplSimple (p : Par ℝ) (nu : ℝ) (hnu : 0 < nu) (hl : 0 < p.lenScale)
    (hs : 0 < p.rescale) :
    ∫ r in Ioi (0:ℝ), (fromCor p (tplSimpleCor nu)).correlation r
      = integralScale p (tplSimpleCorIntegral nu) := by
  rw [integral_scale_scaling p _ hl hs, integral_tplSimpleCor nu hnu]

theorem integral_scale_circular (p : Par ℝ) (hl : 0 < p.lenScale) (hs : 0 < p.rescale) :
    ∫ r in Ioi (0:ℝ), (fromCor p circularCor).correlation r = integralScale p circularCorIntegral := by
  rw [integral_scale_scaling p _ hl hs, integral_circularCor]

/-- Matern on the slices `ν = 1/2, 3/2, 5/2` where `K_ν` is elementary -/
theorem integral_scale_matern_slices (p : Par ℝ) (hl : 0 < p.lenScale) (hs : 0 < p.rescale) :
    ∫ r in Ioi (0:ℝ), (fromCor p matern12Cor).correlation r = integralScale p matern12CorIntegral ∧
    ∫ r in Ioi (0:ℝ), (fromCor p matern32Cor).correlation r = integralScale p matern32CorIntegral ∧
    ∫ r in Ioi (0:ℝ), (fromCor p matern52Cor).correlation r = integralScale p matern52CorIntegral := by
  simp only [integral_scale_scaling p _ hl hs, integral_matern12Cor, integral_matern32Cor, integral_matern52Cor,
    and_self]

/-- Rational on the slice `α = 1` -/
theorem integral_scale_rational_one (p : Par ℝ) (hl : 0 < p.lenScale) (hs : 0 < p.rescale) :
    ∫ r in Ioi (0:ℝ), (fromCor p (rationalCor 1)).correlation r = lenRescaled p * (Real.pi / 2) := by
  rw [integral_scale_scaling p _ hl hs, integral_rationalCor_one]; rfl

/-- the closed forms returned by `Gaussian.calc_integral_scale` and `Exponential.calc_integral_scale`
    are the integral of the correlation; with the default rescale `√π/2` the Gaussian length scale *is*
    the integral scale -/
theorem reported_integral_scale (p : Par ℝ) (hl : 0 < p.lenScale) (hs : 0 < p.rescale) :
    gaussianCalcIS p = ∫ r in Ioi (0:ℝ), (fromCor p gaussianCor).correlation r ∧
    exponentialCalcIS p = ∫ r in Ioi (0:ℝ), (fromCor p exponentialCor).correlation r ∧
    (p.rescale = gaussianRescale → gaussianCalcIS p = p.lenScale) := by
  have hg : gaussianCalcIS p = integralScale p gaussianCorIntegral := mul_div_assoc _ _ _
  refine ⟨?_, ?_, fun h => ?_⟩
  · rw [integral_scale_gaussian p hl hs, hg]
  · rw [integral_scale_exponential p hl hs]; simp [exponentialCalcIS, integralScale, exponentialCorIntegral]
  · have hpi : (Real.sqrt Real.pi / 2) ≠ 0 := div_ne_zero (Real.sqrt_pos.mpr Real.pi_pos).ne' two_ne_zero
    rw [hg, integralScale, lenRescaled, h]
    simp only [gaussianRescale, gaussianCorIntegral, sqrt_real, pi_real, Nat.cast_ofNat]
    exact div_mul_cancel₀ _ hpi

/-- `Stable.calc_integral_scale = len_rescaled * Γ(1 + 1/α)` (uses `scipy.special.gamma`, not in the driver) -/
noncomputable def stableCalcIS (a : ℝ) (p : Par ℝ) : ℝ := lenRescaled p * Real.Gamma (1 + 1 / a)

/-- `Matern.calc_integral_scale = len_rescaled * π / √ν / B(ν, 1/2)`, `B(a, b) = Γ(a) Γ(b) / Γ(a + b)` -/
noncomputable def maternCalcIS (nu : ℝ) (p : Par ℝ) : ℝ :=
  lenRescaled p * Real.pi / Real.sqrt nu / (Real.Gamma nu * Real.Gamma (1 / 2) / Real.Gamma (nu + 1 / 2))

/-- `Rational.calc_integral_scale = len_rescaled * √(π α) * Γ(α - 1/2) / Γ(α) / 2` -/
noncomputable def rationalCalcIS (a : ℝ) (p : Par ℝ) : ℝ :=
  lenRescaled p * Real.sqrt (Real.pi * a) * Real.Gamma (a - 1 / 2) / Real.Gamma a / 2

/-- `B(ν, 1/2)`, the Beta value in `Matern.calc_integral_scale` -/
noncomputable def betaHalf (nu : ℝ) : ℝ := Real.Gamma nu * Real.Gamma (1 / 2) / Real.Gamma (nu + 1 / 2)

theorem betaHalf_succ {nu : ℝ} (h : 0 < nu) : betaHalf (nu + 1) = nu / (nu + 1 / 2) * betaHalf nu := by
  rw [betaHalf, betaHalf, Real.Gamma_add_one h.ne', add_right_comm, Real.Gamma_add_one (add_pos h one_half_pos).ne',
    mul_assoc, mul_div_mul_comm]

theorem half_eq : (0.5:ℝ) = 1 / 2 := by norm_num

theorem maternCalcIS_of_beta {p : Par ℝ} {nu c : ℝ} (hB : betaHalf nu = Real.pi / c) :
    maternCalcIS nu p = integralScale p (c / Real.sqrt nu) := by
  rw [maternCalcIS, ← betaHalf, hB, integralScale, div_div_eq_mul_div, mul_div_right_comm, div_right_comm,
    mul_div_cancel_right₀ _ Real.pi_ne_zero, div_mul_eq_mul_div, mul_div_assoc]

/-- the special-function closed forms of `calc_integral_scale` are the integral of the correlation:
    Stable for every `α > 0`; Matern at `ν = 1/2, 3/2, 5/2`; Rational at `α = 1` -/
theorem reported_integral_scale_special (p : Par ℝ) (hl : 0 < p.lenScale) (hs : 0 < p.rescale) :
    (∀ a : ℝ, 0 < a → stableCalcIS a p = ∫ r in Ioi (0:ℝ), (fromCor p (stableCor a)).correlation r) ∧
    maternCalcIS (1 / 2) p = ∫ r in Ioi (0:ℝ), (fromCor p matern12Cor).correlation r ∧
    maternCalcIS (3 / 2) p = ∫ r in Ioi (0:ℝ), (fromCor p matern32Cor).correlation r ∧
    maternCalcIS (5 / 2) p = ∫ r in Ioi (0:ℝ), (fromCor p matern52Cor).correlation r ∧
    rationalCalcIS 1 p = ∫ r in Ioi (0:ℝ), (fromCor p (rationalCor 1)).correlation r := by
  have hpi : Real.sqrt Real.pi * Real.sqrt Real.pi = Real.pi := Real.mul_self_sqrt Real.pi_pos.le
  obtain ⟨h12, h32, h52⟩ := integral_scale_matern_slices p hl hs
  have b12 : betaHalf (1 / 2) = Real.pi / 1 := by
    rw [betaHalf, add_halves, Real.Gamma_one, Real.Gamma_one_half_eq, hpi]
  have b32 : betaHalf (3 / 2) = Real.pi / 2 := by
    rw [show (3:ℝ) / 2 = 1 / 2 + 1 by norm_num, betaHalf_succ one_half_pos, b12]; ring
  have b52 : betaHalf (5 / 2) = Real.pi / (8 / 3) := by
    rw [show (5:ℝ) / 2 = 3 / 2 + 1 by norm_num, betaHalf_succ (by norm_num), b32]; ring
  refine ⟨fun a ha => (integral_scale_stable p a ha hl hs).symm, ?_, ?_, ?_, ?_⟩
  · rw [h12, maternCalcIS_of_beta b12, matern12CorIntegral, sqrt_real, Nat.cast_one, half_eq]
  · rw [h32, maternCalcIS_of_beta b32, matern32CorIntegral, sqrt_real, Nat.cast_ofNat, show (1.5:ℝ) = 3 / 2 by norm_num]
  · rw [h52, maternCalcIS_of_beta b52, matern52CorIntegral, sqrt_real, Nat.cast_ofNat, Nat.cast_ofNat,
      show (2.5:ℝ) = 5 / 2 by norm_num]
  · rw [integral_scale_rational_one p hl hs, rationalCalcIS, sub_half, Real.Gamma_one, Real.Gamma_one_half_eq,
      mul_one, div_one, mul_assoc, hpi, mul_div_assoc]

/-- prescribing the integral scale: if `calc_integral_scale` is `len_rescaled * I₀` (which is what
    `integral_scale_scaling` shows for every model), then after the setter the reported scale is the
    prescribed one -/
theorem integral_scale_setter (calcIS : Par ℝ → ℝ) (I0 : ℝ) (hI0 : I0 ≠ 0)
    (hcalc : ∀ q, calcIS q = lenRescaled q * I0) (p : Par ℝ) (hs : p.rescale ≠ 0) (I : ℝ) :
    calcIS (setIntegralScale calcIS p I) = I := by
  simp only [setIntegralScale, hcalc, lenRescaled]
  push_cast
  field_simp

/-- prescribing the integral scale of a model defined through `cor`: after the setter the integral of the
    correlation over all lags is the prescribed value -/
theorem integral_scale_setter_cor (c : ℝ → ℝ) (hI0 : 0 < ∫ h in Ioi (0:ℝ), c h) (p : Par ℝ)
    (hs : 0 < p.rescale) (I : ℝ) (hI : 0 < I) :
    let calcIS : Par ℝ → ℝ := fun q => lenRescaled q * ∫ h in Ioi (0:ℝ), c h
    ∫ r in Ioi (0:ℝ), (fromCor (setIntegralScale calcIS p I) c).correlation r = I := by
  intro calcIS
  have hlen : 0 < (setIntegralScale calcIS p I).lenScale :=
    div_pos hI (mul_pos (div_pos (Nat.cast_pos.mpr one_pos) hs) hI0)
  rw [integral_scale_scaling _ c hlen hs]
  exact integral_scale_setter calcIS _ hI0.ne' (fun q => rfl) p hs.ne' I

/-! ## percentile scale -/

/-- the percentile scale: a root `x` of the curve `1 - correlation(x) - per` that
    `tools.percentile_scale` hands to the root finder is a lag at which the variogram has risen by the
    fraction `per` of the variance -/
theorem percentile_spec (p : Par ℝ) (F : Fns ℝ) (hF : Consistent p F) (x per : ℝ)
    (hroot : 1 - F.correlation x - per = 0) : F.variogram x = p.nugget + per * p.var := by
  rw [hF.vario, hF.cov]
  linear_combination p.var * hroot

theorem percentile_exponential_gaussian (p : Par ℝ) (per : ℝ) (h0 : 0 < per) (h1 : per < 1)
    (hl : 0 < p.lenScale) (hs : 0 < p.rescale) :
    1 - (fromCor p exponentialCor).correlation (lenRescaled p * -Real.log (1 - per)) - per = 0 ∧
    1 - (fromCor p gaussianCor).correlation (lenRescaled p * Real.sqrt (-Real.log (1 - per))) - per = 0 := by
  have hpos : 0 < 1 - per := sub_pos.mpr h1
  have hlog : 0 ≤ -Real.log (1 - per) := neg_nonneg.mpr (Real.log_nonpos hpos.le (sub_le_self 1 h0.le))
  have hexp : Real.exp (Real.log (1 - per)) = 1 - per := Real.exp_log hpos
  constructor
  · rw [correlation_lenRescaled_mul p _ hl hs hlog, exponentialCor, exp_real, neg_neg, hexp, sub_sub_cancel, sub_self]
  · rw [correlation_lenRescaled_mul p _ hl hs (Real.sqrt_nonneg _), gaussianCor, exp_real, npow_real,
      Real.sq_sqrt hlog, neg_neg, hexp, sub_sub_cancel, sub_self]

/-! ## tools/special.py: the plumbing of the exponential-integral families -/

theorem band_lt_half {a : ℝ} (ha : a ≤ 40000) : (1e-8:ℝ) + 1e-5 * a < 1 / 2 := by
  linear_combination 1e-5 * ha

theorem expIntPlan_eq_expn_iff {s : ℝ} {n : ℤ} : expIntPlan s = .expn n ↔
    ¬ |s - 1| ≤ 1e-8 + 1e-5 * |(1:ℝ)| ∧ |s - round s| ≤ 1e-8 + 1e-5 * |(round s : ℝ)| ∧ -(0.5:ℝ) < s ∧ round s = n := by
  simp only [expIntPlan, around_real, Nat.cast_one, ← iscloseTo_iff]
  split_ifs with h1 h2 <;> simp_all

/-- integer-order shortcut of `exp_int`: the order handed to `scipy.special.expn` is THE integer nearest to `s`,
    it is non-negative, and `s` lies within the `np.isclose` band of it -/
theorem expIntPlan_expn_spec (s : ℝ) (n : ℤ) (h : expIntPlan s = .expn n) :
    n = round s ∧ |s - n| ≤ 1e-8 + 1e-5 * |(n:ℝ)| ∧ 0 ≤ n ∧ |s - n| ≤ 1 / 2 := by
  obtain ⟨-, hc, hs, rfl⟩ := expIntPlan_eq_expn_iff.mp h
  refine ⟨rfl, hc, ?_, abs_sub_round s⟩
  rw [round_eq, Int.floor_nonneg, ← half_eq]
  exact (neg_lt_iff_pos_add.mp hs).le

/-- conversely: an order inside the `np.isclose` band of an integer `m ≥ 0` (other than the `exp1` band around 1)
    is evaluated as `expn(m, ·)` — never as a neighbouring integer order -/
theorem expIntPlan_of_integer_close (s : ℝ) (m : ℤ) (hm : |s - m| ≤ 1e-8 + 1e-5 * |(m:ℝ)|)
    (hbig : |(m:ℝ)| ≤ 40000) (h1 : ¬ |s - 1| ≤ 1e-8 + 1e-5) (hs : -(0.5:ℝ) < s) :
    expIntPlan s = .expn m := by
  have hr : round s = m := round_eq_of_abs_sub_lt (hm.trans_lt (band_lt_half hbig))
  rw [expIntPlan_eq_expn_iff, hr, abs_one, mul_one]
  exact ⟨h1, hm, hs, rfl⟩

theorem expIntPlan_int (m : ℤ) (hm : 2 ≤ m) (hbig : m ≤ 40000) : expIntPlan ((m:ℤ):ℝ) = .expn m := by
  have h2 : (2:ℝ) ≤ m := by exact_mod_cast hm
  rw [expIntPlan_eq_expn_iff, round_intCast, sub_self, abs_zero, abs_one, mul_one]
  exact ⟨not_le.mpr (lt_of_lt_of_le (by linear_combination h2) (le_abs_self _)), by positivity,
    by linear_combination h2, rfl⟩

example : expIntPlan (4:ℝ) = .expn 4 := by simpa using expIntPlan_int 4 (by norm_num) (by norm_num)
/-- an order a rounding error (or up to `1e-5` relative) BELOW the integer is still evaluated as that integer order -/
example : expIntPlan ((4:ℝ) - 1e-6) = .expn 4 := by
  have := expIntPlan_of_integer_close ((4:ℝ) - 1e-6) 4 (by norm_num [abs_of_pos]) (by norm_num)
    (by rw [abs_of_pos] <;> norm_num) (by norm_num)
  simpa using this

/-- `G(·, x)` satisfies the recurrence of the upper incomplete gamma function:
    `Γ(a + 1, x) = a Γ(a, x) + x^a e^{-x}` -/
def GammaRec (G : ℝ → ℝ → ℝ) (x : ℝ) : Prop := ∀ a : ℝ, G (a + 1) x = a * G a x + x ^ a * Real.exp (-x)

/-- the scipy primitives return the values of `G` at `x`: `gamma(a) gammaincc(a, x) = Γ(a, x)` for `a ≥ 0`,
    `exp1(x) = Γ(0, x)`, `x^{1-n} expn(n, x) = Γ(1 - n, x)` -/
structure PrimsExact (P : Prims ℝ) (G : ℝ → ℝ → ℝ) (x : ℝ) : Prop where
  gammaQ : ∀ a : ℝ, 0 ≤ a → P.gammaQ a x = G a x
  exp1 : P.exp1 x = G 0 x
  expn : ∀ n : ℤ, 1 ≤ n → x ^ ((1:ℝ) - n) * P.expn n x = G (1 - n) x

/-- no shortcut of `inc_gamma` fires on `s`, `s + 1`, `s + 2`, …: none of them is within `1e-8` of `0` or inside the
    `np.isclose` band of an integer below `-0.5` -/
def NoSnap (s : ℝ) : Prop :=
  ∀ k : ℕ, ¬ |s + k| ≤ 1e-8 ∧
    ¬ (|s + k - round (s + k)| ≤ 1e-8 + 1e-5 * |((round (s + k) : ℤ) : ℝ)| ∧ s + k < -(0.5:ℝ))

theorem NoSnap.succ {s : ℝ} (h : NoSnap s) : NoSnap (s + 1) := fun k => by
  have := h (k + 1)
  rwa [Nat.cast_succ, ← add_assoc, add_right_comm] at this

/-- half-integer orders: `n + 1/2 + k` is `1/2` away from its nearest integer, so at least as far from `0`, and farther
    than the band of an integer up to `40000` -/
theorem noSnap_half_integer (n : ℤ) (hn : -40000 ≤ n) : NoSnap ((n:ℝ) + 1 / 2) := by
  intro k
  rw [add_right_comm, ← Int.cast_natCast (R := ℝ), ← Int.cast_add]
  have hnj : -40000 ≤ n + k := hn.trans (le_add_of_nonneg_right k.cast_nonneg)
  generalize n + (k:ℤ) = j at hnj ⊢
  have hr : round ((j:ℝ) + 1 / 2) = j + 1 := by
    rw [round_intCast_add, one_div, round_two_inv]
  have hd : |(j:ℝ) + 1 / 2 - round ((j:ℝ) + 1 / 2)| = 1 / 2 := by
    rw [hr, Int.cast_add, Int.cast_one, add_sub_add_left_eq_sub, abs_sub_comm, sub_half, abs_of_pos (one_half_pos (α := ℝ))]
  refine ⟨fun h => ?_, fun ⟨hb, hlt⟩ => ?_⟩
  · have := round_le ((j:ℝ) + 1 / 2) 0
    rw [hd, Int.cast_zero, sub_zero] at this
    exact absurd (this.trans h) (by norm_num)
  · -- below `-1/2` the nearest integer `j + 1` lies in `[-39999, -1]`
    have hnr : (-40000:ℝ) ≤ j := by exact_mod_cast hnj
    rw [half_eq, lt_neg_iff_add_neg, add_assoc, add_halves] at hlt
    rw [hd, hr, Int.cast_add, Int.cast_one, abs_of_neg hlt] at hb
    exact absurd hb (not_le.mpr (band_lt_half (by linear_combination hnr)))

theorem noSnap_neg_three_halves : NoSnap (-(3/2:ℝ)) := by
  have := noSnap_half_integer (-2) (by norm_num)
  rwa [show ((-2:ℤ):ℝ) + 1 / 2 = -(3 / 2) by norm_num] at this

theorem incGammaPlan_succ (fuel : ℕ) (s : ℝ) :
    incGammaPlan (fuel + 1) s =
      if |s| ≤ 1e-8 then .exp1
      else if |s - round s| ≤ 1e-8 + 1e-5 * |(round s : ℝ)| ∧ s < -(0.5:ℝ) then .powExpn s (1 - round s)
      else if s < 0 then .down s (incGammaPlan fuel (s + 1)) else .gammaQ s := by
  simp only [incGammaPlan, around_real, Nat.cast_zero, Nat.cast_one, Bool.and_eq_true, decide_eq_true_iff, iscloseTo_iff,
    sub_zero, abs_zero, mul_zero, add_zero]

theorem incGammaPlan_step {fuel : ℕ} {s : ℝ} (h : NoSnap s) :
    incGammaPlan (fuel + 1) s = if s < 0 then .down s (incGammaPlan fuel (s + 1)) else .gammaQ s := by
  have h0 := h 0
  rw [Nat.cast_zero, add_zero] at h0
  rw [incGammaPlan_succ, if_neg h0.1, if_neg h0.2]

/-- for every function `G` that satisfies the recurrence of `Γ(·, x)` (`GammaRec`) and whose values the scipy primitives
    return at `x` (`PrimsExact`): off the shortcut bands `inc_gamma(s, x) = G(s, x)` for every order `s > -fuel` (the
    recursion climbs to an order `≥ 0`, where `gamma · gammaincc` is called).  `G` itself is not interpreted. -/
theorem incGamma_correct (P : Prims ℝ) (G : ℝ → ℝ → ℝ) (x : ℝ) (hrec : GammaRec G x) (hP : PrimsExact P G x) :
    ∀ (fuel : ℕ) (s : ℝ), -(fuel:ℝ) < s → NoSnap s → incGamma P (fuel + 1) s x = some (G s x) := by
  intro fuel
  induction fuel with
  | zero =>
    intro s hs hn
    rw [Nat.cast_zero, neg_zero] at hs
    rw [incGamma, incGammaPlan_step hn, if_neg hs.not_gt, evalG, hP.gammaQ s hs.le]
  | succ fuel ih =>
    intro s hs hn
    rw [incGamma, incGammaPlan_step hn]
    split_ifs with h0
    · rw [Nat.cast_succ, neg_add, ← sub_eq_add_neg, sub_lt_iff_lt_add] at hs
      rw [evalG, ← incGamma, ih (s + 1) hs hn.succ, Option.map_some, hrec s, rpow_real, exp_real,
        add_sub_cancel_right, mul_div_cancel_left₀ _ h0.ne]
    · rw [evalG, hP.gammaQ s (not_lt.mp h0)]

/-- at a non-positive integer order `-m` the shortcut of `inc_gamma` (`exp1(x)` for `m = 0`, else `x^{-m} expn(m+1, x)`)
    returns `G(-m, x)`, for every `G` with `PrimsExact` -/
theorem incGamma_nonpos_int (P : Prims ℝ) (G : ℝ → ℝ → ℝ) (x : ℝ) (hP : PrimsExact P G x) (m : ℕ) (fuel : ℕ) :
    incGamma P (fuel + 1) (-(m:ℝ)) x = some (G (-(m:ℝ)) x) := by
  rw [incGamma, incGammaPlan_succ]
  rcases Nat.eq_zero_or_pos m with rfl | hm
  · rw [Nat.cast_zero, neg_zero, if_pos (abs_zero.trans_le (by norm_num)), evalG, hP.exp1]
  · have hm1 : (1:ℝ) ≤ m := Nat.one_le_cast.mpr hm
    have hr : round (-(m:ℝ)) = -(m:ℤ) := by rw [← Int.cast_natCast, ← Int.cast_neg, round_intCast]
    have := hP.expn ((m:ℤ) + 1) (by omega)
    rw [Int.cast_add, Int.cast_one, Int.cast_natCast, sub_add_cancel_right] at this
    rw [if_neg, hr, if_pos, sub_neg_eq_add, add_comm 1]
    · exact congrArg some this
    · refine ⟨?_, by linear_combination hm1⟩
      rw [Int.cast_neg, Int.cast_natCast, sub_self, abs_zero]
      positivity
    · rw [abs_neg, Nat.abs_cast]
      exact not_le.mpr (by linear_combination hm1)

/-- the complete gamma function is an instance: `G(a, 0) = Γ(a)` satisfies the recurrence at `x = 0`, with primitives
    that return its values -/
example : GammaRec (fun a _ => Real.Gamma a) 0 ∧
    PrimsExact ⟨fun _ => 0, fun _ _ => 0, fun a _ => Real.Gamma a, fun _ _ => 0⟩ (fun a _ => Real.Gamma a) 0 := by
  refine ⟨fun a => ?_, ⟨fun a _ => rfl, ?_, fun n hn => ?_⟩⟩
  · by_cases ha : a = 0
    · subst ha; simp [Real.Gamma_zero]
    · simp only [neg_zero, Real.exp_zero, mul_one, Real.zero_rpow ha, add_zero]
      exact Real.Gamma_add_one ha
  · simp [Real.Gamma_zero]
  · obtain ⟨m, rfl⟩ : ∃ m : ℕ, n = (m:ℤ) + 1 := ⟨(n - 1).toNat, by omega⟩
    push_cast
    rw [sub_add_cancel_right, Real.Gamma_neg_nat_eq_zero]
    simp

example (P : Prims ℝ) (G : ℝ → ℝ → ℝ) (x : ℝ) (hrec : GammaRec G x) (hP : PrimsExact P G x) :
    incGamma P 3 (-(3/2:ℝ)) x = some (G (-(3/2:ℝ)) x) :=
  incGamma_correct P G x hrec hP 2 _ (by norm_num) noSnap_neg_three_halves

/-- integer-order branch of `exp_int`: the value is `expn(n, x)` for every `x` -/
theorem expInt_expn (P : Prims ℝ) (fuel : ℕ) (s x : ℝ) (n : ℤ) (h : expIntPlan s = .expn n) :
    expInt P fuel s x = .ok (P.expn n x) := by
  simp only [expInt, h]

/-- general branch of `exp_int` on a regular argument: the value is `G(1 - s, |x|) · |x|^{s-1}` for every `G` with
    `GammaRec` and `PrimsExact` at `|x|` (for `G = Γ(·, ·)` this is `E_s(x)`) -/
theorem expInt_general_fin (P : Prims ℝ) (G : ℝ → ℝ → ℝ) (x : ℝ) (hrec : GammaRec G |x|) (hP : PrimsExact P G |x|)
    (fuel : ℕ) (s : ℝ) (hplan : expIntPlan s = .general) (hcls : expIntClass s x = .fin)
    (hf : -(fuel:ℝ) < 1 - s) (hn : NoSnap (1 - s)) :
    expInt P (fuel + 1) s x = .ok (G (1 - s) |x| * |x| ^ (s - 1)) := by
  have := incGamma_correct P G |x| hrec hP fuel (1 - s) hf hn
  simp only [expInt, hplan, hcls, fabs_real, Nat.cast_one, this, rpow_real]

/-! affine expansion used by the harness -/

section
variable (E : ℝ → ℝ → ℝ)

theorem aff_eval_E (s x : ℝ) : Aff.eval E ((affAlg (α := ℝ)).E s x) = E s x := by
  simp [affAlg, Aff.eval]

theorem aff_eval_smul (a : ℝ) (f : Aff ℝ) : Aff.eval E ((affAlg (α := ℝ)).smul a f) = a * Aff.eval E f := by
  simp only [affAlg, Aff.eval_eq, List.map_map, Function.comp_def, mul_assoc, List.sum_map_mul_left]
  ring

theorem aff_eval_sdiv (d : ℝ) (f : Aff ℝ) : Aff.eval E ((affAlg (α := ℝ)).sdiv f d) = Aff.eval E f / d := by
  rw [div_eq_inv_mul, ← aff_eval_smul]
  simp only [affAlg, div_eq_inv_mul]

theorem aff_eval_sub (f g : Aff ℝ) : Aff.eval E ((affAlg (α := ℝ)).sub f g) = Aff.eval E f - Aff.eval E g := by
  have h : ∀ t : ℝ × ℝ × ℝ, -t.1 * E t.2.1 t.2.2 = -1 * (t.1 * E t.2.1 t.2.2) := fun t => by ring
  simp only [affAlg, Aff.eval_eq, List.map_append, List.sum_append, List.map_map, Function.comp_def, h,
    List.sum_map_mul_left]
  ring

end

/-- the harness evaluates `tplstable_cor` as `const + Σ coef · exp_int(s, x)`: that is the model's function -/
theorem tplstableCor_aff (E : ℝ → ℝ → ℝ) (r len hurst alpha : ℝ) :
    Aff.eval E (tplstableCorG affAlg r len hurst alpha) = tplstableCorG (totalAlg E) r len hurst alpha := by
  unfold tplstableCorG
  dsimp only
  split_ifs
  · rfl
  · rw [aff_eval_smul, aff_eval_E]; rfl

theorem integralCor_aff (E : ℝ → ℝ → ℝ) (nu h : ℝ) :
    Aff.eval E (integralCorG affAlg nu h) = integralCorG (totalAlg E) nu h := by
  unfold integralCorG
  rw [aff_eval_smul, aff_eval_E]; rfl

theorem tplCorrelation_aff (E : ℝ → ℝ → ℝ) (lenScale lenLow rescale hurst alpha r : ℝ) :
    Aff.eval E (tplCorrelationG affAlg lenScale lenLow rescale hurst alpha r)
      = tplCorrelationG (totalAlg E) lenScale lenLow rescale hurst alpha r := by
  unfold tplCorrelationG
  dsimp only
  split_ifs with h
  · exact tplstableCor_aff E _ _ _ _
  · rw [aff_eval_sdiv, aff_eval_sub, aff_eval_smul, aff_eval_smul, tplstableCor_aff, tplstableCor_aff]; rfl

/-! ## derived scales after in-place parameter changes -/

/-- what the setters accept for the parameters the integral scale depends on -/
def OpAdmissible : MOp ℝ → Prop
  | .setLenScale v => 0 < v
  | .setRescale v => 0 < v
  | .setIntegralScale I => 0 < I
  | _ => True

structure MAdmissible (st : MState ℝ) : Prop where
  lenScale : 0 < st.par.lenScale
  rescale : 0 < st.par.rescale

theorem mstep_admissible {ci : ℕ → ℝ → ℝ} (hpos : ∀ d a, 0 < ci d a) {st : MState ℝ} {op : MOp ℝ}
    (hst : MAdmissible st) (hop : OpAdmissible op) : MAdmissible (mstep ci st op) :=
  match op, hop with
  | .setLenScale _, hv => ⟨hv, hst.rescale⟩
  | .setRescale _, hv => ⟨hst.lenScale, hv⟩
  | .setIntegralScale _, hI =>
    ⟨div_pos hI (mul_pos (div_pos (Nat.cast_pos.mpr one_pos) hst.rescale) (hpos _ _)), hst.rescale⟩
  | .setVar _, _ | .setNugget _, _ | .setShape _, _ | .setDim _ _, _ | .setAnis _, _ => ⟨hst.lenScale, hst.rescale⟩

theorem mrun_admissible (ci : ℕ → ℝ → ℝ) (hpos : ∀ d a, 0 < ci d a) (ops : List (MOp ℝ)) :
    ∀ st : MState ℝ, MAdmissible st → (∀ op ∈ ops, OpAdmissible op) → MAdmissible (mrun ci st ops) := by
  induction ops with
  | nil => intro st h _; exact h
  | cons op ops ih =>
    intro st h hops
    obtain ⟨hop, hops⟩ := List.forall_mem_cons.mp hops
    exact ih _ (mstep_admissible hpos h hop) hops

/-- After ANY admissible sequence of in-place changes (optional argument, dimension, len_scale, rescale, var, nugget,
    anis, prescribed integral scale) the reported integral scale is the integral over all lags of the correlation of
    the CURRENT parameters — the value a freshly built model with these parameters reports.  `K d a` is the `cor` of
    the class in dimension `d` with optional argument `a`, `ci d a` its integral. -/
theorem history_integral_scale (K : ℕ → ℝ → ℝ → ℝ) (ci : ℕ → ℝ → ℝ)
    (hci : ∀ d a, ci d a = ∫ h in Ioi (0:ℝ), K d a h) (hpos : ∀ d a, 0 < ci d a)
    (st : MState ℝ) (hst : MAdmissible st) (ops : List (MOp ℝ)) (hops : ∀ op ∈ ops, OpAdmissible op) :
    reportedIS ci (mrun ci st ops)
      = ∫ r in Ioi (0:ℝ), (fromCor (mrun ci st ops).par
          (K (mrun ci st ops).dim (mrun ci st ops).shape)).correlation r := by
  obtain ⟨hl, hr⟩ := mrun_admissible ci hpos ops st hst hops
  rw [integral_scale_scaling _ _ hl hr, ← hci]
  rfl

/-- `integral_scale_vec` after any history is the reported `integral_scale` times `(1, anis…)` -/
theorem history_integral_scale_vec (ci : ℕ → ℝ → ℝ) (st : MState ℝ) (ops : List (MOp ℝ)) :
    reportedISVec ci (mrun ci st ops)
      = reportedIS ci (mrun ci st ops) :: (mrun ci st ops).anis.map fun a => reportedIS ci (mrun ci st ops) * a := rfl

theorem reportedIS_setIntegralScale (ci : ℕ → ℝ → ℝ) (hpos : ∀ d a, 0 < ci d a) (st : MState ℝ)
    (hr : st.par.rescale ≠ 0) (I : ℝ) : reportedIS ci (mstep ci st (.setIntegralScale I)) = I :=
  integral_scale_setter (fun q => integralScale q (ci _ _)) (ci _ _) (hpos _ _).ne' (fun _ => rfl) _ hr I

/-- whatever happened before, prescribing the integral scale makes it the reported one -/
theorem history_setter (ci : ℕ → ℝ → ℝ) (hpos : ∀ d a, 0 < ci d a) (st : MState ℝ) (hst : MAdmissible st)
    (ops : List (MOp ℝ)) (hops : ∀ op ∈ ops, OpAdmissible op) (I : ℝ) :
    reportedIS ci (mrun ci st (ops ++ [.setIntegralScale I])) = I := by
  rw [mrun, List.foldl_append]
  exact reportedIS_setIntegralScale ci hpos _ (mrun_admissible ci hpos ops st hst hops).rescale.ne' I

/-- right after the optional argument is set to `a` the reported integral scale is `len_rescaled` times the integral of
    `cor` at the NEW argument -/
theorem history_shape_change (ci : ℕ → ℝ → ℝ) (st : MState ℝ) (a : ℝ) :
    reportedIS ci (mstep ci st (.setShape a)) = lenRescaled st.par * ci st.dim a := rfl

example : MAdmissible ⟨⟨2, 3, 0.5, 1.5⟩, 2, 1.5, [0.5]⟩ := ⟨by norm_num, by norm_num⟩
example : ∀ op ∈ [MOp.setShape (2:ℝ), .setDim 3 [1, 0.5], .setLenScale 4, .setIntegralScale 0.7, .setVar 3],
    OpAdmissible op := by
  intro op h
  simp only [List.mem_cons, List.not_mem_nil, or_false] at h
  rcases h with rfl | rfl | rfl | rfl | rfl <;> norm_num [OpAdmissible]

/-- TPLSimple (optional argument clamped to its admissible range `ν ≥ 1`) satisfies the hypotheses of
    `history_integral_scale` -/
example : (∀ (_ : ℕ) (a : ℝ), tplSimpleCorIntegral (max a 1) = ∫ h in Ioi (0:ℝ), tplSimpleCor (max a 1) h) ∧
    ∀ (_ : ℕ) (a : ℝ), 0 < tplSimpleCorIntegral (max a 1) := by
  have hp : ∀ a : ℝ, 0 < max a 1 := fun a => lt_of_lt_of_le one_pos (le_max_right a 1)
  refine ⟨fun _ a => (integral_tplSimpleCor _ (hp a)).symm, fun _ a => ?_⟩
  have := hp a
  simp only [tplSimpleCorIntegral]; push_cast; positivity

/-- an admissible parameter set: `var = 2`, `len_scale = 3`, `nugget = 0.5`, `rescale = 1.5`; the examples below
    instantiate theorems of this file at it -/
def exPar : Par ℝ := ⟨2, 3, 0.5, 1.5⟩

theorem exPar_var : exPar.var ≠ 0 := two_ne_zero
theorem exPar_lenScale : 0 < exPar.lenScale := three_pos
theorem exPar_rescale : 0 < exPar.rescale := by rw [exPar]; norm_num

example : Consistent exPar (fromCor exPar gaussianCor) := derived_from_cor _ _
example : Consistent exPar (fromCorrelation exPar fun r => Real.exp (-|r|)) :=
  derived_from_correlation _ _ exPar_lenScale exPar_rescale
example : Consistent exPar (fromCovariance exPar fun r => 2 * Real.exp (-|r|)) :=
  derived_from_covariance _ _ exPar_var exPar_lenScale exPar_rescale
example : Consistent exPar (fromVariogram exPar fun r => 2 * (1 - Real.exp (-|r|)) + 0.5) :=
  derived_from_variogram _ _ exPar_var exPar_lenScale exPar_rescale
example : SameOnNonneg (fromVariogram exPar (fromCor exPar sphericalCor).variogram) (fromCor exPar sphericalCor) :=
  (routes_agree exPar sphericalCor exPar_var exPar_lenScale exPar_rescale).2.2
example : varioNugget (fromCor exPar gaussianCor) 1 = (fromCor exPar gaussianCor).variogram |1| :=
  (nugget_variants_off_zero exPar _ 1 (by norm_num)).1
example : covNugget exPar (fromCor exPar gaussianCor) 1e-9 = 2 + 0.5 :=
  (nugget_variants_at_zero exPar _ 1e-9 (by rw [abs_of_pos] <;> norm_num)).2
example : (fromCor exPar gaussianCor).variogram 0 = 0.5 :=
  (base_at_zero exPar (fromCor exPar gaussianCor) (derived_from_cor _ _) cor_zero_eq_one.1).2.2.1
example : axisLag [0.5, (2:ℝ)] 2 (-3) = some (|(-3:ℝ)| / 2) := axis_succ _ 1 (by simp) _
example : Real.sqrt ((6371 * Real.cos (1000 / 6371) - 6371) ^ 2 + (6371 * Real.sin (1000 / 6371)) ^ 2)
    = chordal 6371 1000 :=
  chordal_is_chord 6371 1000 (by norm_num) (by norm_num) (by linarith [Real.two_le_pi])
example : ∫ r in Ioi (0:ℝ), (fromCor exPar cubicCor).correlation r = integralScale exPar cubicCorIntegral :=
  integral_scale_cubic exPar exPar_lenScale exPar_rescale
example : ∫ r in Ioi (0:ℝ), (fromCor exPar (tplSimpleCor 2)).correlation r = integralScale exPar (tplSimpleCorIntegral 2) :=
  integral_scale_tplSimple exPar 2 (by norm_num) exPar_lenScale exPar_rescale
example : gaussianCalcIS (setIntegralScale gaussianCalcIS exPar 7) = 7 :=
  integral_scale_setter gaussianCalcIS (Real.sqrt Real.pi / 2)
    (div_ne_zero (Real.sqrt_pos.mpr Real.pi_pos).ne' two_ne_zero)
    (fun q => by simp only [gaussianCalcIS, sqrt_real, pi_real]; push_cast; ring) exPar exPar_rescale.ne' 7
example : (fromCor exPar exponentialCor).variogram (lenRescaled exPar * -Real.log (1 - 0.9)) = 0.5 + 0.9 * 2 :=
  percentile_spec exPar _ (derived_from_cor _ _) _ 0.9
    (percentile_exponential_gaussian exPar 0.9 (by norm_num) (by norm_num) exPar_lenScale exPar_rescale).1

end GSV.Props.C03
