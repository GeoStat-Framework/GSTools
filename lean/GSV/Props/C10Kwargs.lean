/-
  C10 — arguments are inputs, not state.  `fit_variogram` assigns the entries it owns (`f`, `bounds`, `p0`, `xdata`, `ydata`, `loss`,
  `max_nfev`, `method`) into the caller's `curve_fit_kwargs` dictionary before handing it to `curve_fit`.
  `GSV.Model.Fit.mergeKwargs` is that assignment rule as a function on association lists, and the theorems are about this function
  alone: an entry the call assigns has the call's value whatever the caller's list held — in particular the entries of an earlier
  call — and every other entry is the caller's.  Neither the model's `fit` / `fitCore` nor the driver evaluates `mergeKwargs`, so no
  run compares it with fit.py.
-/
import GSV.Model.Fit
namespace GSV.Props.C10Kwargs
open GSV GSV.Model.Fit

variable {β : Type}

/-- an entry the call assigns is the call's value, whatever the caller's dictionary held -/
theorem merge_owned (user computed : List (String × β)) (k : String) (v : β) (h : lookupKw computed k = some v) :
    lookupKw (mergeKwargs user computed) k = some v := by
  unfold lookupKw mergeKwargs at *
  obtain ⟨kv, hkv, rfl⟩ := Option.map_eq_some_iff.mp h
  rw [List.find?_append, hkv]
  rfl

/-- an entry the call does not assign is the caller's -/
theorem merge_passthrough (user computed : List (String × β)) (k : String) (h : lookupKw computed k = none) :
    lookupKw (mergeKwargs user computed) k = lookupKw user k := by
  unfold lookupKw mergeKwargs at *
  rw [Option.map_eq_none_iff] at h
  rw [List.find?_append, h, Option.none_or, List.find?_filter]
  congr 2
  funext a
  -- an entry under `k` is not one the call assigns, so the filter keeps it
  by_cases hak : (a.1 == k) = true
  · have : computed.any (fun c => c.1 == a.1) = false := by
      rw [List.any_eq_false]
      intro c hc
      rw [beq_iff_eq.mp hak]
      exact List.find?_eq_none.mp h c hc
    simp [this, hak]
  · simp [hak]

/-- merged with what this call assigns, two callers' dictionaries — e.g. a fresh one and one that holds the entries of an
    earlier call — hold the same value under every name this call assigns -/
theorem merge_independent_of_stale (user user' computed : List (String × β)) (k : String) (v : β)
    (h : lookupKw computed k = some v) :
    lookupKw (mergeKwargs user computed) k = lookupKw (mergeKwargs user' computed) k := by
  rw [merge_owned user computed k v h, merge_owned user' computed k v h]

/-! non-trivial instance: a dictionary holding the box of an earlier fit -/
example : lookupKw (mergeKwargs [("ftol", 1), ("bounds", 7)] [("bounds", (2:Nat)), ("p0", 3)]) "bounds" = some 2 := by decide
example : lookupKw (mergeKwargs [("ftol", 1), ("bounds", 7)] [("bounds", (2:Nat)), ("p0", 3)]) "ftol" = some 1 := by decide

end GSV.Props.C10Kwargs
