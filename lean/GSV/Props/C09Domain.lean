/-
  C09 — preprocessing semantics of `vario_estimate(normalizer=…, trend=…, mean=…)`: a value that, after removing the
  trend, lies ON or BELOW the bound of the OPEN domain of a range-limited normalizer (0 for LogNormal / BoxCox, −shift for
  BoxCoxShift) is handed to the kernel as missing (`none` = NaN) — and by `C09.nan_point_no_contribution` a value missing in
  every field enters no pair.  A value strictly inside the domain is transformed.  (Model: `GSV.Model.Norm.removeTNM`, tied to
  `remove_trend_norm_mean` by the C18 correspondence and, for the estimator's own call, by the C09 correspondence.)
-/
import GSV.RealInst
import GSV.Model.Norm
import Mathlib.Tactic.NormNum
namespace GSV.Props.C09Domain
open GSV GSV.Transc GSV.Model.Norm

theorem isinf_real (x : ℝ) : isinf x = false := by simp [isinf]

/-- on or below the lower bound of the domain the datum is invalid -/
theorem below_lower_bound_invalid (r : Rng ℝ) (l x : ℝ) (h : r.lo = some l) (hx : x ≤ l) : valid r x = false := by
  obtain ⟨lo, hi⟩ := r
  simp only at h
  subst h
  cases hi <;> simp [valid, inRange, not_lt.mpr hx]

/-- the lower bound of the domain is excluded: the interval is open -/
theorem on_lower_bound_invalid (r : Rng ℝ) (l : ℝ) (h : r.lo = some l) : valid r l = false :=
  below_lower_bound_invalid r l l h le_rfl

/-- strictly above a lower bound of a half-line the datum is valid -/
theorem above_lower_bound_valid (l x : ℝ) (hx : l < x) : valid (⟨some l, none⟩ : Rng ℝ) x = true := by
  simp [valid, inRange, isinf_real, hx]

/-- the lower domain bound of the three range-limited normalizers -/
noncomputable def lowerBound (k : Kind) (p : Par ℝ) : Option ℝ := (normRange k p).lo

theorem lowerBound_logNormal (p : Par ℝ) : lowerBound .logNormal p = some 0 := by simp [lowerBound, normRange]
theorem lowerBound_boxCox (p : Par ℝ) : lowerBound .boxCox p = some 0 := by simp [lowerBound, normRange]
theorem lowerBound_boxCoxShift (p : Par ℝ) : lowerBound .boxCoxShift p = some (-p.shift) := by simp [lowerBound, normRange]

/-- `normalize` of a value on or below the open bound is missing -/
theorem normalize_at_or_below_bound (k : Kind) (p : Par ℝ) (l x : ℝ) (h : lowerBound k p = some l) (hx : x ≤ l) :
    Model.Norm.normalize k p x = none := by
  unfold Model.Norm.normalize
  rw [below_lower_bound_invalid (normRange k p) l x h hx]
  simp

/-- the estimator's preprocessing `normalize(field − trend) − mean`: a value whose DETRENDED part is on or below the bound is
    missing, whatever trend and mean are -/
theorem removeTNM_at_or_below_bound (k : Kind) (p : Par ℝ) (l mean trend v : ℝ) (h : lowerBound k p = some l)
    (hv : v - trend ≤ l) : removeTNM k p mean trend v = none := by
  unfold removeTNM
  rw [normalize_at_or_below_bound k p l (v - trend) h hv]
  rfl

/-- exact zeros under LogNormal / BoxCox (the rainfall case) are missing -/
theorem zero_missing_boxCox (p : Par ℝ) (mean : ℝ) : removeTNM .boxCox p mean 0 0 = none :=
  removeTNM_at_or_below_bound .boxCox p 0 mean 0 0 (lowerBound_boxCox p) (by norm_num)

theorem zero_missing_logNormal (p : Par ℝ) (mean : ℝ) : removeTNM .logNormal p mean 0 0 = none :=
  removeTNM_at_or_below_bound .logNormal p 0 mean 0 0 (lowerBound_logNormal p) (by norm_num)

/-- the value `−shift` under BoxCoxShift is missing -/
theorem neg_shift_missing_boxCoxShift (p : Par ℝ) (mean : ℝ) : removeTNM .boxCoxShift p mean 0 (-p.shift) = none :=
  removeTNM_at_or_below_bound .boxCoxShift p (-p.shift) mean 0 (-p.shift) (lowerBound_boxCoxShift p) (by norm_num)

/-- strictly inside the domain the value is transformed (so the rule above removes nothing else) -/
theorem removeTNM_inside (k : Kind) (p : Par ℝ) (l mean trend v : ℝ) (hr : normRange k p = ⟨some l, none⟩)
    (hv : l < v - trend) : removeTNM k p mean trend v = some (normRaw k p (v - trend) - mean) := by
  unfold removeTNM Model.Norm.normalize
  rw [hr, above_lower_bound_valid l (v - trend) hv]
  rfl

/-- a detrended value on the bound (`3 - 3 = 0` under BoxCox) is missing; one inside (`4 - 3 = 1` under LogNormal) is transformed -/
example : removeTNM .boxCox (⟨0.5, 0⟩ : Par ℝ) 0.4 3 3 = none :=
  removeTNM_at_or_below_bound .boxCox _ 0 0.4 3 3 (lowerBound_boxCox _) (by norm_num)
example : ∃ y, removeTNM .logNormal (⟨1, 0⟩ : Par ℝ) 0 3 4 = some y :=
  ⟨_, removeTNM_inside .logNormal _ 0 0 3 4 (by simp [normRange]) (by norm_num)⟩

end GSV.Props.C09Domain
