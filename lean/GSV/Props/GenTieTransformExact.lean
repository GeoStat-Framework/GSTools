/-
  Tie A for the one-line array transforms (C19), EXACT form — informative, not an obligation of `./check C19`.

  Where the model text and the source text have the same operator tree the scalar maps of `GSV.Model.Transform` are
  equal to the definitions regenerated from `transform/array.py` (`GSV/Gen/TransformFormulas.lean`) on EVERY carrier `α`
  by `rfl`, hence also on `Float`.  Brittle by design: a behaviour-preserving regrouping of a source formula breaks the
  `rfl`.  The registered obligations are the `ℝ`-level theorems `GSV.Props.GenTieTransform.*_eq_model_real`; the theorems
  of this file are audited on every run and reported under `coverage.informative` of the evidence.
-/
import GSV.Props.GenTieTransform

set_option linter.unusedSectionVars false

namespace GSV.Props.GenTieTransformExact
open GSV GSV.Transc GSV.PyExpr GSV.Model.Transform GSV.Gen.TransformFormulas GSV.Props.GenTieTransform

variable {α : Type} [Arith α] [Transc α] [DecidableLT α] [DecidableLE α]

theorem array_to_lognormal_eq_model (x : α) : array_to_lognormal x = toLognormal x := rfl

theorem uniform_to_arcsin_eq_model (a b u : α) : _uniform_to_arcsin u a b = uniformToArcsin a b u := rfl

/-- `array_force_moments`: every element is mapped by the generated formula with the sample moments -/
theorem array_force_moments_eq_model (mean var : α) (l : List α) :
    forceMoments mean var l = l.map fun x => array_force_moments (lmean l) (lvar l) x mean var := rfl

end GSV.Props.GenTieTransformExact
