/-
  C19 — field transformations produce their documented target distributions.

  The definitions reasoned about are those of `GSV/Model/Transform.lean` (the same text the driver runs on `Float`
  against the real `gstools.transform`), instantiated at `ℝ`.  The standard normal cdf `Φ` and its quantile function
  `Q` are abstract: the theorems only use `IsStdNormalCdf Φ Q` (strictly increasing, values in (0,1), `Φ ∘ Q = id`
  on (0,1), symmetry; satisfiable, see `logistic_isStdNormalCdf`).  "Values with a normal marginal of mean `m` and
  variance `v`" is `NormalMarginal P X Φ m (√v)`: a random variable `X` on a probability space with
  `P(X ≤ x) = Φ((x − m)/√v)`; distributional claims are statements about `P(T(X) ≤ y)` (`Measure.real`).
  Helper lemmas live in `GSV/Lemmas/Transform.lean`.
-/
import GSV.RealInst
import GSV.Model.Transform
import GSV.Lemmas.Transform
import Mathlib.MeasureTheory.Measure.Lebesgue.Basic
import Mathlib.MeasureTheory.Function.SpecialFunctions.Basic
namespace GSV.Props.C19
open GSV GSV.Transc GSV.Model.Transform GSV.Lemmas.Transform MeasureTheory

variable {Ω : Type*} [MeasurableSpace Ω] {P : Measure Ω} {X : Ω → ℝ} {Φ Q : ℝ → ℝ}

/-! ## discrete / binary -/

/-- the documented partition of the real line by ascending thresholds `thr` into classes labelled `vals` -/
def IsPartitionMap (f : ℝ → ℝ) (vals thr : List ℝ) : Prop :=
  ∃ (hlen : vals.length = thr.length + 1) (hpos : 0 < thr.length), ∀ x,
    f x ∈ vals ∧
    (x ≤ thr[0]'hpos → f x = vals[0]'(by omega)) ∧
    (∀ i (hi : i + 1 < thr.length), thr[i] < x → x ≤ thr[i + 1] → f x = vals[i + 1]'(by omega)) ∧
    (thr[thr.length - 1]'(by omega) < x → f x = vals[thr.length]'(by omega))

/-- whatever the threshold mode: if the prepared values / thresholds have matching lengths and the thresholds are
    strictly ascending, `array_discrete` raises nothing and applies one partition map to every entry -/
theorem discrete_of_setup (Q : ℝ → ℝ) (field vals : List ℝ) (mode : ThrMode ℝ) (sv thr : List ℝ)
    (hsetup : discreteSetup Q field vals mode = .ok (sv, thr))
    (hlen : sv.length = thr.length + 1) (hpos : 0 < thr.length) (hasc : thr.Pairwise (· < ·)) :
    ∃ f : ℝ → ℝ, discrete Q field vals mode = .ok (field.map fun x => some (f x)) ∧ IsPartitionMap f sv thr := by
  have hlast : thr.length - 1 < thr.length := Nat.sub_one_lt_of_lt hpos
  have hv0 : 0 < sv.length := hlen ▸ Nat.succ_pos _
  have hvl : thr.length < sv.length := hlen ▸ Nat.lt_succ_self _
  -- `c x`: what the masked writes leave in the entry for `x`
  let c := classify sv[0] sv[thr.length] sv.tail.dropLast thr[0] thr[thr.length - 1] thr
  have hC : ∀ x i (hi : i + 1 < thr.length), thr[i]'(Nat.lt_of_succ_lt hi) < x → x ≤ thr[i + 1] →
      c x = some (sv[i + 1]'(hlen ▸ Nat.succ_lt_succ (Nat.lt_of_succ_lt hi))) := fun x i hi h1 h2 =>
    (classify_of_bracket hasc hi (by simp; omega) h1 h2).trans (by simp)
  -- one of three cases applies
  have hk : ∀ x, ∃ y ∈ sv, c x = some y := fun x => by
    rcases bracket_cases thr x hpos _ hlast with h0 | hl | ⟨i, hi, h1, h2⟩
    · exact ⟨_, List.getElem_mem hv0, classify_of_le hasc hpos h0⟩
    · exact ⟨_, List.getElem_mem hvl, classify_of_gt hasc hpos hl⟩
    · exact ⟨_, List.getElem_mem _, hC x i hi h1 h2⟩
  choose f hmem hf using hk
  refine ⟨f, ?_, hlen, hpos, fun x => ⟨hmem x,
    fun h => Option.some.inj ((hf x).symm.trans (classify_of_le hasc hpos h)),
    fun i hi h1 h2 => Option.some.inj ((hf x).symm.trans (hC x i hi h1 h2)),
    fun h => Option.some.inj ((hf x).symm.trans (classify_of_gt hasc hpos h))⟩⟩
  simp only [discrete, hsetup, (ascending_iff_pairwise thr).mpr hasc, Bool.not_true, Bool.false_eq_true, ↓reduceIte,
    List.head?_eq_getElem?, List.getLast?_eq_getElem?, hlen, Nat.add_sub_cancel, List.getElem?_eq_getElem hpos,
    List.getElem?_eq_getElem hlast, List.getElem?_eq_getElem hv0, List.getElem?_eq_getElem hvl, bind, Except.bind, pure,
    Except.pure]
  exact congrArg Except.ok (List.map_congr_left fun x _ => hf x)

/-- Discrete partition (explicit thresholds).  With `len(values) = len(thresholds) + 1` and strictly
    ascending thresholds, `array_discrete` raises nothing and maps every entry through one function `f` with
    `f x ∈ values`, `x ≤ t₀ ↦ v₀`, `t_i < x ≤ t_{i+1} ↦ v_{i+1}`, `x > t_last ↦ v_last`. -/
theorem discrete_partition (Q : ℝ → ℝ) (field vals thr : List ℝ)
    (hlen : vals.length = thr.length + 1) (hpos : 0 < thr.length) (hasc : thr.Pairwise (· < ·)) :
    ∃ f : ℝ → ℝ, discrete Q field vals (.explicit thr) = .ok (field.map fun x => some (f x)) ∧
      IsPartitionMap f vals thr :=
  discrete_of_setup Q field vals _ vals thr (by simp [discreteSetup, hlen, pure, Except.pure]) hlen hpos hasc

/-- malformed explicit thresholds raise: wrong length or not strictly ascending → `ValueError` -/
theorem discrete_explicit_errors (Q : ℝ → ℝ) (field vals thr : List ℝ) :
    (vals.length ≠ thr.length + 1 → discrete Q field vals (.explicit thr) = .error "ValueError") ∧
    (vals.length = thr.length + 1 → ¬ thr.Pairwise (· < ·) → discrete Q field vals (.explicit thr) = .error "ValueError") := by
  constructor
  · intro h
    simp [discrete, discreteSetup, h, bind, Except.bind, throw, throwThe, MonadExceptOf.throw]
  · intro h hna
    have ha : ascending thr = false := by
      rw [← Bool.not_eq_true, ascending_iff_pairwise]; exact hna
    simp [discrete, discreteSetup, h, ha, bind, Except.bind, pure, Except.pure, throw, throwThe, MonadExceptOf.throw]

example : (([1, 2, 3] : List ℝ)).length = ([0.5, 1.5] : List ℝ).length + 1 ∧
    ([0.5, 1.5] : List ℝ).Pairwise (· < ·) := by
  refine ⟨rfl, ?_⟩; simp; norm_num

/-- Binary transform (`values = [lower, upper]`, `thresholds = [divide]`): `x ≤ divide ↦ lower`, else `upper`. -/
theorem binary (Q : ℝ → ℝ) (field : List ℝ) (lower upper divide : ℝ) :
    discrete Q field [lower, upper] (.explicit [divide]) =
      .ok (field.map fun x => some (if x ≤ divide then lower else upper)) := by
  obtain ⟨f, hf, _, _, hspec⟩ :=
    discrete_partition Q field [lower, upper] [divide] rfl Nat.one_pos (List.pairwise_singleton _ _)
  refine hf.trans (congrArg Except.ok (List.map_congr_left fun x _ => congrArg some ?_))
  split_ifs with h
  · exact (hspec x).2.1 h
  · exact (hspec x).2.2.2 (lt_of_not_ge h)

/-- default `upper`/`lower` of the binary wrapper: the two-point law with weights ½, ½ on `mean ∓ √sill`
    has mean `mean` and variance `sill` -/
theorem binary_default_moments (mean sill : ℝ) (hs : 0 ≤ sill) :
    let lower := mean - sqrt sill
    let upper := mean + sqrt sill
    (lower + upper) / 2 = mean ∧ ((lower - mean) ^ 2 + (upper - mean) ^ 2) / 2 = sill := by
  simp only [sqrt_real]
  refine ⟨by ring, ?_⟩
  rw [sub_sub_cancel_left, add_sub_cancel_left, neg_sq, Real.sq_sqrt hs, add_self_div_two]

/-- default `divide = mean`: both values of the binary transform have probability ½ under a normal marginal `N(mean, s²)` -/
theorem binary_default_split (h : IsStdNormalCdf Φ Q) [IsProbabilityMeasure P] {mean s : ℝ}
    (hX : NormalMarginal P X Φ mean s) (hm : Measurable X) :
    P.real {ω | X ω ≤ mean} = 1 / 2 ∧ P.real {ω | mean < X ω} = 1 / 2 := by
  have h1 : P.real {ω | X ω ≤ mean} = 1 / 2 := by rw [hX, sub_self, zero_div, h.at_zero]
  refine ⟨h1, ?_⟩
  rw [prob_gt hX hm, ← hX, h1]; norm_num

/-! ## 'arithmetic' thresholds -/

/-- Arithmetic thresholds: `array_discrete(…, thresholds="arithmetic")` works on the sorted values
    (a sorted permutation of `values`) and uses the midpoints of neighbouring sorted values as thresholds;
    if the values are pairwise distinct the thresholds are strictly ascending. -/
theorem arithmetic_thresholds (field vals : List ℝ) :
    ∃ sv thr, discreteSetup Q field vals .arithmetic = .ok (sv, thr) ∧
      sv.Perm vals ∧ sv.Pairwise (· ≤ ·) ∧ thr.length = sv.length - 1 ∧
      (∀ i (hi : i + 1 < sv.length), thr[i]? = some ((sv[i + 1] + sv[i]'(by omega)) / 2)) ∧
      (vals.Nodup → thr.Pairwise (· < ·)) := by
  refine ⟨sortVals vals, midpoints (sortVals vals), rfl, sortVals_perm vals, sortVals_sorted vals,
    midpoints_length _, fun i hi => ?_, fun hnd =>
      midpoints_ascending (strict_of_nodup (sortVals_sorted vals) ((sortVals_perm vals).nodup_iff.mpr hnd))⟩
  have hi' : i < (midpoints (sortVals vals)).length := midpoints_length _ ▸ Nat.lt_sub_of_add_lt hi
  rw [List.getElem?_eq_getElem hi', midpoints_getElem _ i hi']

/-- with pairwise distinct values (at least two) the 'arithmetic' mode raises nothing and applies the partition map of
    the midpoints to the sorted values -/
theorem discrete_arithmetic (Q : ℝ → ℝ) (field vals : List ℝ) (hn : 2 ≤ vals.length) (hnd : vals.Nodup) :
    ∃ (f : ℝ → ℝ) (sv thr : List ℝ), discrete Q field vals .arithmetic = .ok (field.map fun x => some (f x)) ∧
      IsPartitionMap f sv thr ∧ sv.Perm vals ∧ sv.Pairwise (· ≤ ·) ∧
      (∀ i (hi : i + 1 < sv.length), thr[i]? = some ((sv[i + 1] + sv[i]'(by omega)) / 2)) := by
  obtain ⟨sv, thr, hsetup, hperm, hsorted, hlen, hmid, hasc⟩ := arithmetic_thresholds (Q := Q) field vals
  have hl : sv.length = vals.length := hperm.length_eq
  obtain ⟨f, hf, hpart⟩ := discrete_of_setup Q field vals _ sv thr hsetup (by omega) (by omega) (hasc hnd)
  exact ⟨f, sv, thr, hf, hpart, hperm, hsorted, hmid⟩

example : 2 ≤ ([3, 1, 2] : List ℝ).length ∧ ([3, 1, 2] : List ℝ).Nodup := by
  refine ⟨by simp, ?_⟩; simp

/-- a partition map whose thresholds are the midpoints of the strictly sorted values selects a nearest value -/
theorem nearest_of_partition (f : ℝ → ℝ) (sv thr : List ℝ) (hstrict : sv.Pairwise (· < ·))
    (hmid : ∀ i (hi : i + 1 < sv.length), thr[i]? = some ((sv[i + 1] + sv[i]'(by omega)) / 2))
    (hp : IsPartitionMap f sv thr) : ∀ x, ∀ v ∈ sv, |x - f x| ≤ |x - v| := by
  obtain ⟨hlen, hpos, hspec⟩ := hp
  have hlast : thr.length - 1 < thr.length := Nat.sub_one_lt_of_lt hpos
  have hthr : ∀ i (hi : i < thr.length),
      thr[i] = (sv[i + 1]'(hlen ▸ Nat.succ_lt_succ hi) + sv[i]'(hlen ▸ Nat.lt_succ_of_lt hi)) / 2 := fun i hi =>
    Option.some.inj ((List.getElem?_eq_getElem hi).symm.trans (hmid i (hlen ▸ Nat.succ_lt_succ hi)))
  intro x v hv
  obtain ⟨j, hj, rfl⟩ := List.getElem_of_mem hv
  obtain ⟨_, ha, hb, hc⟩ := hspec x
  -- `f x = sv[k]` where `k` is the class of `x`; the thresholds next to it are the midpoints to the neighbours of `sv[k]`
  rcases bracket_cases thr x hpos _ hlast with h0 | hl | ⟨i, hi, h1, h2⟩
  · rw [ha h0]
    exact nearest_of_midpoints hstrict hlen hthr _ (fun h => absurd h (lt_irrefl 0)) (fun _ => h0) j hj
  · rw [hc hl]
    exact nearest_of_midpoints hstrict hlen hthr _ (fun _ => hl) (fun h => absurd h (lt_irrefl _)) j hj
  · rw [hb i hi h1 h2]
    exact nearest_of_midpoints hstrict hlen hthr _ (fun _ => h1) (fun _ => h2) j hj

/-- Arithmetic thresholds select a nearest value: with pairwise distinct values (at least two),
    `array_discrete(field, values)` maps every entry to a value of minimal distance. -/
theorem arithmetic_nearest (Q : ℝ → ℝ) (field vals : List ℝ) (hn : 2 ≤ vals.length) (hnd : vals.Nodup) :
    ∃ f : ℝ → ℝ, discrete Q field vals .arithmetic = .ok (field.map fun x => some (f x)) ∧
      ∀ x, f x ∈ vals ∧ ∀ v ∈ vals, |x - f x| ≤ |x - v| := by
  obtain ⟨f, sv, thr, hf, hpart, hperm, hsorted, hmid⟩ := discrete_arithmetic Q field vals hn hnd
  have hstrict := strict_of_nodup hsorted (hperm.nodup_iff.mpr hnd)
  refine ⟨f, hf, fun x => ⟨?_, fun v hv => ?_⟩⟩
  · obtain ⟨_, _, hspec⟩ := hpart
    exact hperm.mem_iff.mp (hspec x).1
  · exact nearest_of_partition f sv thr hstrict hmid hpart x v (hperm.mem_iff.mpr hv)

/-! ## 'equal' thresholds -/

/-- the 'equal' thresholds `mean + √var·Φ⁻¹(i/n)` are strictly ascending -/
theorem equalThresholds_ascending (h : IsStdNormalCdf Φ Q) {m v : ℝ} {n : ℕ} (hv : 0 < v) :
    (equalThresholds Q m v n).Pairwise (· < ·) := by
  simp only [equalThresholds]
  rw [List.pairwise_map]
  refine List.Pairwise.imp_of_mem (fun {a b} ha hb hab => ?_) List.pairwise_lt_range
  have hb' : b + 1 < n := Nat.add_lt_of_lt_sub (List.mem_range.mp hb)
  have hn : (0:ℝ) < n := by exact_mod_cast Nat.zero_lt_of_lt hb'
  have hQ := h.Q_lt_Q (level_mem_Ioo ((Nat.succ_lt_succ hab).trans hb')).1
    ((div_lt_div_iff_of_pos_right hn).mpr (by exact_mod_cast Nat.succ_lt_succ hab)) (level_mem_Ioo hb').2
  exact (add_lt_add_iff_left m).mpr (mul_lt_mul_of_pos_left hQ (Real.sqrt_pos.mpr hv))

/-- 'equal' thresholds with the wrapper's `mean=`/`var=` keywords: `array_discrete` raises nothing and applies the
    partition map of the thresholds `mean + √var·Φ⁻¹(i/n)` to the values in the given order -/
theorem discrete_equal (h : IsStdNormalCdf Φ Q) (field vals : List ℝ) {m v : ℝ} (hn : 2 ≤ vals.length) (hv : 0 < v) :
    ∃ f : ℝ → ℝ, discrete Q field vals (.equal (some m) (some v)) = .ok (field.map fun x => some (f x)) ∧
      IsPartitionMap f vals (equalThresholds Q m v vals.length) :=
  discrete_of_setup Q field vals _ vals _ rfl (by rw [equalThresholds_length]; omega)
    (by rw [equalThresholds_length]; omega) (equalThresholds_ascending h hv)

/-- Equal classes ('equal' thresholds `mean + √var·Φ⁻¹(i/n)`, `i = 1 … n−1`, `n ≥ 2` values, `var > 0`):
    the thresholds are strictly ascending (so `array_discrete` does not raise), the cdf of the input marginal at the
    `i`-th threshold is `i/n`, and therefore each of the `n` classes `(-∞, t₁]`, `(t_i, t_{i+1}]`, `(t_{n−1}, ∞)` of a
    normal marginal `N(mean, var)` has probability exactly `1/n`. -/
theorem equal_classes (h : IsStdNormalCdf Φ Q) [IsProbabilityMeasure P] {m v : ℝ} {n : ℕ} (hn : 2 ≤ n) (hv : 0 < v)
    (hX : NormalMarginal P X Φ m (Real.sqrt v)) (hm : Measurable X) :
    let t := equalThresholds Q m v n
    t.Pairwise (· < ·) ∧
    (∀ i (hi : i < t.length), Φ ((t[i] - m) / Real.sqrt v) = ((i + 1 : ℕ) : ℝ) / n) ∧
    P.real {ω | X ω ≤ t[0]'(by simp [t, equalThresholds]; omega)} = 1 / n ∧
    (∀ i (hi : i + 1 < t.length), P.real {ω | t[i] < X ω ∧ X ω ≤ t[i + 1]} = 1 / n) ∧
    P.real {ω | t[t.length - 1]'(by simp [t, equalThresholds]; omega) < X ω} = 1 / n := by
  intro t
  have hn0 : (n:ℝ) ≠ 0 := Nat.cast_ne_zero.mpr (Nat.ne_zero_of_lt hn)
  have hlen : t.length = n - 1 := equalThresholds_length m v n
  have hasc : t.Pairwise (· < ·) := equalThresholds_ascending h hv
  have hcdf : ∀ i (hi : i < t.length), Φ ((t[i] - m) / Real.sqrt v) = ((i + 1 : ℕ) : ℝ) / n := fun i hi => by
    have hin : i + 1 < n := Nat.add_lt_of_lt_sub (hlen ▸ hi)
    rw [equalThresholds_getElem, add_sub_cancel_left, mul_div_cancel_left₀ _ (Real.sqrt_pos.mpr hv).ne',
      h.right_inv _ (level_mem_Ioo hin).1 (level_mem_Ioo hin).2]
  refine ⟨hasc, hcdf, ?_, fun i hi => ?_, ?_⟩
  · rw [hX, hcdf 0, zero_add, Nat.cast_one]
  · rw [prob_Ioc hX hm (List.pairwise_iff_getElem.mp hasc i (i + 1) _ hi (Nat.lt_succ_self i)).le, hcdf (i + 1) hi, hcdf i,
      ← sub_div, Nat.cast_succ (i + 1), add_sub_cancel_left]
  · rw [prob_gt hX hm, hcdf, Nat.sub_add_cancel (hlen ▸ Nat.le_sub_one_of_lt hn), hlen, Nat.cast_pred (Nat.zero_lt_of_lt hn), sub_div, div_self hn0,
      sub_sub_cancel]

/-! ## force moments -/

/-- Force moments: for a non-empty sample with non-zero sample variance and a requested variance `≥ 0`,
    the transformed sample has *exactly* the requested `np.mean` and `np.var`. -/
theorem force_moments (l : List ℝ) (hl : l ≠ []) (mean var : ℝ) (hv : 0 ≤ var) (hvar : lvar l ≠ 0) :
    lmean (forceMoments mean var l) = mean ∧ lvar (forceMoments mean var l) = var :=
  ⟨lmean_forceMoments l hl mean var, lvar_forceMoments l hl mean var hv hvar⟩

example : ([1, 3] : List ℝ) ≠ [] ∧ lvar ([1, 3] : List ℝ) ≠ 0 := by
  refine ⟨by simp, ?_⟩
  simp only [lvar, lmean, lsum, List.map, List.foldl, List.length]
  norm_num

/-! ## Box-Cox -/

/-- Box-Cox inverts the Box-Cox normalizer: `array_boxcox(bcNormalize(λ, y), λ) = y` for every `y > 0` and every `λ`
    (both branches of `isclose(λ, 0)`); `bcNormalize` is the formula of `BoxCox(λ)._normalize` as written in
    `Model.Transform`. -/
theorem boxcox_inverts_normalizer (l y : ℝ) (hy : 0 < y) : boxcox l 0 (bcNormalize l y) = y := by
  unfold boxcox bcNormalize
  cases hl : lmbdaIsZero l
  · have hl0 := lmbda_ne_zero hl
    simp only [Bool.false_eq_true, ↓reduceIte, rpow_real, Nat.cast_one, add_zero]
    have e : l * ((y ^ l - 1) / l) + 1 = y ^ l := by field_simp; ring
    rw [e, maxZero_of_nonneg (le_of_lt (Real.rpow_pos_of_pos hy l)), ← Real.rpow_mul (le_of_lt hy)]
    rw [mul_one_div_cancel hl0, Real.rpow_one]
  · simp only [↓reduceIte, toLognormal, exp_real, log_real, add_zero]
    exact Real.exp_log hy

/-- the Box-Cox normalizer formula inverts `array_boxcox` wherever nothing is cut off (`λ(x + shift) + 1 > 0`):
    `bcNormalize(λ, array_boxcox(x, λ, shift)) = x + shift`. -/
theorem normalizer_inverts_boxcox (l s x : ℝ) (hcut : 0 < l * (x + s) + 1) :
    bcNormalize l (boxcox l s x) = x + s := by
  unfold boxcox bcNormalize
  cases hl : lmbdaIsZero l
  · have hl0 := lmbda_ne_zero hl
    simp only [Bool.false_eq_true, ↓reduceIte, rpow_real, Nat.cast_one]
    rw [maxZero_of_nonneg (le_of_lt hcut), ← Real.rpow_mul (le_of_lt hcut), one_div_mul_cancel hl0, Real.rpow_one]
    field_simp; ring
  · simp only [↓reduceIte, toLognormal, exp_real, log_real]
    exact Real.log_exp _

/-- `array_boxcox(x, λ, shift)` is `bcDenormalize(λ, x + shift)` (the formula of `BoxCox(λ)._denormalize`) wherever
    nothing is cut off -/
theorem boxcox_eq_denormalize (l s x : ℝ) (hcut : 0 ≤ l * (x + s) + 1) :
    boxcox l s x = bcDenormalize l (x + s) := by
  unfold boxcox bcDenormalize
  cases hl : lmbdaIsZero l
  · simp only [Bool.false_eq_true, ↓reduceIte, rpow_real, Nat.cast_one]
    rw [maxZero_of_nonneg hcut]; congr 1; ring
  · simp [toLognormal]

/-- the "cut off" warning is emitted exactly when some entry is clipped by `np.maximum(λ·r + 1, 0)` -/
theorem boxcox_warns_iff (l s : ℝ) (f : List ℝ) :
    boxcoxWarns l s f = true ↔ lmbdaIsZero l = false ∧ ∃ x ∈ f, maxZero (l * (x + s) + 1) ≠ l * (x + s) + 1 := by
  simp only [boxcoxWarns, Bool.and_eq_true, Bool.not_eq_eq_eq_not, Bool.not_true, List.any_eq_true,
    decide_eq_true_eq, Nat.cast_one, Nat.cast_zero]
  refine and_congr Iff.rfl (exists_congr fun x => and_congr Iff.rfl ?_)
  simp only [maxZero, Nat.cast_zero]
  constructor
  · intro hh; rw [if_pos hh]; exact ne_of_gt hh
  · intro hh; by_contra hc; exact hh (if_neg hc)

/-! ## documented target cdfs -/

/-- cdf of the uniform law on `[low, high]` -/
noncomputable def uniformCdf (low high y : ℝ) : ℝ :=
  if y ≤ low then 0 else if high ≤ y then 1 else (y - low) / (high - low)

/-- cdf of the arcsine law on `[a, b]` -/
noncomputable def arcsinCdf (a b y : ℝ) : ℝ :=
  if y ≤ a then 0 else if b ≤ y then 1 else 2 / Real.pi * Real.arcsin (Real.sqrt ((y - a) / (b - a)))

/-- cdf of the U-quadratic law on `[a, b]`: `α/3·((y−β)³ + (β−a)³)` with `α = 12/(b−a)³`, `β = (a+b)/2` -/
noncomputable def uquadCdf (a b y : ℝ) : ℝ :=
  if y ≤ a then 0 else if b ≤ y then 1 else 4 * (y - (a + b) / 2) ^ 3 / (b - a) ^ 3 + 1 / 2

/-- cdf of the log-normal law with log-mean `m` and log-standard-deviation `s` -/
noncomputable def lognormalCdf (Φ : ℝ → ℝ) (m s y : ℝ) : ℝ :=
  if y ≤ 0 then 0 else Φ ((Real.log y - m) / s)

/-- Uniform: a normal marginal `N(m, v)` pushed through `array_to_uniform(mean=m, var=v, low, high)` has the
    uniform cdf on `[low, high]`. -/
theorem uniform_cdf (h : IsStdNormalCdf Φ Q) [IsProbabilityMeasure P] {m v low high : ℝ}
    (hX : NormalMarginal P X Φ m (Real.sqrt v)) (hv : 0 < v) (hlh : low < high) (y : ℝ) :
    P.real {ω | toUniform Φ m v low high (X ω) ≤ y} = uniformCdf low high y := by
  have hd : 0 < high - low := sub_pos.mpr hlh
  simp only [toUniform_eq]
  exact pushforward_cdf_clamped h hX (Real.sqrt_pos.mpr hv) (g := fun u => u * (high - low) + low)
    (F := fun y => (y - low) / (high - low)) (fun u y _ _ => by rw [le_div_iff₀ hd, ← le_sub_iff_add_le])
    (fun y hy => div_nonpos_of_nonpos_of_nonneg (sub_nonpos.mpr hy) hd.le)
    (fun y h1 h2 => ⟨div_pos (sub_pos.mpr h1) hd, (div_lt_one hd).mpr (sub_lt_sub_right h2 low)⟩)
    (fun y hy => (one_le_div hd).mpr (sub_le_sub_right hy low)) y

/-- Arcsine: `array_to_arcsin(mean=m, var=v, a, b)` (bounds given or defaulted) turns a normal marginal `N(m, v)`
    into the arcsine law on `[a', b']` (the effective bounds), provided `a' < b'`. -/
theorem arcsin_cdf (h : IsStdNormalCdf Φ Q) [IsProbabilityMeasure P] {m v : ℝ} (a b : Option ℝ)
    (hX : NormalMarginal P X Φ m (Real.sqrt v)) (hv : 0 < v)
    (hab : a.getD (arcsinDefaultA m v) < b.getD (arcsinDefaultB m v)) (y : ℝ) :
    P.real {ω | toArcsin Φ m v a b (X ω) ≤ y} =
      arcsinCdf (a.getD (arcsinDefaultA m v)) (b.getD (arcsinDefaultB m v)) y := by
  simp only [toArcsin_eq]
  have hba := sub_pos.mpr hab
  -- Mathlib's `√` is `0` on negative numbers and `arcsin` is constant from `1` on
  exact pushforward_cdf_clamped h hX (Real.sqrt_pos.mpr hv) (fun u y hu0 hu1 => uniformToArcsin_le_iff hab hu0 hu1 y)
    (fun y hy => by
      rw [Real.sqrt_eq_zero_of_nonpos (div_nonpos_of_nonpos_of_nonneg (sub_nonpos.mpr hy) hba.le), Real.arcsin_zero,
        mul_zero])
    (fun y => arcsinCdf_mem_Ioo hab)
    (fun y hy => by
      rw [Real.arcsin_of_one_le (Real.one_le_sqrt.mpr ((one_le_div hba).mpr (sub_le_sub_right hy _))), div_mul_div_comm,
        mul_comm, div_self (by positivity)]) y

/-- U-quadratic: `array_to_uquad(mean=m, var=v, a, b)` turns a normal marginal `N(m, v)` into the U-quadratic law
    on the effective bounds `[a', b']`, provided `a' < b'`. -/
theorem uquad_cdf (h : IsStdNormalCdf Φ Q) [IsProbabilityMeasure P] {m v : ℝ} (a b : Option ℝ)
    (hX : NormalMarginal P X Φ m (Real.sqrt v)) (hv : 0 < v)
    (hab : a.getD (uquadDefaultA m v) < b.getD (uquadDefaultB m v)) (y : ℝ) :
    P.real {ω | toUquad Φ m v a b (X ω) ≤ y} =
      uquadCdf (a.getD (uquadDefaultA m v)) (b.getD (uquadDefaultB m v)) y := by
  simp only [toUquad_eq]
  have hm := uquadCdf_strictMono hab
  exact pushforward_cdf_clamped h hX (Real.sqrt_pos.mpr hv) (fun u y _ _ => uniformToUquad_le_iff hab y)
    (fun y hy => (hm.monotone hy).trans_eq (uquadCdf_left hab))
    (fun y h0 h1 => ⟨(uquadCdf_left hab).symm.trans_lt (hm h0), (hm h1).trans_eq (uquadCdf_right hab)⟩)
    (fun y hy => (uquadCdf_right hab).symm.trans_le (hm.monotone hy)) y

/-- Log-normal: `exp` of a normal marginal `N(m, s²)` has the log-normal cdf `Φ((log y − m)/s)`. -/
theorem lognormal_cdf {m s : ℝ} (hX : NormalMarginal P X Φ m s) (y : ℝ) :
    P.real {ω | toLognormal (X ω) ≤ y} = lognormalCdf Φ m s y := by
  unfold lognormalCdf
  split_ifs with h0
  · exact (congrArg P.real (Set.eq_empty_of_forall_notMem fun ω hω => (h0.trans_lt (Real.exp_pos _)).not_ge hω)).trans
      measureReal_empty
  · have : {ω | toLognormal (X ω) ≤ y} = {ω | X ω ≤ Real.log y} :=
      Set.ext fun ω => (Real.le_log_iff_exp_le (lt_of_not_ge h0)).symm
    rw [this, hX]

/-! ## default bounds of the arcsine and U-quadratic transforms -/

/-- the default bounds `a, b = mean ∓ √(2 var)` satisfy `(a+b)/2 = mean` and `(b−a)²/8 = var`: mean and variance of
    the arcsine law on `[a, b]` (`arcsin_quantile_moments`) are the requested ones -/
theorem arcsin_default_bounds (mean var : ℝ) (hv : 0 ≤ var) :
    let a := arcsinDefaultA mean var
    let b := arcsinDefaultB mean var
    (a + b) / 2 = mean ∧ (b - a) ^ 2 / 8 = var ∧ a ≤ b := by
  simp only [arcsinDefaultA, arcsinDefaultB, sqrt_real, lit20]
  obtain ⟨h1, h2, h3⟩ := sqrt_bounds (w := 2 * var) (by positivity) mean
  exact ⟨h1, by rw [h2]; ring, h3⟩

/-- the default bounds `a, b = mean ∓ √(5/3 var)` satisfy `(a+b)/2 = mean` and `3(b−a)²/20 = var`: mean and variance
    of the U-quadratic law on `[a, b]` (`uquad_density_moments`) are the requested ones -/
theorem uquad_default_bounds (mean var : ℝ) (hv : 0 ≤ var) :
    let a := uquadDefaultA mean var
    let b := uquadDefaultB mean var
    (a + b) / 2 = mean ∧ 3 * (b - a) ^ 2 / 20 = var ∧ a ≤ b := by
  simp only [uquadDefaultA, uquadDefaultB, sqrt_real, lit50, lit30]
  obtain ⟨h1, h2, h3⟩ := sqrt_bounds (w := 5 / 3 * var) (by positivity) mean
  exact ⟨h1, by rw [h2]; ring, h3⟩

/-! ## moments of the arcsine and U-quadratic targets -/

open intervalIntegral in
/-- Moments of the arcsine target through its quantile function (`E g(U) = ∫₀¹ g`, `U` uniform): the law produced by
    `_uniform_to_arcsin(·, a, b)` has mean `(a+b)/2` and variance `(b−a)²/8`. -/
theorem arcsin_quantile_moments (a b : ℝ) :
    ∫ u in (0:ℝ)..1, uniformToArcsin a b u = (a + b) / 2 ∧
    ∫ u in (0:ℝ)..1, (uniformToArcsin a b u - (a + b) / 2) ^ 2 = (b - a) ^ 2 / 8 := by
  constructor
  · simp only [uniformToArcsin_cos]
    have hc : IntervalIntegrable (fun u => (b - a) / 2 * Real.cos (Real.pi * u)) volume 0 1 :=
      (Continuous.intervalIntegrable (by fun_prop) 0 1)
    rw [integral_sub intervalIntegrable_const hc, intervalIntegral.integral_const, intervalIntegral.integral_const_mul, integral_cos_pi,
      sub_zero, one_smul, mul_zero, sub_zero]
  · have : ∀ u, (uniformToArcsin a b u - (a + b) / 2) ^ 2 = (b - a) ^ 2 / 4 * Real.cos (Real.pi * u) ^ 2 := by
      intro u; rw [uniformToArcsin_cos]; ring
    simp only [this]
    rw [intervalIntegral.integral_const_mul, integral_cos_sq_pi]; ring

/-- density of the U-quadratic law: `α (y − β)²`, `α = 12/(b−a)³`, `β = (a+b)/2` -/
noncomputable def uquadDensity (a b y : ℝ) : ℝ := 12 / (b - a) ^ 3 * (y - (a + b) / 2) ^ 2

open intervalIntegral in
/-- the central moments of the U-quadratic density are `α` times those of Lebesgue measure on `[a, b]` two orders higher -/
theorem integral_pow_mul_uquadDensity (a b : ℝ) (n : ℕ) :
    ∫ y in a..b, (y - (a + b) / 2) ^ n * uquadDensity a b y =
      12 / (b - a) ^ 3 * ((((b - a) / 2) ^ (n + 2 + 1) - (-((b - a) / 2)) ^ (n + 2 + 1)) / ((n + 2 : ℕ) + 1)) := by
  have : ∀ y, (y - (a + b) / 2) ^ n * uquadDensity a b y = 12 / (b - a) ^ 3 * (y - (a + b) / 2) ^ (n + 2) := fun y => by
    rw [uquadDensity]; ring
  simp only [this]
  rw [intervalIntegral.integral_const_mul, integral_sub_pow]

open intervalIntegral in
/-- Moments of the U-quadratic target: on `(a, b)` the documented cdf `uquadCdf` has the density `α(y−β)²`, which
    integrates to 1 and has mean `(a+b)/2` and variance `3(b−a)²/20`. -/
theorem uquad_density_moments {a b : ℝ} (hab : a < b) :
    (∀ y, a < y → y < b → HasDerivAt (uquadCdf a b) (uquadDensity a b y) y) ∧
    ∫ y in a..b, uquadDensity a b y = 1 ∧
    ∫ y in a..b, y * uquadDensity a b y = (a + b) / 2 ∧
    ∫ y in a..b, (y - (a + b) / 2) ^ 2 * uquadDensity a b y = 3 * (b - a) ^ 2 / 20 := by
  have hd : b - a ≠ 0 := (sub_pos.mpr hab).ne'
  have M := integral_pow_mul_uquadDensity a b
  refine ⟨fun y hy0 hy1 => ?_, ?_, ?_, ?_⟩
  · have hloc : uquadCdf a b =ᶠ[nhds y] fun y => 4 * (y - (a + b) / 2) ^ 3 / (b - a) ^ 3 + 1 / 2 := by
      filter_upwards [Ioo_mem_nhds hy0 hy1] with z hz
      simp only [uquadCdf, not_le.mpr hz.1, not_le.mpr hz.2, ↓reduceIte]
    have h1 : HasDerivAt (fun y : ℝ => y - (a + b) / 2) 1 y := (hasDerivAt_id y).sub_const _
    refine ((((h1.fun_pow 3).const_mul 4).div_const ((b - a) ^ 3)).add_const (1 / 2)).congr_of_eventuallyEq hloc
      |>.congr_deriv ?_
    simp only [uquadDensity]; push_cast; ring
  · have := M 0
    simp only [pow_zero, one_mul] at this
    rw [this]
    generalize b - a = d at hd
    push_cast; field_simp; ring
  · -- `y = (y − β) + β`
    have hi : ∀ n : ℕ, IntervalIntegrable (fun y => (y - (a + b) / 2) ^ n * uquadDensity a b y) volume a b := fun n =>
      Continuous.intervalIntegrable (by unfold uquadDensity; fun_prop) a b
    have : ∀ y, y * uquadDensity a b y = (y - (a + b) / 2) ^ 1 * uquadDensity a b y +
        (a + b) / 2 * ((y - (a + b) / 2) ^ 0 * uquadDensity a b y) := fun y => by ring
    simp only [this]
    rw [intervalIntegral.integral_add (hi 1) ((hi 0).const_mul _), intervalIntegral.integral_const_mul, M 1, M 0]
    generalize b - a = d at hd
    push_cast; field_simp; ring
  · rw [M 2]
    generalize b - a = d at hd
    push_cast; field_simp; ring

/-! ## Zinn–Harvey -/

/-- Zinn–Harvey keeps the normal marginal: for either connectivity, `array_zinnharvey(mean=m, var=v)` applied to a
    normal marginal `N(m, v)` has again the marginal `N(m, v)`. -/
theorem zinnharvey_marginal (h : IsStdNormalCdf Φ Q) [IsProbabilityMeasure P] {m v : ℝ} (high : Bool)
    (hX : NormalMarginal P X Φ m (Real.sqrt v)) (hm : Measurable X) (hv : 0 < v) :
    NormalMarginal P (fun ω => zinnharvey Φ Q high m v (X ω)) Φ m (Real.sqrt v) := by
  have hs : 0 < Real.sqrt v := Real.sqrt_pos.mpr hv
  have hZ := hX.standardize hs
  have hmZ : Measurable fun ω => (X ω - m) / Real.sqrt v := (hm.sub_const m).div_const _
  intro y
  have hy : ∀ w, w * Real.sqrt v + m ≤ y ↔ w ≤ (y - m) / Real.sqrt v := fun w => by
    rw [le_div_iff₀ hs, le_sub_iff_add_le]
  cases high
  · simpa only [zinnharvey, standardize, sqrt_real, Bool.false_eq_true, ↓reduceIte, hy] using prob_zhCore_le h hZ hmZ _
  · simpa only [zinnharvey, standardize, sqrt_real, ↓reduceIte, hy] using prob_neg_zhCore_le h hZ hmZ _

/-- Zinn–Harvey reverses the order of the absolute deviations (the deterministic core of "reversing connectivity";
    the topological statement itself is not proved): with `conn = "high"` a strictly larger `|x − mean|` gives a strictly
    smaller output, with `conn = "low"` a strictly larger one (compared with an `x₁ ≠ mean`). -/
theorem zinnharvey_order (h : IsStdNormalCdf Φ Q) {m v x₁ x₂ : ℝ} (hv : 0 < v) (hx : x₁ ≠ m)
    (h12 : |x₁ - m| < |x₂ - m|) :
    zinnharvey Φ Q true m v x₂ < zinnharvey Φ Q true m v x₁ ∧
      zinnharvey Φ Q false m v x₁ < zinnharvey Φ Q false m v x₂ := by
  have hs : 0 < Real.sqrt v := Real.sqrt_pos.mpr hv
  have hz1 : (x₁ - m) / Real.sqrt v ≠ 0 := div_ne_zero (sub_ne_zero.mpr hx) (ne_of_gt hs)
  have habs : |(x₁ - m) / Real.sqrt v| < |(x₂ - m) / Real.sqrt v| := by
    rw [abs_div, abs_div]; exact div_lt_div_of_pos_right h12 (abs_pos.mpr (ne_of_gt hs))
  have := mul_lt_mul_of_pos_right (zhCore_strictMono_abs h hz1 habs) hs
  simp only [zinnharvey, standardize, sqrt_real, ↓reduceIte, Bool.false_eq_true, add_lt_add_iff_right, neg_mul,
    neg_lt_neg_iff]
  exact ⟨this, this⟩

/-! ## the `Field.transform` wrappers: process / keep_mean pipeline -/

/-- the stored field of a `Field` object: `trend + denormalize(mean + raw)` (`post_field(raw, process=True)`) -/
noncomputable def storedField (c : Cfg ℝ) (raw : ℝ) : ℝ := postProcess c false raw

/-- What the array function sees.  Whenever the normalizer round-trips on `mean + raw`, the pre-processed entry
    handed to the array function is `usedMean + raw`, where `usedMean` is exactly the `mean=` keyword the wrapper passes
    (`0` for `process and not keep_mean`, else `fld.mean`); the `var=` keyword is the sill. -/
theorem wrapper_input_process (c : Cfg ℝ) (keep : Bool) (raw : ℝ)
    (hinv : c.norm.normalize (c.norm.denormalize (raw + c.mean)) = raw + c.mean) :
    preProcess c keep (storedField c raw) = usedMean c true keep + raw := by
  simp only [storedField, preProcess, postProcess, usedMean, Bool.false_eq_true, ↓reduceIte, add_sub_cancel_right, hinv,
    Bool.true_and, Nat.cast_zero]
  cases keep
  · simp [lit00]
  · simp [add_comm]

/-- without processing the wrappers insist on the default configuration (no normalizer, no trend), in which the
    stored field is `mean + raw` and `usedMean = fld.mean` -/
theorem wrapper_input_noprocess (c : Cfg ℝ) (keep : Bool) (raw : ℝ) (hchk : checkDefaultNormal c = .ok ()) :
    storedField c raw = usedMean c false keep + raw := by
  -- the check passes for `norm = none`, `trend = None` only
  obtain ⟨mean, sill, trend, norm⟩ := c
  cases norm <;> cases trend <;>
    simp [checkDefaultNormal, NormKind.isDefault, throw, throwThe, MonadExceptOf.throw, storedField, postProcess, usedMean,
      trendVal, NormKind.denormalize, add_comm] at hchk ⊢

/-- `apply_function(process=True)` for an arbitrary (possibly non-pointwise, possibly raising) array function -/
theorem applyFunction_process_general (c : Cfg ℝ) (keep : Bool) (f : List ℝ → Except String (List ℝ)) (raws : List ℝ)
    (hinv : ∀ r ∈ raws, c.norm.normalize (c.norm.denormalize (r + c.mean)) = r + c.mean) :
    applyFunction c true keep f (raws.map (storedField c)) =
      (f (raws.map fun r => usedMean c true keep + r)).map (List.map (postProcess c keep)) := by
  have hdata : (raws.map (storedField c)).map (preProcess c keep) = raws.map fun r => usedMean c true keep + r := by
    rw [List.map_map]
    exact List.map_congr_left fun r hr => wrapper_input_process c keep r (hinv r hr)
  simp only [applyFunction, ↓reduceIte, hdata]
  cases f (raws.map fun r => usedMean c true keep + r) <;> rfl

/-- pointwise wrappers with `process=True`: pre-process, apply the array map with `mean = usedMean`, post-process -/
theorem applyFunction_process (c : Cfg ℝ) (keep : Bool) (g : ℝ → ℝ) (raws : List ℝ)
    (hinv : ∀ r ∈ raws, c.norm.normalize (c.norm.denormalize (r + c.mean)) = r + c.mean) :
    applyFunction c true keep (fun d => pure (d.map g)) (raws.map (storedField c)) =
      .ok (raws.map fun r => postProcess c keep (g (usedMean c true keep + r))) := by
  rw [applyFunction_process_general c keep _ raws hinv]
  simp only [pure, Except.pure, Except.map, List.map_map]
  rfl

/-- The distribution wrappers (`normal_to_uniform`, `normal_to_arcsin`, `normal_to_uquad`, `zinnharvey`) with
    `process=True`: on a stored field `trend + denorm(mean + raw)` the result is
    `trend + denorm(m₀ + T(usedMean + raw))` (`m₀ = 0` if `keep_mean` else `mean`), where `T` is the array transformation
    called with `mean = usedMean`, `var = sill` — the arguments with which `uniform_cdf`, `arcsin_cdf`, `uquad_cdf`,
    `zinnharvey_marginal` are stated for an input of marginal `N(usedMean, sill)`. -/
theorem wrapper_process (Φ Q : ℝ → ℝ) (c : Cfg ℝ) (keep : Bool) (raws : List ℝ)
    (hinv : ∀ r ∈ raws, c.norm.normalize (c.norm.denormalize (r + c.mean)) = r + c.mean) :
    let um := usedMean c true keep
    let data := raws.map (storedField c)
    (∀ low high, fieldTransform Φ Q c true keep data (.uniform low high) =
      .ok (raws.map fun r => postProcess c keep (toUniform Φ um c.sill low high (um + r)))) ∧
    (∀ a b, fieldTransform Φ Q c true keep data (.arcsin a b) =
      .ok (raws.map fun r => postProcess c keep (toArcsin Φ um c.sill a b (um + r)))) ∧
    (∀ a b, fieldTransform Φ Q c true keep data (.uquad a b) =
      .ok (raws.map fun r => postProcess c keep (toUquad Φ um c.sill a b (um + r)))) ∧
    (∀ high, fieldTransform Φ Q c true keep data (.zinnharvey high) =
      .ok (raws.map fun r => postProcess c keep (zinnharvey Φ Q high um c.sill (um + r)))) := by
  intro um data
  refine ⟨fun low high => ?_, fun a b => ?_, fun a b => ?_, fun high => ?_⟩ <;>
  · simp only [fieldTransform, Bool.not_true, Bool.false_eq_true, ↓reduceIte, pure, Except.pure]
    exact applyFunction_process c keep _ raws hinv

/-- the default-normal configuration (no normalizer, no trend) with mean `m` -/
def defaultCfg (m sill : ℝ) : Cfg ℝ := { mean := m, sill := sill, trend := none, norm := .none }

/-- Processing is conjugation (all nine wrappers): `fld.transform(method, process=True, keep_mean=k)` on the stored
    field `trend + denorm(mean + raw)` equals the *unprocessed* transformation of the default-normal field
    `usedMean + raw` (mean `usedMean`, same sill, no normalizer, no trend), followed entrywise by the post-processing
    `y ↦ trend + denorm(y + (0 if keep_mean else mean))`; errors are propagated unchanged. -/
theorem process_is_conjugation (Φ Q : ℝ → ℝ) (c : Cfg ℝ) (keep : Bool) (raws : List ℝ) (m : Method ℝ)
    (hinv : ∀ r ∈ raws, c.norm.normalize (c.norm.denormalize (r + c.mean)) = r + c.mean) :
    fieldTransform Φ Q c true keep (raws.map (storedField c)) m =
      (fieldTransform Φ Q (defaultCfg (usedMean c true keep) c.sill) false keep
        (raws.map fun r => usedMean c true keep + r) m).map (List.map (postProcess c keep)) := by
  set d := defaultCfg (usedMean c true keep) c.sill
  have hchk : checkDefaultNormal d = .ok () := rfl
  have hum : usedMean d false keep = usedMean c true keep := by simp [usedMean, d, defaultCfg]
  have hnp : ∀ (f : List ℝ → Except String (List ℝ)) (l : List ℝ), applyFunction d false keep f l = f l := by
    intro f l; simp [applyFunction]
  have hmean : d.mean = usedMean c true keep := rfl
  have hsill : d.sill = c.sill := rfl
  rcases m with ⟨divide, upper, lower⟩ | ⟨vals, _ | _ | _⟩ | _ | _ | _ | _ | _ | _ | _
  · simp only [fieldTransform, Bool.not_true, Bool.not_false, Bool.false_eq_true, ↓reduceIte, bind, Except.bind,
      hchk, hnp, hsill, hmean, applyFunction_process_general c keep _ raws hinv, Bool.true_and, Bool.false_and]
    cases hd : divide.isNone <;> simp [usedMean]
  all_goals
    simp only [fieldTransform, Bool.not_true, Bool.not_false, Bool.false_eq_true, ↓reduceIte, bind, Except.bind, pure,
      Except.pure, hchk, hum, hnp, hsill, applyFunction_process_general c keep _ raws hinv]

/-- the round-trip hypothesis is satisfiable: no normalizer, or the log-normal normalizer -/
example (r m : ℝ) : (NormKind.none : NormKind ℝ).normalize ((NormKind.none : NormKind ℝ).denormalize (r + m)) = r + m := rfl
example (r m : ℝ) : (NormKind.lognormal : NormKind ℝ).normalize ((NormKind.lognormal : NormKind ℝ).denormalize (r + m)) = r + m := by
  simp [NormKind.normalize, NormKind.denormalize, Real.exp_pos, isFinite]

/-! ## stored-field names -/

/-- Stored-field names: one `fld.transform(…, field=…, store=…)` call either fails and leaves every stored field
    as it was, or returns `out` and: `store=False` leaves the state untouched; `store=True` overwrites the source field;
    `store="name"` writes `out` under that name — in both cases every other stored field is unchanged. -/
theorem step_store (Φ Q : ℝ → ℝ) (c : Cfg ℝ) (reserved : List String) (st : FState ℝ) (m : Method ℝ)
    (field : String) (store : Store) (process keep : Bool) :
    let r := step Φ Q c reserved st m field store process keep
    (∀ e, r.2 = .error e → r.1 = st) ∧
    (∀ out, r.2 = .ok out →
      match store with
      | .no => r.1 = st
      | .yes => r.1.lookup field = some out ∧ ∀ n', n' ≠ field → r.1.lookup n' = st.lookup n'
      | .name n => r.1.lookup n = some out ∧ ∀ n', n' ≠ n → r.1.lookup n' = st.lookup n') := by
  intro r
  simp only [r, step]
  split
  · exact ⟨fun _ _ => rfl, fun _ h => nomatch h⟩
  split
  · exact ⟨fun _ _ => rfl, fun _ h => nomatch h⟩
  split
  · exact ⟨fun _ _ => rfl, fun _ h => nomatch h⟩
  · exact commit_spec reserved st store field _

/-! ## the true normal cdf and Gaussian laws -/

section Gauss
open ProbabilityTheory Set

/-- The true normal cdf satisfies the hypotheses of all distributional theorems. -/
theorem gauss_isStdNormalCdf : IsStdNormalCdf gaussΦ gaussQ where
  strictMono := gaussΦ_strictMono
  pos := gaussΦ_pos
  lt_one := gaussΦ_lt_one
  right_inv := by
    intro p hp0 hp1
    have h := gaussΦ_surj hp0 hp1
    simp only [gaussQ, dif_pos h]
    exact h.choose_spec
  symm := gaussΦ_symm

/-- Bridge to Gaussian laws: a measurable `X` whose law is the Gaussian measure `N(m, v)` (`v ≠ 0`) has the normal
    marginal that the distributional theorems of C19 assume, with `Φ` the true standard normal cdf. -/
theorem normalMarginal_of_gaussian_law {Ω : Type*} [MeasurableSpace Ω] {P : Measure Ω} {X : Ω → ℝ} (hX : Measurable X)
    {m : ℝ} {v : NNReal} (hv : v ≠ 0) (hlaw : P.map X = gaussianReal m v) :
    NormalMarginal P X gaussΦ m (Real.sqrt v) := by
  have hs : 0 < Real.sqrt v := Real.sqrt_pos.mpr (by exact_mod_cast pos_iff_ne_zero.mpr hv)
  intro x
  rw [show {ω | X ω ≤ x} = X ⁻¹' Iic x from rfl, ← map_measureReal_apply hX measurableSet_Iic, hlaw, gaussianReal_eq_map_std,
    map_measureReal_apply (by fun_prop) measurableSet_Iic,
    map_measureReal_apply (by fun_prop) ((show Measurable fun z : ℝ => z + m by fun_prop) measurableSet_Iic), gaussΦ_eq]
  congr 1
  ext z
  rw [mem_preimage, mem_preimage, mem_Iic, mem_Iic, le_div_iff₀ hs, le_sub_iff_add_le, mul_comm]

/-- Capstone: for a measurable `X` whose law is the Gaussian measure `N(m, v)`, `v ≠ 0`, and `Φ` the true standard
    normal cdf: the transformed variables have exactly the documented cdfs (uniform on `[low, high]`, arcsine and
    U-quadratic on the default bounds, log-normal) and Zinn–Harvey keeps the marginal. -/
theorem gaussian_pushforwards {Ω : Type*} [MeasurableSpace Ω] {P : Measure Ω} [IsProbabilityMeasure P] {X : Ω → ℝ}
    (hX : Measurable X) {m : ℝ} {v : NNReal} (hv : v ≠ 0) (hlaw : P.map X = ProbabilityTheory.gaussianReal m v) :
    (∀ low high y, low < high →
      P.real {ω | toUniform gaussΦ m v low high (X ω) ≤ y} = uniformCdf low high y) ∧
    (∀ y, P.real {ω | toArcsin gaussΦ m v none none (X ω) ≤ y} =
      arcsinCdf (arcsinDefaultA m v) (arcsinDefaultB m v) y) ∧
    (∀ y, P.real {ω | toUquad gaussΦ m v none none (X ω) ≤ y} =
      uquadCdf (uquadDefaultA m v) (uquadDefaultB m v) y) ∧
    (∀ y, P.real {ω | toLognormal (X ω) ≤ y} = lognormalCdf gaussΦ m (Real.sqrt v) y) ∧
    (∀ high, NormalMarginal P (fun ω => zinnharvey gaussΦ gaussQ high m v (X ω)) gaussΦ m (Real.sqrt v)) := by
  have hN := normalMarginal_of_gaussian_law hX hv hlaw
  have hv' : (0:ℝ) < v := by exact_mod_cast pos_iff_ne_zero.mpr hv
  have h := gauss_isStdNormalCdf
  refine ⟨fun low high y hlh => uniform_cdf h hN hv' hlh y, fun y => ?_, fun y => ?_,
    fun y => lognormal_cdf hN y, fun high => zinnharvey_marginal h high hN hX hv'⟩
  · refine arcsin_cdf h none none hN hv' ?_ y
    have : 0 < Real.sqrt (2 * (v:ℝ)) := Real.sqrt_pos.mpr (by positivity)
    simp only [Option.getD_none, arcsinDefaultA, arcsinDefaultB, sqrt_real, lit20]
    exact (sub_lt_self _ this).trans (lt_add_of_pos_right _ this)
  · refine uquad_cdf h none none hN hv' ?_ y
    have : 0 < Real.sqrt (5 / 3 * (v:ℝ)) := Real.sqrt_pos.mpr (by positivity)
    simp only [Option.getD_none, uquadDefaultA, uquadDefaultB, sqrt_real, lit50, lit30]
    exact (sub_lt_self _ this).trans (lt_add_of_pos_right _ this)

end Gauss

/-! ## non-vacuity of the probabilistic hypotheses (independent of Mathlib's Gaussian measure) -/

/-- the probability space `((0,1), Lebesgue)` -/
noncomputable def unitP : Measure ℝ := volume.restrict (Set.Ioo 0 1)

instance : IsProbabilityMeasure unitP := ⟨by simp [unitP]⟩

/-- The hypotheses of the distributional theorems are satisfiable: for any admissible `(Φ, Q)`, `m` and `s > 0`,
    the variable `X(u) = m + s·Q(u)` on `((0,1), Lebesgue)` has the normal marginal `N(m, s²)` -/
theorem normalMarginal_exists {Φ Q : ℝ → ℝ} (h : IsStdNormalCdf Φ Q) (m : ℝ) {s : ℝ} (hs : 0 < s) :
    NormalMarginal unitP (fun u => m + s * Q u) Φ m s := by
  intro x
  have h0 := h.pos ((x - m) / s)
  have h1 := h.lt_one ((x - m) / s)
  have key : ∀ u, 0 < u → u < 1 → (m + s * Q u ≤ x ↔ u ≤ Φ ((x - m) / s)) := fun u hu0 hu1 => by
    rw [← h.Q_le_iff hu0 hu1, le_div_iff₀ hs, le_sub_iff_add_le', mul_comm]
  have hset : {u : ℝ | m + s * Q u ≤ x} ∩ Set.Ioo 0 1 = Set.Ioc 0 (Φ ((x - m) / s)) := Set.ext fun u =>
    ⟨fun ⟨hle, hu0, hu1⟩ => ⟨hu0, (key u hu0 hu1).mp hle⟩,
      fun ⟨hu0, hle⟩ => ⟨(key u hu0 (hle.trans_lt h1)).mpr hle, hu0, hle.trans_lt h1⟩⟩
  rw [measureReal_def, unitP, Measure.restrict_apply' measurableSet_Ioo, hset, Real.volume_Ioc]
  simp [le_of_lt h0]

/-- with the logistic pair, `X` is measurable, so every hypothesis of `zinnharvey_marginal`, `equal_classes`,
    `uniform_cdf`, … holds for a concrete object -/
example (m : ℝ) {s : ℝ} (hs : 0 < s) :
    IsStdNormalCdf (fun x => 1 / (1 + Real.exp (-x))) (fun p => Real.log (p / (1 - p))) ∧
    NormalMarginal unitP (fun u => m + s * Real.log (u / (1 - u))) (fun x => 1 / (1 + Real.exp (-x))) m s ∧
    Measurable (fun u : ℝ => m + s * Real.log (u / (1 - u))) :=
  ⟨logistic_isStdNormalCdf, normalMarginal_exists logistic_isStdNormalCdf m hs, by fun_prop⟩

end GSV.Props.C19
