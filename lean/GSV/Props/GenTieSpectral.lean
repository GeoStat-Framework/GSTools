/-
  Tie A for the analytic spectral closed forms (C04): the hand-written functions of `GSV.Model.Spectral`
  (`gauDensity`, `gauCdf`, `gauPpf`, `expDensity`, `expCdf`, `maternDensity`, `jbesselDensity`) are EQUAL over `ℝ`, for
  all parameters and arguments, to the definitions that `vlib/pyexpr2lean.py` regenerates from the current text of
  `src/gstools/covmodel/models.py` on every run of `./check` (`GSV/Gen/SpectralFormulas.lean`).

  The theorems `*_eq_model_real` are the registered obligations, proved by `tie_real` (`GSV/Props/GenTieReal.lean`), which
  keeps checking when a source formula is rewritten into a real-equal one (hoisted prefactors, `a / b / c` -> `a / (b c)`,
  `base ** ((d+1)/2)` -> `sqrt(base) ** (d+1)` where `base ≥ 0` is found by `positivity`) and stops checking on a semantic
  edit.  No side condition on the arguments is needed; `Matern.spectral_density` is proved branch by branch with `0 < nu`
  in the context of the branch `nu > 20`: that fact makes `(√b)^(-d) = b^(-d/2)` with `b = 1 + x/nu` true, which the tie
  needs as soon as the source writes one form and the model the other.
  The carrier-polymorphic form of the same equalities is in `GenTieSpectralExact.lean` (informative).

  The scipy functions (`erf`, `erfinv`, `gamma`, `loggamma`) are uninterpreted in both texts: the generated
  definitions take `sps : Sps α`, the model takes `sp : Special α`; `specialOf sps` is the obvious forgetful map
  (every `Special` is `specialOf` of some `Sps`, `specialOf_surjective`).
  * `Exponential.spectral_density`: the model evaluates `Γ((d+1)/2)` by the half-integer recursion `gammaHalf`;
    equality under the hypothesis that `sps.gamma` agrees with it on half-integers.
  * `JBessel.spectral_density`: the code clips the divisor with `np.minimum(·, 100.0)` inside an `if`, the model writes
    the clipped divisor as a nested `if`; both are read as `min`.
  Not generated: `Exponential.spectral_rad_ppf` (`np.divide(…, out=…, where=…)` is outside the subset),
  `Integral / HyperSpherical.spectral_density` (`np.empty_like` + in-place updates), the TPL spectra
  (`gstools.tools.special`).
-/
import GSV.RealInst
import GSV.Props.GenTieReal
import GSV.Model.Spectral
import GSV.Gen.SpectralFormulas

set_option linter.unusedSectionVars false

namespace GSV.Props.GenTieSpectral
open GSV GSV.Transc GSV.PyExpr GSV.Model.Spectral GSV.Gen.SpectralFormulas GSV.Props.GenTieReal

variable {α : Type} [Arith α] [Transc α] [DecidableLT α] [DecidableLE α]

/-- the special functions of the model, read off the `scipy.special` parameter of the generated definitions -/
@[reducible] def specialOf (sps : Sps α) : Special α :=
  { erf := sps.erf, erfinv := sps.erfinv, gamma := sps.gamma, lgamma := sps.loggamma }

theorem specialOf_surjective (sp : Special α) : ∃ sps : Sps α, specialOf sps = sp :=
  ⟨{ erf := sp.erf, erfinv := sp.erfinv, gamma := sp.gamma, loggamma := sp.lgamma, beta := fun _ x => x,
     kv := fun _ x => x, jv := fun _ x => x, hyp2f1 := fun _ _ _ x => x }, rfl⟩

theorem arctan_eq (x : α) : arctan x = Model.Spectral.atan x := rfl

theorem Gaussian_spectral_density_eq_model_real (d : Nat) (ℓ k : ℝ) :
    Gaussian.spectral_density d ℓ k = gauDensity d ℓ k := by
  tie_real [Gaussian.spectral_density, gauDensity]

theorem Gaussian_spectral_rad_cdf_eq_model_real (sps : Sps ℝ) (d : Nat) (ℓ r : ℝ) :
    Gaussian.spectral_rad_cdf sps d ℓ r = gauCdf (specialOf sps) d ℓ r := by
  tie_real [Gaussian.spectral_rad_cdf, gauCdf, specialOf]

theorem Gaussian_spectral_rad_ppf_eq_model_real (sps : Sps ℝ) (d : Nat) (ℓ u : ℝ) :
    Gaussian.spectral_rad_ppf sps d ℓ u = gauPpf (specialOf sps) d ℓ u := by
  tie_real [Gaussian.spectral_rad_ppf, gauPpf, specialOf]

/-- relative to `sps.gamma(n / 2) = gammaHalf n` (used at `n = d + 1`) -/
theorem Exponential_spectral_density_eq_model_real (sps : Sps ℝ) (d : Nat) (ℓ k : ℝ)
    (H : ∀ n : Nat, sps.gamma (((n:Nat):ℝ) / ((2:Nat):ℝ)) = gammaHalf n) :
    Exponential.spectral_density sps d ℓ k = expDensity d ℓ k := by
  have H' := H (d + 1)
  tie_real_using H' [Exponential.spectral_density, expDensity]

theorem Exponential_spectral_rad_cdf_eq_model_real (d : Nat) (ℓ r : ℝ) :
    Exponential.spectral_rad_cdf d ℓ r = expCdf d ℓ r := by
  tie_real [Exponential.spectral_rad_cdf, expCdf, ← arctan_eq]

theorem Matern_spectral_density_eq_model_real (sps : Sps ℝ) (d : Nat) (ℓ ν k : ℝ) :
    Matern.spectral_density sps d ℓ ν k = maternDensity (specialOf sps) d ℓ ν k := by
  by_cases hν : ν > ((20:Nat):ℝ)
  · have hpos : 0 < ν := lt_trans (by norm_num) hν
    tie_real [Matern.spectral_density, maternDensity, specialOf, if_pos hν]
  · tie_real [Matern.spectral_density, maternDensity, specialOf, if_neg hν]

theorem JBessel_spectral_density_eq_model_real (sps : Sps ℝ) (d : Nat) (ℓ ν k : ℝ) :
    JBessel.spectral_density sps d ℓ ν k = jbesselDensity (specialOf sps) d ℓ ν k := by
  tie_real [JBessel.spectral_density, jbesselDensity, specialOf]

/-- a stand-in for `scipy.special` whose `gamma` is the half-integer recursion of the model -/
noncomputable def witnessSps : Sps ℝ where
  erf := id
  erfinv := id
  gamma := fun x => gammaHalf ⌊2 * x⌋₊
  loggamma := id
  beta := fun _ x => x
  kv := fun _ x => x
  jv := fun _ x => x
  hyp2f1 := fun _ _ _ x => x

example (n : Nat) : witnessSps.gamma (((n:Nat):ℝ) / ((2:Nat):ℝ)) = gammaHalf n := by
  have : 2 * (((n:Nat):ℝ) / ((2:Nat):ℝ)) = (n:ℝ) := by push_cast; ring
  simp only [witnessSps, this, Nat.floor_natCast]

end GSV.Props.GenTieSpectral
