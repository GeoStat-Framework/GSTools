/-
  C06 — coincident conditioning points solved with the pseudo-inverse act as a single point carrying their mean value
  (`duplicates_pinv_simple`).

  Mathlib has no Moore–Penrose inverse; it is a predicate here (the four Penrose equations), which determine `M` uniquely.
  A duplicated simple-kriging system is `K = E K' Eᵀ` with `E` the 0/1 duplication matrix of a surjection `π` (all points →
  distinct locations) and `K'` the invertible matrix of the merged system.  `E D⁻¹ K'⁻¹ D⁻¹ Eᵀ` (`D = EᵀE`, the diagonal
  matrix of multiplicities; `D⁻¹ Eᵀ` is the pseudo-inverse of `E`) satisfies the four equations, hence IS the pseudo-inverse
  scipy hands to the kernel, and the kernel's forms `zᵀ M k`, `kᵀ M k` are those of the merged system with the fibre means
  of the data.  Any multiplicities, any number of points.
-/
import GSV.Props.C06
namespace GSV.Props.C06
open GSV GSV.Props GSV.Props.C05 GSV.Model.Krige Finset Matrix

set_option linter.unusedSectionVars false

section penrose
variable {ι : Type*} [Fintype ι]

/-- `M` is a Moore–Penrose inverse of `K`: the four Penrose equations (over ℝ: transpose = adjoint) -/
def IsMPInv (K M : Matrix ι ι ℝ) : Prop :=
  K * M * K = K ∧ M * K * M = M ∧ (K * M)ᵀ = K * M ∧ (M * K)ᵀ = M * K

/-- the four Penrose equations determine the pseudo-inverse -/
theorem IsMPInv.unique {K M N : Matrix ι ι ℝ} (hM : IsMPInv K M) (hN : IsMPInv K N) : M = N := by
  obtain ⟨m1, m2, m3, m4⟩ := hM
  obtain ⟨n1, n2, n3, n4⟩ := hN
  -- `M K` and `K M` are determined by `K`: `M K = (M K)(N K) = ((N K)(M K))ᵀ = (N K)ᵀ = N K`, likewise `K M = K N`
  have h1 : M * K = N * K :=
    calc M * K = M * K * (N * K) := by rw [Matrix.mul_assoc, ← Matrix.mul_assoc K, n1]
      _ = (N * K * (M * K))ᵀ := by rw [transpose_mul, m4, n4]
      _ = N * K := by rw [Matrix.mul_assoc, ← Matrix.mul_assoc K, m1, n4]
  have h2 : K * M = K * N :=
    calc K * M = K * N * (K * M) := by rw [← Matrix.mul_assoc, n1]
      _ = (K * M * (K * N))ᵀ := by rw [transpose_mul, n3, m3]
      _ = K * N := by rw [← Matrix.mul_assoc, m1, n3]
  rw [← m2, h1, Matrix.mul_assoc, h2, ← Matrix.mul_assoc, n2]

/-- a two-sided inverse is the Moore–Penrose inverse (so the clause extends the non-singular case) -/
theorem IsMPInv.of_inverse [DecidableEq ι] {K M : Matrix ι ι ℝ} (h : M * K = 1) : IsMPInv K M := by
  have h' : K * M = 1 := mul_eq_one_comm.mp h
  refine ⟨?_, ?_, ?_, ?_⟩
  · rw [h', Matrix.one_mul]
  · rw [h, Matrix.one_mul]
  · rw [h', transpose_one]
  · rw [h, transpose_one]

end penrose

section dup
variable {ι κ : Type*} [Fintype ι] [Fintype κ] [DecidableEq ι] [DecidableEq κ]

/-- the pseudo-inverse of a congruence `E K' Eᵀ` with `K'` invertible and `E` of full column rank: if `R` is a left
    inverse of `E` with `E R` symmetric (`R` is the pseudo-inverse of `E`), it is `Rᵀ K'⁻¹ R` -/
theorem IsMPInv.congruence {E : Matrix ι κ ℝ} {R : Matrix κ ι ℝ} (hRE : R * E = 1) (hER : (E * R)ᵀ = E * R)
    {K' M' : Matrix κ κ ℝ} (hM' : M' * K' = 1) : IsMPInv (E * K' * Eᵀ) (Rᵀ * M' * R) := by
  have hK' : K' * M' = 1 := mul_eq_one_comm.mp hM'
  have hER' : Eᵀ * Rᵀ = 1 := by rw [← transpose_mul, hRE, transpose_one]
  have hKM : E * K' * Eᵀ * (Rᵀ * M' * R) = E * R := by
    rw [Matrix.mul_assoc, Matrix.mul_assoc Rᵀ, ← Matrix.mul_assoc Eᵀ, hER', Matrix.one_mul, Matrix.mul_assoc E,
      ← Matrix.mul_assoc K', hK', Matrix.one_mul]
  have hMK : Rᵀ * M' * R * (E * K' * Eᵀ) = (E * R)ᵀ := by
    rw [Matrix.mul_assoc E, ← Matrix.mul_assoc _ E, Matrix.mul_assoc _ R, hRE, Matrix.mul_one, Matrix.mul_assoc Rᵀ,
      ← Matrix.mul_assoc M', hM', Matrix.one_mul, transpose_mul]
  refine ⟨?_, ?_, ?_, ?_⟩
  · rw [hKM, Matrix.mul_assoc E R, ← Matrix.mul_assoc R, ← Matrix.mul_assoc R, hRE, Matrix.one_mul, Matrix.mul_assoc]
  · rw [hMK, transpose_mul, Matrix.mul_assoc Rᵀ M', Matrix.mul_assoc Rᵀ Eᵀ, ← Matrix.mul_assoc Eᵀ, hER',
      Matrix.one_mul]
  · rw [hKM, hER]
  · rw [hMK, transpose_transpose, hER]

/-- duplication matrix of `π : all points → distinct locations`: exactly one `1` per row -/
def dupMat (π : ι → κ) : Matrix ι κ ℝ := Matrix.of fun i a => if π i = a then 1 else 0

def mult (π : ι → κ) (a : κ) : ℝ := ((univ.filter fun i => π i = a).card : ℝ)

/-- mean of the data over the points coinciding at location `a` -/
noncomputable def fiberMean (π : ι → κ) (z : ι → ℝ) (a : κ) : ℝ :=
  (∑ i ∈ univ.filter (fun i => π i = a), z i) / mult π a

theorem mult_pos (π : ι → κ) (hπ : Function.Surjective π) (a : κ) : 0 < mult π a := by
  obtain ⟨i, hi⟩ := hπ a
  exact Nat.cast_pos.mpr (Finset.card_pos.mpr ⟨i, mem_filter.mpr ⟨mem_univ i, hi⟩⟩)

theorem dupMat_transpose_mul (π : ι → κ) : (dupMat π)ᵀ * dupMat π = diagonal (mult π) := by
  ext a b
  simp only [mul_apply, transpose_apply, dupMat, of_apply, diagonal_apply, mult, ite_mul, one_mul, zero_mul,
    ← ite_and, Finset.natCast_card_filter]
  split
  · subst b
    simp only [and_self]
  · exact sum_eq_zero fun i _ => if_neg fun h => ‹¬a = b› (h.1.symm.trans h.2)

theorem dupMat_mulVec (π : ι → κ) (v : κ → ℝ) : dupMat π *ᵥ v = fun i => v (π i) := by
  funext i
  simp only [mulVec, dotProduct, dupMat, of_apply, ite_mul, one_mul, zero_mul, Finset.sum_ite_eq, Finset.mem_univ, if_true]

theorem dupMat_transpose_mulVec (π : ι → κ) (z : ι → ℝ) :
    (dupMat π)ᵀ *ᵥ z = fun a => ∑ i ∈ univ.filter (fun i => π i = a), z i := by
  funext a
  simp only [mulVec, dotProduct, dupMat, transpose_apply, of_apply, ite_mul, one_mul, zero_mul, Finset.sum_filter]

theorem dup_eq (π : ι → κ) (K' : Matrix κ κ ℝ) (K : Matrix ι ι ℝ) (hK : ∀ i j, K i j = K' (π i) (π j)) :
    K = dupMat π * K' * (dupMat π)ᵀ := by
  ext i j
  simp only [mul_apply, dupMat, of_apply, transpose_apply, ite_mul, one_mul, zero_mul, mul_ite, mul_one, mul_zero,
    Finset.sum_ite_eq, Finset.mem_univ, if_true, hK]

/-- the candidate `M₀ = E D⁻¹ K'⁻¹ D⁻¹ Eᵀ` -/
noncomputable def dupPinv (π : ι → κ) (M' : Matrix κ κ ℝ) : Matrix ι ι ℝ :=
  dupMat π * diagonal (fun a => (mult π a)⁻¹) * M' * diagonal (fun a => (mult π a)⁻¹) * (dupMat π)ᵀ

theorem diag_mult_inv (π : ι → κ) (hπ : Function.Surjective π) :
    diagonal (fun a => (mult π a)⁻¹) * diagonal (mult π) = 1 := by
  rw [diagonal_mul_diagonal, ← diagonal_one]
  congr 1
  funext a
  exact inv_mul_cancel₀ (mult_pos π hπ a).ne'

/-- `M₀` satisfies the four Penrose equations of the duplicated system — for every surjection
    (any multiplicities), every invertible merged matrix `K'`.  In particular the hypothesis `IsMPInv K M`
    of `mpinv_dup_eq` and `duplicates_pinv` is satisfiable for every duplicated system. -/
theorem dupPinv_isMPInv (π : ι → κ) (hπ : Function.Surjective π) (K' M' : Matrix κ κ ℝ) (hM' : M' * K' = 1) :
    IsMPInv (dupMat π * K' * (dupMat π)ᵀ) (dupPinv π M') := by
  have hD : diagonal (fun a => (mult π a)⁻¹) * diagonal (mult π) = 1 := diag_mult_inv π hπ
  have hR : dupPinv π M' = (diagonal (fun a => (mult π a)⁻¹) * (dupMat π)ᵀ)ᵀ * M' *
      (diagonal (fun a => (mult π a)⁻¹) * (dupMat π)ᵀ) := by
    rw [transpose_mul, transpose_transpose, diagonal_transpose, dupPinv, ← Matrix.mul_assoc]
  rw [hR]
  refine IsMPInv.congruence ?_ ?_ hM'
  · rw [Matrix.mul_assoc, dupMat_transpose_mul, hD]
  · rw [transpose_mul, transpose_mul, transpose_transpose, diagonal_transpose, Matrix.mul_assoc]

/-- ANY Moore–Penrose inverse of a duplicated system (what `pinv` returns) is `dupPinv π M'` -/
theorem mpinv_dup_eq (π : ι → κ) (hπ : Function.Surjective π) (K' M' : Matrix κ κ ℝ) (hM' : M' * K' = 1)
    (K M : Matrix ι ι ℝ) (hK : ∀ i j, K i j = K' (π i) (π j)) (hM : IsMPInv K M) : M = dupPinv π M' := by
  rw [dup_eq π K' K hK] at hM
  exact hM.unique (dupPinv_isMPInv π hπ K' M' hM')

theorem dupPinv_mulVec (π : ι → κ) (hπ : Function.Surjective π) (M' : Matrix κ κ ℝ) (k' : κ → ℝ) :
    dupPinv π M' *ᵥ (dupMat π *ᵥ k') = dupMat π *ᵥ (diagonal (fun a => (mult π a)⁻¹) *ᵥ (M' *ᵥ k')) := by
  simp only [dupPinv, ← mulVec_mulVec]
  rw [mulVec_mulVec k' (dupMat π)ᵀ, dupMat_transpose_mul, mulVec_mulVec k', diag_mult_inv π hπ, one_mulVec]

/-- **duplicates with the pseudo-inverse, matrix form.**  `π` maps all conditioning points onto the distinct
    locations (surjective; any multiplicities).  The duplicated matrix is `K i j = K' (π i) (π j)`, a target sees
    `k i = k' (π i)`, `M'` inverts the merged matrix `K'`, and `M` is ANY Moore–Penrose inverse of `K`.  Then the
    two bilinear forms the kernel computes are those of the merged system, the data being replaced by their
    means over coincident points. -/
theorem duplicates_pinv (π : ι → κ) (hπ : Function.Surjective π) (K' M' : Matrix κ κ ℝ) (hM' : M' * K' = 1)
    (K M : Matrix ι ι ℝ) (hK : ∀ i j, K i j = K' (π i) (π j)) (hM : IsMPInv K M)
    (z k : ι → ℝ) (k' : κ → ℝ) (hk : ∀ i, k i = k' (π i)) :
    z ⬝ᵥ (M *ᵥ k) = fiberMean π z ⬝ᵥ (M' *ᵥ k') ∧ k ⬝ᵥ (M *ᵥ k) = k' ⬝ᵥ (M' *ᵥ k') := by
  have hkE : k = dupMat π *ᵥ k' := by rw [dupMat_mulVec]; funext i; exact hk i
  have hm : ∀ a, mult π a ≠ 0 := fun a => (mult_pos π hπ a).ne'
  rw [mpinv_dup_eq π hπ K' M' hM' K M hK hM, hkE, dupPinv_mulVec π hπ]
  have key : ∀ v : ι → ℝ, ∀ w : κ → ℝ, v ⬝ᵥ (dupMat π *ᵥ w) = ((dupMat π)ᵀ *ᵥ v) ⬝ᵥ w := by
    intro v w
    rw [dotProduct_mulVec, ← vecMul_transpose, transpose_transpose]
  constructor
  · rw [key, dupMat_transpose_mulVec]
    simp only [dotProduct, mulVec_diagonal, fiberMean]
    apply Finset.sum_congr rfl
    intro a _
    rw [div_eq_mul_inv]; ring
  · rw [key, mulVec_mulVec, dupMat_transpose_mul]
    simp only [dotProduct, mulVec_diagonal]
    apply Finset.sum_congr rfl
    intro a _
    rw [mul_comm (mult π a), mul_assoc, mul_inv_cancel_left₀ (hm a)]

/-- the hypotheses are satisfiable by a genuinely singular system: two coincident points (`π` constant), merged
    matrix `(2)`, duplicated matrix `!![2,2;2,2]` (determinant 0, no inverse), pseudo-inverse `!![1/8,1/8;1/8,1/8]` -/
example : ∃ (π : Fin 2 → Fin 1) (K' M' : Matrix (Fin 1) (Fin 1) ℝ) (K M : Matrix (Fin 2) (Fin 2) ℝ),
    Function.Surjective π ∧ ¬ Function.Injective π ∧ M' * K' = 1 ∧ (∀ i j, K i j = K' (π i) (π j)) ∧ IsMPInv K M ∧
    K.det = 0 := by
  refine ⟨fun _ => 0, !![2], !![1/2], !![2, 2; 2, 2], !![1/8, 1/8; 1/8, 1/8], ?_, ?_, ?_, ?_, ?_, ?_⟩
  · intro a; exact ⟨0, Subsingleton.elim _ _⟩
  · intro h; exact absurd (h (a₁ := 0) (a₂ := 1) rfl) (by decide)
  · ext i j; fin_cases i; fin_cases j; simp [Matrix.mul_apply]
  · intro i j; fin_cases i <;> fin_cases j <;> rfl
  · simp only [IsMPInv, mul_fin_two]
    norm_num [← Matrix.ext_iff, Fin.forall_fin_succ]
  · rw [det_fin_two_of]; norm_num

end dup

/-- layout of a simple-kriging system with `n` conditioning points: no unbiasedness row, no drifts -/
def simpleL (n : Nat) : Layout := ⟨n, false, 0, 0⟩

theorem simpleL_size (n : Nat) : (simpleL n).size = n := rfl

private theorem fin_fiber_sum (n m : Nat) (π : Nat → Nat) (hπ : ∀ i, i < n → π i < m) (a : Fin m) (g : Nat → ℝ) :
    ∑ i ∈ univ.filter (fun i : Fin n => (⟨π i, hπ i i.2⟩ : Fin m) = a), g i =
      ∑ i ∈ (range n).filter (fun i => π i = a), g i := by
  rw [Finset.sum_filter, Finset.sum_filter, Finset.sum_range]
  apply Finset.sum_congr rfl
  intro i _
  simp [Fin.ext_iff]

/-- **coincident conditioning points solved with the pseudo-inverse act as ONE point carrying their mean value**, on the
    model's own arrays, for ANY number of conditioning points and ANY
    multiplicities.  `π` sends the `n` conditioning points onto the `m` distinct locations.  Hypotheses:
    covariances depend on the location only (`hC`, `hc`), zero measurement error (`herr`, `herr'`: otherwise the
    duplicated matrix is regular and no pseudo-inverse is involved), `M` is a Moore–Penrose inverse of the
    assembled duplicated matrix (what `pinv`/`pinvh` return), `M'` inverts the assembled merged matrix, and the
    merged system carries at every location the MEAN of the prepared data `norm(z − trend) − mean` of the points
    coinciding there (`hmean`; division by a multiplicity ≥ 1).  Then the kernel's estimate and its variance term
    for a target are those of the merged system. -/
theorem duplicates_pinv_simple (n m : Nat) (π : Nat → Nat) (hπ : ∀ i, i < n → π i < m)
    (hsurj : ∀ a, a < m → ∃ i, i < n ∧ π i = a)
    (C C' : Nat → Nat → ℝ) (err err' : Nat → ℝ) (F E F' E' : Nat → Nat → ℝ)
    (hC : ∀ i j, i < n → j < n → C i j = C' (π i) (π j))
    (herr : ∀ i, i < n → err i = 0) (herr' : ∀ a, a < m → err' a = 0)
    (c c' f e f' e' : Nat → Nat → ℝ) (p p' : Nat) (hc : ∀ i, i < n → c i p = c' (π i) p')
    (M M' : Nat → Nat → ℝ)
    (hM : IsMPInv (toMat (simpleL n).size (assembleK (simpleL n) C err F E)) (toMat (simpleL n).size M))
    (hM' : toMat (simpleL m).size M' * toMat (simpleL m).size (assembleK (simpleL m) C' err' F' E') = 1)
    (valn mean valn' mean' : Nat → ℝ)
    (hmean : ∀ a, a < m → valn' a - mean' a =
      (∑ i ∈ (range n).filter (fun i => π i = a), (valn i - mean i)) / (((range n).filter (fun i => π i = a)).card : ℝ)) :
    krigeFieldCell M (assembleRHS (simpleL n) false c f e) (krigeCond (simpleL n) valn mean) (simpleL n).size p ((0:Nat):ℝ) =
      krigeFieldCell M' (assembleRHS (simpleL m) false c' f' e') (krigeCond (simpleL m) valn' mean') (simpleL m).size p' ((0:Nat):ℝ) ∧
    krigeErrCell M (assembleRHS (simpleL n) false c f e) (simpleL n).size p ((0:Nat):ℝ) =
      krigeErrCell M' (assembleRHS (simpleL m) false c' f' e') (simpleL m).size p' ((0:Nat):ℝ) := by
  have hM : IsMPInv (toMat n (assembleK (simpleL n) C err F E)) (toMat n M) := hM
  have hM' : toMat m M' * toMat m (assembleK (simpleL m) C' err' F' E') = 1 := hM'
  simp only [simpleL_size]
  rw [field_eq_bilinear, field_eq_bilinear, err_eq_quadratic, err_eq_quadratic]
  let π' : Fin n → Fin m := fun i => ⟨π i, hπ i i.2⟩
  have hπ' : Function.Surjective π' := by
    intro a
    obtain ⟨i, hi, hia⟩ := hsurj a a.2
    exact ⟨⟨i, hi⟩, Fin.ext hia⟩
  have hK : ∀ i j : Fin n, toMat n (assembleK (simpleL n) C err F E) i j =
      toMat m (assembleK (simpleL m) C' err' F' E') (π' i) (π' j) := fun i j => by
    show assembleK (simpleL n) C err F E i j = assembleK (simpleL m) C' err' F' E' (π i) (π j)
    rw [assembleK_data (L := simpleL n) i.2 j.2, assembleK_data (L := simpleL m) (hπ i i.2) (hπ j j.2),
      herr i i.2, herr' _ (hπ i i.2), add_zero, add_zero, ite_self, ite_self, hC i j i.2 j.2]
  have hk : ∀ i : Fin n, C05.col n (assembleRHS (simpleL n) false c f e) p i =
      C05.col m (assembleRHS (simpleL m) false c' f' e') p' (π' i) := fun i => by
    show assembleRHS (simpleL n) false c f e i p = assembleRHS (simpleL m) false c' f' e' (π i) p'
    rw [assembleRHS_data (L := simpleL n) i.2, assembleRHS_data (L := simpleL m) (hπ i i.2), hc i i.2]
  have := duplicates_pinv π' hπ' (toMat m (assembleK (simpleL m) C' err' F' E')) (toMat m M') hM'
    (toMat n (assembleK (simpleL n) C err F E)) (toMat n M) hK hM
    (toVec n (krigeCond (simpleL n) valn mean)) (C05.col n (assembleRHS (simpleL n) false c f e) p)
    (C05.col m (assembleRHS (simpleL m) false c' f' e') p') hk
  refine ⟨this.1.trans ?_, this.2⟩
  -- the fibre means over `Fin n` are the means of the prepared data the merged system carries
  congr 1
  funext a
  have hcard : mult π' a = (((range n).filter (fun i => π i = a)).card : ℝ) := by
    rw [Finset.cast_card, ← fin_fiber_sum n m π hπ a fun _ => 1, mult, Finset.cast_card]
  refine Eq.trans ?_ ((if_pos a.2).trans (hmean a a.2)).symm
  simp only [fiberMean, toVec]
  rw [hcard, fin_fiber_sum n m π hπ a (krigeCond (simpleL n) valn mean)]
  congr 1
  exact sum_congr rfl fun i hi => if_pos (mem_range.mp (mem_filter.mp hi).1)

/-- `duplicates_pinv_simple` through the model of `Krige.__call__` (chunk loop, generated kernel, variance clipping): the call on
    the duplicated data with a pseudo-inverse returns, at every target, the field AND the clipped variance of the
    call on the merged data — for any chunk sizes and any admissible schedules on either side -/
theorem duplicates_pinv_simple_call (s₁ s₂ : Sched) (h₁ : s₁.Admissible) (h₂ : s₂.Admissible)
    (n m : Nat) (π : Nat → Nat) (hπ : ∀ i, i < n → π i < m)
    (hsurj : ∀ a, a < m → ∃ i, i < n ∧ π i = a)
    (C C' : Nat → Nat → ℝ) (err err' : Nat → ℝ) (F E F' E' : Nat → Nat → ℝ)
    (hC : ∀ i j, i < n → j < n → C i j = C' (π i) (π j))
    (herr : ∀ i, i < n → err i = 0) (herr' : ∀ a, a < m → err' a = 0)
    (c c' f e f' e' : Nat → Nat → ℝ) (pnt cs₁ cs₂ p : Nat) (hcs₁ : 0 < cs₁) (hcs₂ : 0 < cs₂) (hp : p < pnt)
    (hc : ∀ i, i < n → c i p = c' (π i) p)
    (M M' : Nat → Nat → ℝ)
    (hM : IsMPInv (toMat (simpleL n).size (assembleK (simpleL n) C err F E)) (toMat (simpleL n).size M))
    (hM' : toMat (simpleL m).size M' * toMat (simpleL m).size (assembleK (simpleL m) C' err' F' E') = 1)
    (valn mean valn' mean' : Nat → ℝ) (sill : ℝ)
    (hmean : ∀ a, a < m → valn' a - mean' a =
      (∑ i ∈ (range n).filter (fun i => π i = a), (valn i - mean i)) / (((range n).filter (fun i => π i = a)).card : ℝ)) :
    (krigeCall s₁ (simpleL n) M (assembleRHS (simpleL n) false c f e) (krigeCond (simpleL n) valn mean) sill pnt cs₁).1 p =
      (krigeCall s₂ (simpleL m) M' (assembleRHS (simpleL m) false c' f' e') (krigeCond (simpleL m) valn' mean') sill pnt cs₂).1 p ∧
    (krigeCall s₁ (simpleL n) M (assembleRHS (simpleL n) false c f e) (krigeCond (simpleL n) valn mean) sill pnt cs₁).2 p =
      (krigeCall s₂ (simpleL m) M' (assembleRHS (simpleL m) false c' f' e') (krigeCond (simpleL m) valn' mean') sill pnt cs₂).2 p := by
  have h := duplicates_pinv_simple n m π hπ hsurj C C' err err' F E F' E' hC herr herr' c c' f e f' e' p p hc M M' hM hM'
    valn mean valn' mean' hmean
  exact krigeCall_congr h₁ h₂ sill hcs₁ hcs₂ hp h.1 h.2

/-- the matrix-level hypotheses (`duplicates_pinv`) are also satisfiable with a non-constant `π`: three conditioning points,
    the first two coincident (`π = 0,0,1`), merged covariance `!![2,1;1,2]`; the pseudo-inverse of the singular `3×3` matrix exists
    (`dupPinv_isMPInv`) -/
example : ∃ (π : Fin 3 → Fin 2) (K' M' : Matrix (Fin 2) (Fin 2) ℝ), Function.Surjective π ∧ ¬ Function.Injective π ∧
    M' * K' = 1 ∧ IsMPInv (dupMat π * K' * (dupMat π)ᵀ) (dupPinv π M') := by
  have hs : Function.Surjective (![0, 0, 1] : Fin 3 → Fin 2) := by
    intro a; fin_cases a
    · exact ⟨0, rfl⟩
    · exact ⟨2, rfl⟩
  have hinv : (!![2/3, -1/3; -1/3, 2/3] : Matrix (Fin 2) (Fin 2) ℝ) * !![2, 1; 1, 2] = 1 := by
    rw [mul_fin_two, one_fin_two]; norm_num
  exact ⟨![0, 0, 1], !![2, 1; 1, 2], !![2/3, -1/3; -1/3, 2/3], hs,
    fun h => absurd (h (a₁ := 0) (a₂ := 1) rfl) (by decide), hinv, dupPinv_isMPInv _ hs _ _ hinv⟩

end GSV.Props.C06
