/-
  C05, coincident conditioning points WITH measurement errors: repeated measurements at one location act as ONE
  measurement carrying the precision-weighted mean of the values with the error `1 / Σ 1/eᵢ` — estimate AND variance,
  every variant, any multiplicities, any number of such locations.

  `_get_krige_mat` puts `cond_err` on the diagonal only, so coincident points differ in nothing else.  For matrices
  `K i j = B (π i) (π j) + [i = j] dᵢ`, `K' = B + diag d'` and split weights `λ` with `Σ_{π i = a} λᵢ = 1`,
  `dᵢ λᵢ = d'_{π i}` (positive errors: `λᵢ = (1/eᵢ) / Σ 1/e`, `d' = 1 / Σ 1/e`), a solution `w'` of the reduced system
  split as `λᵢ · w'_{π i}` solves the full one; by uniqueness it IS `M k`.  Then on the model's arrays (`merge_model`)
  and through the model of `Krige.__call__`.
-/
import GSV.Props.C05Coin
import Mathlib.Algebra.BigOperators.Field
import Mathlib.Tactic.FinCases
import Mathlib.Tactic.NormNum
namespace GSV.Props.C05
open GSV GSV.Props GSV.Model.Krige GSV.Krigesum Finset Matrix

section mergeMat
variable {ι κ : Type*} [Fintype ι] [Fintype κ] [DecidableEq ι] [DecidableEq κ]

omit [DecidableEq ι] in
theorem sum_fiberwise_weights (π : ι → κ) (lam : ι → ℝ) (g : κ → ℝ) :
    ∑ j, lam j * g (π j) = ∑ b, g b * ∑ j, (if π j = b then lam j else 0) := by
  simp only [Finset.mul_sum, mul_ite, mul_zero]
  rw [Finset.sum_comm]
  refine sum_congr rfl fun j _ => ?_
  rw [Finset.sum_ite_eq, if_pos (mem_univ _), mul_comm]

omit [DecidableEq ι] in
/-- split weights sum to one on every fibre, so weighting by them and reading through `π` preserves sums -/
theorem sum_split_weights {π : ι → κ} {lam : ι → ℝ} (hlam : ∀ a, ∑ i, (if π i = a then lam i else 0) = 1)
    (g : κ → ℝ) : ∑ j, lam j * g (π j) = ∑ b, g b := by
  simp only [sum_fiberwise_weights, hlam, mul_one]

/-- **splitting a solution of the reduced system**: with `K i j = B (π i) (π j) + [i = j] dᵢ` (coincident points:
    equal rows and columns of covariances and drifts, the error on the diagonal only), `K' = B + diag d'`, and split
    weights `λ` (`Σ_{π i = a} λᵢ = 1`, `dᵢ λᵢ = d'_{π i}`), the vector `λᵢ · w'_{π i}` is mapped by `K` to
    `(K' w')_{π i}` -/
theorem merge_weights_solve (π : ι → κ) (B : Matrix κ κ ℝ) (d lam : ι → ℝ) (d' : κ → ℝ)
    (K : Matrix ι ι ℝ) (K' : Matrix κ κ ℝ)
    (hK : ∀ i j, K i j = B (π i) (π j) + if i = j then d i else 0)
    (hK' : ∀ a b, K' a b = B a b + if a = b then d' a else 0)
    (hlam : ∀ a, ∑ i, (if π i = a then lam i else 0) = 1)
    (hd : ∀ i, d i * lam i = d' (π i)) (w' : κ → ℝ) :
    K *ᵥ (fun i => lam i * w' (π i)) = fun i => (K' *ᵥ w') (π i) := by
  funext i
  have h := sum_split_weights hlam (fun b => B (π i) b * w' b)
  simp only [mulVec, dotProduct, hK, hK', add_mul, ite_mul, zero_mul, Finset.sum_add_distrib, Finset.sum_ite_eq,
    Finset.mem_univ, if_true]
  rw [← mul_assoc, hd, ← h]
  exact congrArg (· + _) (sum_congr rfl fun j _ => mul_left_comm _ _ _)

/-- **the reduced system is regular whenever the full one is** -/
theorem merge_reduced_regular (π : ι → κ) (B : Matrix κ κ ℝ) (d lam : ι → ℝ) (d' : κ → ℝ)
    (K : Matrix ι ι ℝ) (K' : Matrix κ κ ℝ)
    (hK : ∀ i j, K i j = B (π i) (π j) + if i = j then d i else 0)
    (hK' : ∀ a b, K' a b = B a b + if a = b then d' a else 0)
    (hlam : ∀ a, ∑ i, (if π i = a then lam i else 0) = 1)
    (hd : ∀ i, d i * lam i = d' (π i)) (M : Matrix ι ι ℝ) (hMK : M * K = 1) :
    ∃ M' : Matrix κ κ ℝ, M' * K' = 1 := by
  -- `K' x = 0` gives `K (λ · x ∘ π) = 0`, hence `λ · x ∘ π = 0`, and `x a` is a fibre sum of that vector
  have hker : ∀ x, K' *ᵥ x = 0 → x = 0 := fun x hx => by
    have h1 := merge_weights_solve π B d lam d' K K' hK hK' hlam hd x
    have h2 : (fun i => lam i * x (π i)) = 0 := by
      rw [← one_mulVec (fun i => lam i * x (π i)), ← hMK, ← mulVec_mulVec, h1, hx]
      exact mulVec_zero M
    have h2 : ∀ i, lam i * x (π i) = 0 := congrFun h2
    funext a
    have h3 := sum_split_weights hlam (fun b => if b = a then x b else 0)
    rw [Finset.sum_ite_eq' univ a x, if_pos (mem_univ a)] at h3
    rw [← h3]
    exact sum_eq_zero fun j _ => by rw [mul_ite, mul_zero, h2 j, ite_self]
  have hinj : Function.Injective K'.mulVec := fun u v huv =>
    sub_eq_zero.mp (hker _ (by rw [mulVec_sub, huv, sub_self]))
  exact (Matrix.mulVec_injective_iff_isUnit.mp hinj).exists_left_inv

/-- **coincident points with errors, matrix form.**  `M` inverts the full matrix, `M'` the reduced one, a target
    sees `k i = k' (π i)`.  Then the weights of the full system are the split weights of the reduced one, the
    estimate is that of the reduced system with the `λ`-weighted means of the data, and the variance term is that
    of the reduced system. -/
theorem merge_coincident (π : ι → κ) (B : Matrix κ κ ℝ) (d lam : ι → ℝ) (d' : κ → ℝ)
    (K : Matrix ι ι ℝ) (K' : Matrix κ κ ℝ)
    (hK : ∀ i j, K i j = B (π i) (π j) + if i = j then d i else 0)
    (hK' : ∀ a b, K' a b = B a b + if a = b then d' a else 0)
    (hlam : ∀ a, ∑ i, (if π i = a then lam i else 0) = 1)
    (hd : ∀ i, d i * lam i = d' (π i))
    (M : Matrix ι ι ℝ) (M' : Matrix κ κ ℝ) (hMK : M * K = 1) (hM'K' : M' * K' = 1)
    (z k : ι → ℝ) (k' : κ → ℝ) (hk : ∀ i, k i = k' (π i)) :
    M *ᵥ k = (fun i => lam i * (M' *ᵥ k') (π i)) ∧
    z ⬝ᵥ (M *ᵥ k) = (fun a => ∑ i, (if π i = a then lam i * z i else 0)) ⬝ᵥ (M' *ᵥ k') ∧
    k ⬝ᵥ (M *ᵥ k) = k' ⬝ᵥ (M' *ᵥ k') := by
  have hK'M' : K' * M' = 1 := mul_eq_one_comm.mp hM'K'
  have hsolve := merge_weights_solve π B d lam d' K K' hK hK' hlam hd (M' *ᵥ k')
  rw [mulVec_mulVec, hK'M', one_mulVec] at hsolve
  have hkk : k = fun i => k' (π i) := funext hk
  have hw : M *ᵥ k = fun i => lam i * (M' *ᵥ k') (π i) := by
    rw [hkk, ← hsolve, mulVec_mulVec, hMK, one_mulVec]
  refine ⟨hw, ?_, ?_⟩
  · rw [hw, dotProduct_comm _ (M' *ᵥ k')]
    simp only [dotProduct]
    rw [← sum_fiberwise_weights π (fun i => lam i * z i) (M' *ᵥ k')]
    exact sum_congr rfl fun i _ => by ring
  · rw [hw, hkk]
    simp only [dotProduct]
    rw [← sum_split_weights hlam (fun b => k' b * (M' *ᵥ k') b)]
    exact sum_congr rfl fun i _ => mul_left_comm _ _ _

/-- the matrix-level hypotheses are satisfiable by a genuinely repeated station: three points, the first two
    coincident (`π = 0,0,1`), covariances `1` at lag 0 and `1/2` between the two locations, errors `1/2`, `1/4` on the
    repeated station and NONE on the other point; split weights `1/3`, `2/3`, merged error `1/6`; both systems are
    regular; the merged value of the data `1`, `4` is `3` — neither of them, nor their plain mean `5/2` -/
example : ∃ (π : Fin 3 → Fin 2) (B : Matrix (Fin 2) (Fin 2) ℝ) (d lam : Fin 3 → ℝ) (d' : Fin 2 → ℝ)
    (K M : Matrix (Fin 3) (Fin 3) ℝ) (K' M' : Matrix (Fin 2) (Fin 2) ℝ) (z : Fin 3 → ℝ),
    Function.Surjective π ∧ ¬ Function.Injective π ∧
    (∀ i j, K i j = B (π i) (π j) + if i = j then d i else 0) ∧
    (∀ a b, K' a b = B a b + if a = b then d' a else 0) ∧
    (∀ a, ∑ i, (if π i = a then lam i else 0) = 1) ∧ (∀ i, d i * lam i = d' (π i)) ∧
    M * K = 1 ∧ M' * K' = 1 ∧ d 0 = 1/2 ∧ d 1 = 1/4 ∧ d' 0 = 1 / (1 / (1/2) + 1 / (1/4)) ∧
    z 0 = 1 ∧ z 1 = 4 ∧ (∑ i, (if π i = 0 then lam i * z i else 0)) = 3 := by
  refine ⟨![0, 0, 1], !![1, 1/2; 1/2, 1], ![1/2, 1/4, 0], ![1/3, 2/3, 1], ![1/6, 0],
    !![3/2, 1, 1/2; 1, 5/4, 1/2; 1/2, 1/2, 1], !![16/11, -12/11, -2/11; -12/11, 20/11, -4/11; -2/11, -4/11, 14/11],
    !![7/6, 1/2; 1/2, 1], !![12/11, -6/11; -6/11, 14/11], ![1, 4, 7], ?_, ?_, ?_, ?_, ?_, ?_, ?_, ?_, ?_⟩
  · exact Fin.forall_fin_two.mpr ⟨⟨0, rfl⟩, ⟨2, rfl⟩⟩
  · intro h; exact absurd (h (a₁ := 0) (a₂ := 1) rfl) (by decide)
  · simp [Fin.forall_fin_succ]
    norm_num
  · simp [Fin.forall_fin_succ]
    norm_num
  · refine Fin.forall_fin_two.mpr ⟨?_, ?_⟩
    · rw [Fin.sum_univ_three]
      show (1/3 + 2/3 + 0 : ℝ) = 1
      norm_num
    · rw [Fin.sum_univ_three]
      show (0 + 0 + 1 : ℝ) = 1
      norm_num
  · refine Fin.forall_fin_succ.mpr ⟨?_, Fin.forall_fin_two.mpr ⟨?_, zero_mul 1⟩⟩
    · show (1/2 * (1/3) : ℝ) = 1/6
      norm_num
    · show (1/4 * (2/3) : ℝ) = 1/6
      norm_num
  · rw [mul_fin_three, one_fin_three]; norm_num
  · rw [mul_fin_two, one_fin_two]; norm_num
  · refine ⟨rfl, rfl, by norm_num, rfl, rfl, ?_⟩
    rw [Fin.sum_univ_three]
    show (1/3 * 1 + 2/3 * 4 + 0 : ℝ) = 3
    norm_num

end mergeMat

/-- the layout of the reduced system: `m` conditioning points, the same unbiasedness / drift rows -/
def reLayout (L : Layout) (m : Nat) : Layout := ⟨m, L.unb, L.nf, L.ne⟩

/-- rows of the full system ↦ rows of the reduced one: conditioning points by `π`, border rows keep their offset -/
def mergeIdx (n m : Nat) (π : Nat → Nat) (i : Nat) : Nat := if i < n then π i else i - n + m

theorem mergeIdx_data {n m : Nat} {π : Nat → Nat} {i : Nat} (hi : i < n) : mergeIdx n m π i = π i := if_pos hi

theorem mergeIdx_border {n m : Nat} {π : Nat → Nat} {i : Nat} (hi : n ≤ i) : mergeIdx n m π i = i - n + m :=
  if_neg (Nat.not_lt.mpr hi)

section
variable (L : Layout) (m : Nat) (π : Nat → Nat) (hπ : ∀ i, i < L.n → π i < m)

theorem reLayout_size : (reLayout L m).size + L.n = L.size + m := by
  show m + L.u + L.nf + L.ne + L.n = L.n + L.u + L.nf + L.ne + m
  omega

include hπ in
theorem mergeIdx_lt (i : Nat) (hi : i < L.size) : mergeIdx L.n m π i < (reLayout L m).size := by
  have hs := reLayout_size L m
  rcases Nat.lt_or_ge i L.n with h | h
  · exact mergeIdx_data h ▸ Nat.lt_of_lt_of_le (hπ i h) (n_le_size (reLayout L m))
  · rw [mergeIdx_border h]
    omega

theorem border_reLayout {F E F' E' : Nat → Nat → ℝ} {c c' : Nat} (hF : ∀ r, r < L.nf → F r c = F' r c')
    (hE : ∀ r, r < L.ne → E r c = E' r c') {r : Nat} (hr : L.n ≤ r) :
    border L F E r c = border (reLayout L m) F' E' (r - L.n + m) c' := by
  obtain ⟨k, rfl⟩ := Nat.exists_eq_add_of_le hr
  rw [Nat.add_sub_cancel_left, Nat.add_comm k m]
  exact (border_shift L F E k c).trans
    ((border_congr (L := ⟨0, L.unb, L.nf, L.ne⟩) hF hE k).trans (border_shift (reLayout L m) F' E' k c').symm)

end

/-- entries of the full matrix through the reduced covariance / drift arrays: the error sits on the diagonal only -/
theorem assembleK_merge (L : Layout) (m : Nat) (π : Nat → Nat) (hπ : ∀ i, i < L.n → π i < m)
    (C C' : Nat → Nat → ℝ) (err : Nat → ℝ) (F E F' E' : Nat → Nat → ℝ)
    (hC : ∀ i j, i < L.n → j < L.n → C i j = C' (π i) (π j))
    (hF : ∀ r i, i < L.n → F r i = F' r (π i)) (hE : ∀ r i, i < L.n → E r i = E' r (π i))
    (i j : Nat) :
    assembleK L C err F E i j =
      assembleK (reLayout L m) C' (fun _ => 0) F' E' (mergeIdx L.n m π i) (mergeIdx L.n m π j) +
        if i = j then (if i < L.n then err i else 0) else 0 := by
  have hm : ∀ r, (reLayout L m).n ≤ r - L.n + m := fun r => Nat.le_add_left m _
  rcases Nat.lt_or_ge i L.n with hi | hi <;> rcases Nat.lt_or_ge j L.n with hj | hj
  · rw [mergeIdx_data hi, mergeIdx_data hj, assembleK_data hi hj,
      assembleK_data (L := reLayout L m) (hπ i hi) (hπ j hj), add_zero, ite_self, hC i j hi hj, if_pos hi, add_ite, add_zero]
  · rw [mergeIdx_data hi, mergeIdx_border hj, if_neg (Nat.lt_of_lt_of_le hi hj).ne, add_zero, assembleK_col hi hj,
      assembleK_col (L := reLayout L m) (hπ i hi) (hm j)]
    exact border_reLayout L m (fun r _ => hF r i hi) (fun r _ => hE r i hi) hj
  · rw [mergeIdx_border hi, mergeIdx_data hj, if_neg (Nat.lt_of_lt_of_le hj hi).ne', add_zero, assembleK_row hi hj,
      assembleK_row (L := reLayout L m) (hm i) (hπ j hj)]
    exact border_reLayout L m (fun r _ => hF r j hj) (fun r _ => hE r j hj) hi
  · rw [mergeIdx_border hi, mergeIdx_border hj, assembleK_corner hi hj, assembleK_corner (hm i) (hm j),
      if_neg (Nat.not_lt.mpr hi), ite_self, add_zero]

theorem assembleK_errfree {L : Layout} {C : Nat → Nat → ℝ} {err : Nat → ℝ} {F E : Nat → Nat → ℝ} (a b : Nat) :
    assembleK L C err F E a b =
      assembleK L C (fun _ => 0) F E a b + if a = b then (if a < L.n then err a else 0) else 0 := by
  have h := assembleK_merge L L.n id (fun _ h => h) C C err F E F E (fun _ _ _ _ => rfl) (fun _ _ _ => rfl)
    (fun _ _ _ => rfl) a b
  have hid : ∀ r, mergeIdx L.n L.n id r = r := fun r =>
    (Nat.lt_or_ge r L.n).elim mergeIdx_data fun h => (mergeIdx_border h).trans (Nat.sub_add_cancel h)
  rwa [hid, hid] at h

/-- the right-hand side of the full system is the right-hand side of the reduced one read through the row map, when coincident
    points have equal covariances to the target -/
theorem assembleRHS_merge (L : Layout) (m : Nat) (π : Nat → Nat) (om : Bool) (c c' f e f' e' : Nat → Nat → ℝ)
    (p p' : Nat) (hc : ∀ i, i < L.n → c i p = c' (π i) p') (hπ : ∀ i, i < L.n → π i < m)
    (hf : ∀ r, f r p = f' r p') (he : ∀ r, e r p = e' r p') (i : Nat) :
    assembleRHS L om c f e i p = assembleRHS (reLayout L m) om c' f' e' (mergeIdx L.n m π i) p' := by
  rcases Nat.lt_or_ge i L.n with hi | hi
  · rw [mergeIdx_data hi, assembleRHS_data hi, assembleRHS_data (L := reLayout L m) (hπ i hi), hc i hi]
  · rw [mergeIdx_border hi, assembleRHS_border hi, assembleRHS_border (L := reLayout L m) (Nat.le_add_left m _)]
    exact border_reLayout L m (fun r _ => hf r) (fun r _ => he r) hi

section
variable {L : Layout} {m : Nat} {π : Nat → Nat} (hπ : ∀ i, i < L.n → π i < m)

def mergeFin : Fin L.size → Fin (reLayout L m).size :=
  fun i => ⟨mergeIdx L.n m π i, mergeIdx_lt L m π hπ i i.2⟩

theorem sum_mergeFin (g h : Nat → ℝ) (a : Fin (reLayout L m).size) :
    ∑ i : Fin L.size, (if mergeFin hπ i = a then (if (i : Nat) < L.n then g i else h i) else 0) =
      if (a : Nat) < m then ∑ i ∈ (range L.n).filter (fun i => π i = a), g i else h (a - m + L.n) := by
  have hs := reLayout_size L m
  have hn := n_le_size L
  have ha := a.2
  simp only [mergeFin, Fin.ext_iff]
  rw [← Finset.sum_range fun i => if mergeIdx L.n m π i = a then (if i < L.n then g i else h i) else 0]
  by_cases ha' : (a : Nat) < m
  · rw [if_pos ha', sum_filter, ← sum_subset (range_subset_range.mpr hn)]
    · exact sum_congr rfl fun i hi => by rw [mergeIdx_data (mem_range.mp hi), if_pos (mem_range.mp hi)]
    · intro i _ hni
      rw [mergeIdx_border (Nat.not_lt.mp (mt mem_range.mpr hni))]
      exact if_neg (Nat.ne_of_gt (Nat.lt_of_lt_of_le ha' (Nat.le_add_left m _)))
  · rw [if_neg ha', sum_eq_single_of_mem (a - m + L.n) (mem_range.mpr (by omega))]
    · rw [mergeIdx_border (Nat.le_add_left _ _), Nat.add_sub_cancel, Nat.sub_add_cancel (Nat.not_lt.mp ha'), if_pos rfl,
        if_neg (Nat.not_lt.mpr (Nat.le_add_left _ _))]
    · intro i _ hne
      refine if_neg fun h => hne ?_
      rcases Nat.lt_or_ge i L.n with hi | hi
      · rw [mergeIdx_data hi] at h
        exact absurd (h ▸ hπ i hi) ha'
      · rw [mergeIdx_border hi] at h
        omega

variable {C C' : Nat → Nat → ℝ} {err err' lam : Nat → ℝ} {F E F' E' : Nat → Nat → ℝ}
  (hC : ∀ i j, i < L.n → j < L.n → C i j = C' (π i) (π j))
  (hF : ∀ r i, i < L.n → F r i = F' r (π i)) (hE : ∀ r i, i < L.n → E r i = E' r (π i))
  (hlam : ∀ a, a < m → ∑ i ∈ (range L.n).filter (fun i => π i = a), lam i = 1)
  (hd : ∀ i, i < L.n → err i * lam i = err' (π i))

include hC hF hE hlam hd in
/-- **the model's systems satisfy the matrix-level hypotheses**: for the row map `mergeFin`, the error-free reduced
    matrix as `B`, the errors padded by `0` and the split weights padded by `1` on the border rows (a border row is
    alone in its fibre) -/
theorem merge_model :
    (∀ i j : Fin L.size, toMat L.size (assembleK L C err F E) i j =
      toMat (reLayout L m).size (assembleK (reLayout L m) C' (fun _ => 0) F' E') (mergeFin hπ i)
        (mergeFin hπ j) + if i = j then (if (i : Nat) < L.n then err i else 0) else 0) ∧
    (∀ a b : Fin (reLayout L m).size, toMat (reLayout L m).size (assembleK (reLayout L m) C' err' F' E') a b =
      toMat (reLayout L m).size (assembleK (reLayout L m) C' (fun _ => 0) F' E') a b +
        if a = b then (if (a : Nat) < m then err' a else 0) else 0) ∧
    (∀ a : Fin (reLayout L m).size,
      ∑ i : Fin L.size, (if mergeFin hπ i = a then (if (i : Nat) < L.n then lam i else 1) else 0) = 1) ∧
    (∀ i : Fin L.size, (if (i : Nat) < L.n then err i else 0) * (if (i : Nat) < L.n then lam i else 1) =
      (fun a : Fin (reLayout L m).size => if (a : Nat) < m then err' a else 0) (mergeFin hπ i)) := by
  refine ⟨fun i j => ?_, fun a b => ?_, fun a => ?_, fun i => ?_⟩
  · simp only [Fin.ext_iff]
    exact assembleK_merge L m π hπ C C' err F E F' E' hC hF hE i j
  · simp only [Fin.ext_iff]
    exact assembleK_errfree a b
  · exact (sum_mergeFin hπ lam (fun _ => 1) a).trans (ite_eq_right_iff.mpr (hlam a))
  · show _ = if mergeIdx L.n m π i < m then err' (mergeIdx L.n m π i) else 0
    by_cases h : (i : Nat) < L.n
    · rw [mergeIdx_data h, if_pos h, if_pos h, if_pos (hπ i h), hd i h]
    · rw [mergeIdx_border (Nat.not_lt.mp h), if_neg h, if_neg h, zero_mul, if_neg (Nat.not_lt.mpr (Nat.le_add_left m _))]

end

/-- the reduced system of the model is regular whenever the full one is (general split weights) -/
theorem merge_reduced_regular_model (L : Layout) (m : Nat) (π : Nat → Nat) (hπ : ∀ i, i < L.n → π i < m)
    (C C' : Nat → Nat → ℝ) (err err' lam : Nat → ℝ) (F E F' E' : Nat → Nat → ℝ)
    (hC : ∀ i j, i < L.n → j < L.n → C i j = C' (π i) (π j))
    (hF : ∀ r i, i < L.n → F r i = F' r (π i)) (hE : ∀ r i, i < L.n → E r i = E' r (π i))
    (hlam : ∀ a, a < m → ∑ i ∈ (range L.n).filter (fun i => π i = a), lam i = 1)
    (hd : ∀ i, i < L.n → err i * lam i = err' (π i))
    (M : Nat → Nat → ℝ) (hM : toMat L.size M * toMat L.size (assembleK L C err F E) = 1) :
    ∃ M' : Matrix (Fin (reLayout L m).size) (Fin (reLayout L m).size) ℝ,
      M' * toMat (reLayout L m).size (assembleK (reLayout L m) C' err' F' E') = 1 := by
  obtain ⟨hK, hK', hlamx, hdx⟩ := merge_model hπ hC hF hE hlam hd
  exact merge_reduced_regular (mergeFin hπ) _ _ _ _ _ _ hK hK' hlamx hdx (toMat L.size M) hM

/-- **coincident conditioning points with measurement errors, on the model's arrays, every variant, general
    split weights.**  `L` is any layout (simple / unbiased / functional drifts / external drifts), `π` sends its
    `L.n` conditioning points to the `m` points of the reduced system (`reLayout L m`: same border rows).
    Hypotheses: covariances and drift values depend on the location only (`hC`, `hF`, `hE`: coincident points have
    equal rows / columns — the measurement error is NOT part of `C`, the model puts it on the diagonal); split weights
    `lam` with `Σ_{π i = a} lamᵢ = 1` for every reduced point (so every reduced point has at least one preimage) and
    `errᵢ · lamᵢ = err'_{π i}`; a target sees equal right-hand-side entries (`hc`, `hf`, `he`); `M`, `M'` invert the
    two assembled matrices; the reduced system carries the `lam`-weighted means of the prepared data.  Then the kernel's
    estimate and variance term at the target are those of the reduced system. -/
theorem merge_coincident_weights (L : Layout) (m : Nat) (π : Nat → Nat) (hπ : ∀ i, i < L.n → π i < m)
    (C C' : Nat → Nat → ℝ) (err err' lam : Nat → ℝ) (F E F' E' : Nat → Nat → ℝ)
    (hC : ∀ i j, i < L.n → j < L.n → C i j = C' (π i) (π j))
    (hF : ∀ r i, i < L.n → F r i = F' r (π i)) (hE : ∀ r i, i < L.n → E r i = E' r (π i))
    (hlam : ∀ a, a < m → ∑ i ∈ (range L.n).filter (fun i => π i = a), lam i = 1)
    (hd : ∀ i, i < L.n → err i * lam i = err' (π i))
    (om : Bool) (c c' f e f' e' : Nat → Nat → ℝ) (p p' : Nat)
    (hc : ∀ i, i < L.n → c i p = c' (π i) p') (hf : ∀ r, f r p = f' r p') (he : ∀ r, e r p = e' r p')
    (M M' : Nat → Nat → ℝ)
    (hM : toMat L.size M * toMat L.size (assembleK L C err F E) = 1)
    (hM' : toMat (reLayout L m).size M' * toMat (reLayout L m).size (assembleK (reLayout L m) C' err' F' E') = 1)
    (valn mean valn' mean' : Nat → ℝ)
    (hmean : ∀ a, a < m → valn' a - mean' a =
      ∑ i ∈ (range L.n).filter (fun i => π i = a), lam i * (valn i - mean i)) :
    krigeFieldCell M (assembleRHS L om c f e) (krigeCond L valn mean) L.size p ((0:Nat):ℝ) =
      krigeFieldCell M' (assembleRHS (reLayout L m) om c' f' e') (krigeCond (reLayout L m) valn' mean')
        (reLayout L m).size p' ((0:Nat):ℝ) ∧
    krigeErrCell M (assembleRHS L om c f e) L.size p ((0:Nat):ℝ) =
      krigeErrCell M' (assembleRHS (reLayout L m) om c' f' e') (reLayout L m).size p' ((0:Nat):ℝ) := by
  rw [field_eq_bilinear, field_eq_bilinear, err_eq_quadratic, err_eq_quadratic]
  obtain ⟨hK, hK', hlamx, hdx⟩ := merge_model hπ hC hF hE hlam hd
  have hkx : ∀ i : Fin L.size, col L.size (assembleRHS L om c f e) p i =
      col (reLayout L m).size (assembleRHS (reLayout L m) om c' f' e') p' (mergeFin hπ i) := fun i =>
    assembleRHS_merge L m π om c c' f e f' e' p p' hc hπ hf he i
  have := merge_coincident (mergeFin hπ) _ _ _ _ _ _ hK hK' hlamx hdx (toMat L.size M)
    (toMat (reLayout L m).size M') hM hM' (toVec L.size (krigeCond L valn mean)) (col L.size (assembleRHS L om c f e) p)
    (col (reLayout L m).size (assembleRHS (reLayout L m) om c' f' e') p') hkx
  refine ⟨this.2.1.trans ?_, this.2.2⟩
  -- the data of the reduced system are the weighted fibre sums of the data of the full one
  congr 1
  funext a
  simp only [toVec, krigeCond, ite_mul_ite, Nat.cast_zero, mul_zero]
  exact (sum_mergeFin hπ (fun i => lam i * (valn i - mean i)) (fun _ => 0) a).trans
    (ite_congr rfl (fun ha => (hmean a ha).symm) fun _ => rfl)

theorem sum_inv_err_pos (n : Nat) (π : Nat → Nat) (err : Nat → ℝ) (herr : ∀ i, i < n → 0 < err i) (a : Nat)
    (ha : ∃ i, i < n ∧ π i = a) : 0 < ∑ i ∈ (range n).filter (fun i => π i = a), 1 / err i := by
  obtain ⟨i, hi, hia⟩ := ha
  exact sum_pos (fun j hj => one_div_pos.mpr (herr j (mem_range.mp (mem_filter.mp hj).1)))
    ⟨i, mem_filter.mpr ⟨mem_range.mpr hi, hia⟩⟩

/-- **repeated measurements with POSITIVE measurement errors act as ONE measurement**: any layout (every kriging variant), any number of conditioning points, any number of repeated
    locations, any multiplicities.  `π` sends the `L.n` conditioning points ONTO the `m` distinct locations; the reduced
    system (`reLayout L m`) carries at location `a` the error `1 / Σ_{π i = a} 1/errᵢ` and the precision-weighted mean
    `(Σ_{π i = a} vᵢ/errᵢ) / (Σ_{π i = a} 1/errᵢ)` of the prepared data `vᵢ = valnᵢ − meanᵢ`.  `M`, `M'` invert the two
    assembled matrices (what `scipy.linalg.inv` returns; the reduced one is regular as soon as the full one is:
    `merge_reduced_regular`).  Then estimate and variance term at every target are those of the reduced system. -/
theorem merge_coincident_with_errors (L : Layout) (m : Nat) (π : Nat → Nat) (hπ : ∀ i, i < L.n → π i < m)
    (hsurj : ∀ a, a < m → ∃ i, i < L.n ∧ π i = a)
    (C C' : Nat → Nat → ℝ) (err err' : Nat → ℝ) (F E F' E' : Nat → Nat → ℝ)
    (hC : ∀ i j, i < L.n → j < L.n → C i j = C' (π i) (π j))
    (hF : ∀ r i, i < L.n → F r i = F' r (π i)) (hE : ∀ r i, i < L.n → E r i = E' r (π i))
    (herr : ∀ i, i < L.n → 0 < err i)
    (herr' : ∀ a, a < m → err' a = 1 / ∑ i ∈ (range L.n).filter (fun i => π i = a), 1 / err i)
    (om : Bool) (c c' f e f' e' : Nat → Nat → ℝ) (p p' : Nat)
    (hc : ∀ i, i < L.n → c i p = c' (π i) p') (hf : ∀ r, f r p = f' r p') (he : ∀ r, e r p = e' r p')
    (M M' : Nat → Nat → ℝ)
    (hM : toMat L.size M * toMat L.size (assembleK L C err F E) = 1)
    (hM' : toMat (reLayout L m).size M' * toMat (reLayout L m).size (assembleK (reLayout L m) C' err' F' E') = 1)
    (valn mean valn' mean' : Nat → ℝ)
    (hmean : ∀ a, a < m → valn' a - mean' a =
      (∑ i ∈ (range L.n).filter (fun i => π i = a), (valn i - mean i) / err i) /
        (∑ i ∈ (range L.n).filter (fun i => π i = a), 1 / err i)) :
    krigeFieldCell M (assembleRHS L om c f e) (krigeCond L valn mean) L.size p ((0:Nat):ℝ) =
      krigeFieldCell M' (assembleRHS (reLayout L m) om c' f' e') (krigeCond (reLayout L m) valn' mean')
        (reLayout L m).size p' ((0:Nat):ℝ) ∧
    krigeErrCell M (assembleRHS L om c f e) L.size p ((0:Nat):ℝ) =
      krigeErrCell M' (assembleRHS (reLayout L m) om c' f' e') (reLayout L m).size p' ((0:Nat):ℝ) := by
  let S : Nat → ℝ := fun a => ∑ i ∈ (range L.n).filter (fun i => π i = a), 1 / err i
  have hS : ∀ a, a < m → 0 < S a := fun a ha => sum_inv_err_pos L.n π err herr a (hsurj a ha)
  refine merge_coincident_weights L m π hπ C C' err err' (fun i => (1 / err i) / S (π i)) F E F' E' hC hF hE
    ?_ ?_ om c c' f e f' e' p p' hc hf he M M' hM hM' valn mean valn' mean' ?_
  · intro a ha
    rw [sum_congr rfl fun i hi => show 1 / err i / S (π i) = 1 / err i / S a by rw [(mem_filter.mp hi).2],
      ← Finset.sum_div]
    exact div_self (hS a ha).ne'
  · intro i hi
    rw [herr' (π i) (hπ i hi), ← mul_div_assoc, mul_one_div_cancel (herr i hi).ne']
  · intro a ha
    rw [hmean a ha, Finset.sum_div]
    refine sum_congr rfl fun i hi => ?_
    rw [(mem_filter.mp hi).2]
    show (valn i - mean i) / err i / S a = 1 / err i / S a * (valn i - mean i)
    ring

/-- `merge_coincident_with_errors` through the model of `Krige.__call__` (chunk loop, generated kernel, variance clipping): the call on the
    repeated measurements returns, at every target, the field AND the clipped variance of the call on the merged
    measurements — for any chunk sizes and any admissible schedules on either side -/
theorem merge_coincident_with_errors_call (s₁ s₂ : Sched) (h₁ : s₁.Admissible) (h₂ : s₂.Admissible)
    (L : Layout) (m : Nat) (π : Nat → Nat) (hπ : ∀ i, i < L.n → π i < m)
    (hsurj : ∀ a, a < m → ∃ i, i < L.n ∧ π i = a)
    (C C' : Nat → Nat → ℝ) (err err' : Nat → ℝ) (F E F' E' : Nat → Nat → ℝ)
    (hC : ∀ i j, i < L.n → j < L.n → C i j = C' (π i) (π j))
    (hF : ∀ r i, i < L.n → F r i = F' r (π i)) (hE : ∀ r i, i < L.n → E r i = E' r (π i))
    (herr : ∀ i, i < L.n → 0 < err i)
    (herr' : ∀ a, a < m → err' a = 1 / ∑ i ∈ (range L.n).filter (fun i => π i = a), 1 / err i)
    (om : Bool) (c c' f e f' e' : Nat → Nat → ℝ) (pnt cs₁ cs₂ p : Nat) (hcs₁ : 0 < cs₁) (hcs₂ : 0 < cs₂) (hp : p < pnt)
    (hc : ∀ i, i < L.n → c i p = c' (π i) p) (hf : ∀ r, f r p = f' r p) (he : ∀ r, e r p = e' r p)
    (M M' : Nat → Nat → ℝ)
    (hM : toMat L.size M * toMat L.size (assembleK L C err F E) = 1)
    (hM' : toMat (reLayout L m).size M' * toMat (reLayout L m).size (assembleK (reLayout L m) C' err' F' E') = 1)
    (valn mean valn' mean' : Nat → ℝ) (sill : ℝ)
    (hmean : ∀ a, a < m → valn' a - mean' a =
      (∑ i ∈ (range L.n).filter (fun i => π i = a), (valn i - mean i) / err i) /
        (∑ i ∈ (range L.n).filter (fun i => π i = a), 1 / err i)) :
    (krigeCall s₁ L M (assembleRHS L om c f e) (krigeCond L valn mean) sill pnt cs₁).1 p =
      (krigeCall s₂ (reLayout L m) M' (assembleRHS (reLayout L m) om c' f' e') (krigeCond (reLayout L m) valn' mean')
        sill pnt cs₂).1 p ∧
    (krigeCall s₁ L M (assembleRHS L om c f e) (krigeCond L valn mean) sill pnt cs₁).2 p =
      (krigeCall s₂ (reLayout L m) M' (assembleRHS (reLayout L m) om c' f' e') (krigeCond (reLayout L m) valn' mean')
        sill pnt cs₂).2 p := by
  have h := merge_coincident_with_errors L m π hπ hsurj C C' err err' F E F' E' hC hF hE herr herr' om c c' f e f' e' p p
    hc hf he M M' hM hM' valn mean valn' mean' hmean
  exact krigeCall_congr h₁ h₂ sill hcs₁ hcs₂ hp h.1 h.2

/-- the last conditioning point (index `n`) is sent to its twin `i₀`, the others stay -/
def pairMap (n i₀ : Nat) (k : Nat) : Nat := if k = n then i₀ else k

theorem pairMap_cases {n i₀ : Nat} {P : Nat → Nat → Prop} (hk : ∀ k, k < n → P k k) (hn : P n i₀) (i : Nat)
    (hi : i < n + 1) : P i (pairMap n i₀ i) := by
  rcases Nat.lt_succ_iff_lt_or_eq.mp hi with h | rfl
  · rw [pairMap, if_neg (Nat.ne_of_lt h)]
    exact hk i h
  · rw [pairMap, if_pos rfl]
    exact hn

theorem sum_pairMap_fiber (n i₀ a : Nat) (ha : a < n) (G : Nat → ℝ) :
    ∑ k ∈ (range (n + 1)).filter (fun k => pairMap n i₀ k = a), G k = G a + if a = i₀ then G n else 0 := by
  have h1 : ∀ k ∈ range n, (if pairMap n i₀ k = a then G k else 0) = if k = a then G k else 0 := fun k hk => by
    rw [pairMap, if_neg (Nat.ne_of_lt (mem_range.mp hk))]
  rw [sum_filter, sum_range_succ, sum_congr rfl h1, sum_ite_eq' (range n) a G, if_pos (mem_range.mpr ha), pairMap,
    if_pos rfl]
  exact congrArg _ (if_congr eq_comm rfl rfl)

/-- **two coincident conditioning points with positive errors are ONE point** (every variant; the errors of all OTHER
    conditioning points are arbitrary, zero included).  The system has `n + 1` conditioning points; the last one
    (index `n`) coincides with point `i₀ < n`: equal
    covariance rows and columns (`hrow`, `hcol`; the error is not part of `C`), equal drift values, equal
    right-hand-side entries.  Errors `e₀ = err i₀ > 0`, `e₁ = err n > 0`.  The reduced system drops point `n`, keeps all
    arrays, and carries at `i₀` the error `1 / (1/e₀ + 1/e₁)` and the value `(v₀/e₀ + v₁/e₁) / (1/e₀ + 1/e₁)`
    (`v = valn − mean`, the prepared data).  Estimate and variance term at the target are equal. -/
theorem merge_pair_with_errors (L : Layout) (n i₀ : Nat) (hL : L.n = n + 1) (hi₀ : i₀ < n)
    (C : Nat → Nat → ℝ) (err err' : Nat → ℝ) (F E : Nat → Nat → ℝ)
    (hrow : ∀ j, j ≤ n → C n j = C i₀ j) (hcol : ∀ j, j ≤ n → C j n = C j i₀)
    (hF : ∀ r, F r n = F r i₀) (hE : ∀ r, E r n = E r i₀)
    (he₀ : 0 < err i₀) (he₁ : 0 < err n)
    (herr₀ : err' i₀ = 1 / (1 / err i₀ + 1 / err n)) (herr' : ∀ k, k < n → k ≠ i₀ → err' k = err k)
    (om : Bool) (c f e : Nat → Nat → ℝ) (p : Nat) (hc : c n p = c i₀ p)
    (M M' : Nat → Nat → ℝ)
    (hM : toMat L.size M * toMat L.size (assembleK L C err F E) = 1)
    (hM' : toMat (reLayout L n).size M' * toMat (reLayout L n).size (assembleK (reLayout L n) C err' F E) = 1)
    (valn mean valn' mean' : Nat → ℝ)
    (hv₀ : valn' i₀ - mean' i₀ =
      ((valn i₀ - mean i₀) / err i₀ + (valn n - mean n) / err n) / (1 / err i₀ + 1 / err n))
    (hv : ∀ k, k < n → k ≠ i₀ → valn' k - mean' k = valn k - mean k) :
    krigeFieldCell M (assembleRHS L om c f e) (krigeCond L valn mean) L.size p ((0:Nat):ℝ) =
      krigeFieldCell M' (assembleRHS (reLayout L n) om c f e) (krigeCond (reLayout L n) valn' mean')
        (reLayout L n).size p ((0:Nat):ℝ) ∧
    krigeErrCell M (assembleRHS L om c f e) L.size p ((0:Nat):ℝ) =
      krigeErrCell M' (assembleRHS (reLayout L n) om c f e) (reLayout L n).size p ((0:Nat):ℝ) := by
  have hs := (add_pos (one_div_pos.mpr he₀) (one_div_pos.mpr he₁)).ne'
  have hn0 : n ≠ i₀ := (Nat.ne_of_lt hi₀).symm
  have hpm : ∀ k, k < L.n → pairMap n i₀ k < n := hL ▸ pairMap_cases (P := fun _ j => j < n) (fun _ h => h) hi₀
  refine merge_coincident_weights L n (pairMap n i₀) hpm C C err err'
    (fun k => if k = i₀ then (1 / err i₀) / (1 / err i₀ + 1 / err n)
      else if k = n then (1 / err n) / (1 / err i₀ + 1 / err n) else 1)
    F E F E ?_ ?_ ?_ ?_ ?_ om c c f e f e p p ?_ (fun _ => rfl) (fun _ => rfl) M M' hM hM' valn mean valn' mean' ?_
  · intro i j hi hj
    rw [hL] at hi hj
    refine pairMap_cases (P := fun i i' => ∀ j, j < n + 1 → C i j = C i' (pairMap n i₀ j)) (fun i hi => ?_) ?_
      i hi j hj
    · exact pairMap_cases (P := fun j j' => C i j = C i j') (fun _ _ => rfl) (hcol i (Nat.le_of_lt hi))
    · exact pairMap_cases (P := fun j j' => C n j = C i₀ j') (fun j hj => hrow j (Nat.le_of_lt hj))
        ((hrow n le_rfl).trans (hcol i₀ (Nat.le_of_lt hi₀)))
  · exact fun r => hL ▸ pairMap_cases (P := fun i i' => F r i = F r i') (fun _ _ => rfl) (hF r)
  · exact fun r => hL ▸ pairMap_cases (P := fun i i' => E r i = E r i') (fun _ _ => rfl) (hE r)
  · intro a ha
    rw [hL, sum_pairMap_fiber n i₀ a ha]
    by_cases h : a = i₀
    · rw [if_pos h, if_pos h, if_neg hn0, if_pos rfl, ← add_div, div_self hs]
    · rw [if_neg h, if_neg h, if_neg (Nat.ne_of_lt ha), add_zero]
  · rw [hL]
    refine pairMap_cases (P := fun i i' => err i * _ = err' i') (fun i hi => ?_) ?_
    · by_cases h : i = i₀
      · rw [if_pos h, h, herr₀, ← mul_div_assoc, mul_one_div_cancel he₀.ne']
      · rw [if_neg h, if_neg (Nat.ne_of_lt hi), mul_one, herr' i hi h]
    · rw [if_neg hn0, if_pos rfl, herr₀, ← mul_div_assoc, mul_one_div_cancel he₁.ne']
  · exact hL ▸ pairMap_cases (P := fun i i' => c i p = c i' p) (fun _ _ => rfl) hc
  · intro a ha
    rw [hL, sum_pairMap_fiber n i₀ a ha]
    by_cases h : a = i₀
    · rw [if_pos h, if_pos h, if_neg hn0, if_pos rfl, h, hv₀]
      ring
    · rw [if_neg h, if_neg h, if_neg (Nat.ne_of_lt ha), add_zero, one_mul, hv a ha h]

def ofMat {s : Nat} (A : Matrix (Fin s) (Fin s) ℝ) : Nat → Nat → ℝ :=
  fun i j => if h : i < s ∧ j < s then A ⟨i, h.1⟩ ⟨j, h.2⟩ else 0

theorem toMat_ofMat {s : Nat} (A : Matrix (Fin s) (Fin s) ℝ) : toMat s (ofMat A) = A := by
  ext i j
  simp [toMat, ofMat, i.2, j.2]

/-- covariances of the example: points `0` and `2` at one location, point `1` at another; `1` at lag 0, `1/2` between
    the two locations -/
noncomputable def exC : Nat → Nat → ℝ := fun i j => if i = 1 ∧ j = 1 then 1 else if i = 1 ∨ j = 1 then 1/2 else 1

/-- measurement errors of the example: `0.5` at point `0`, none at point `1`, `0.25` at point `2` -/
noncomputable def exErr : Nat → ℝ := fun k => if k = 0 then 1/2 else if k = 2 then 1/4 else 0

/-- **simple kriging, 3 points, two coincident, errors `0.5` and `0.25`, values `1` and `4`**: every hypothesis of
    `merge_pair_with_errors` holds (both systems regular, explicit inverses), the merged error is `1/6` and the merged
    value is `3` — neither `1` nor `4` (nor their plain mean `5/2`) -/
example : ∃ (L : Layout) (err' : Nat → ℝ) (M M' : Nat → Nat → ℝ) (valn valn' : Nat → ℝ),
    L.n = 2 + 1 ∧ L.size = 3 ∧ (reLayout L 2).size = 2 ∧ (0:Nat) < 2 ∧
    (∀ j, j ≤ 2 → exC 2 j = exC 0 j) ∧ (∀ j, j ≤ 2 → exC j 2 = exC j 0) ∧
    0 < exErr 0 ∧ 0 < exErr 2 ∧ exErr 0 = 0.5 ∧ exErr 2 = 0.25 ∧
    err' 0 = 1 / (1 / exErr 0 + 1 / exErr 2) ∧ (∀ k, k < 2 → k ≠ 0 → err' k = exErr k) ∧
    toMat L.size M * toMat L.size (assembleK L exC exErr (fun _ _ => 0) (fun _ _ => 0)) = 1 ∧
    toMat (reLayout L 2).size M' *
      toMat (reLayout L 2).size (assembleK (reLayout L 2) exC err' (fun _ _ => 0) (fun _ _ => 0)) = 1 ∧
    valn 0 = 1 ∧ valn 2 = 4 ∧
    valn' 0 - 0 = ((valn 0 - 0) / exErr 0 + (valn 2 - 0) / exErr 2) / (1 / exErr 0 + 1 / exErr 2) ∧
    (∀ k, k < 2 → k ≠ 0 → valn' k - 0 = valn k - 0) ∧
    valn' 0 = 3 ∧ err' 0 = 1/6 := by
  have e0 : exErr 0 = 1/2 := if_pos rfl
  have e2 : exErr 2 = 1/4 := by simp [exErr]
  refine ⟨⟨3, false, 0, 0⟩, fun k => if k = 0 then 1/6 else 0,
    ofMat !![16/11, -2/11, -12/11; -2/11, 14/11, -4/11; -12/11, -4/11, 20/11],
    ofMat !![12/11, -6/11; -6/11, 14/11],
    fun k => if k = 0 then 1 else if k = 2 then 4 else 7, fun k => if k = 0 then 3 else 7,
    rfl, rfl, rfl, Nat.two_pos, ?_, ?_, by rw [e0]; norm_num, by rw [e2]; norm_num, by rw [e0]; norm_num,
    by rw [e2]; norm_num, by rw [e0, e2]; norm_num, ?_, ?_, ?_, if_pos rfl, by simp,
    by rw [e0, e2]; norm_num, ?_, if_pos rfl, if_pos rfl⟩
  · intro j _
    simp [exC]
  · intro j _
    simp [exC]
  · intro k hk hk0
    simp [exErr, hk0, Nat.ne_of_lt hk]
  · have hK : toMat 3 (assembleK ⟨3, false, 0, 0⟩ exC exErr (fun _ _ => 0) (fun _ _ => 0)) =
        !![1 + 1/2, 1/2, 1; 1/2, 1 + 0, 1/2; 1, 1/2, 1 + 1/4] := (etaExpand_eq _).symm
    show toMat 3 _ * toMat 3 _ = 1
    rw [toMat_ofMat, hK, mul_fin_three, one_fin_three]
    norm_num
  · have hK : toMat 2 (assembleK (reLayout ⟨3, false, 0, 0⟩ 2) exC (fun k => if k = 0 then 1/6 else 0) (fun _ _ => 0)
        (fun _ _ => 0)) = !![1 + 1/6, 1/2; 1/2, 1 + 0] := (etaExpand_eq _).symm
    show toMat 2 _ * toMat 2 _ = 1
    rw [toMat_ofMat, hK, mul_fin_two, one_fin_two]
    norm_num
  · intro k hk hk0
    simp [hk0, Nat.ne_of_lt hk]

/-- **ordinary kriging on the same three points** (unbiasedness row): the `4 × 4` system and the reduced `3 × 3`
    system are both regular — the hypotheses of `merge_pair_with_errors` are satisfiable for an unbiased variant too -/
example : ∃ (L : Layout) (err' : Nat → ℝ) (M M' : Nat → Nat → ℝ),
    L.unb = true ∧ L.n = 2 + 1 ∧ L.size = 4 ∧ (reLayout L 2).size = 3 ∧
    err' 0 = 1 / (1 / exErr 0 + 1 / exErr 2) ∧ (∀ k, k < 2 → k ≠ 0 → err' k = exErr k) ∧
    toMat L.size M * toMat L.size (assembleK L exC exErr (fun _ _ => 0) (fun _ _ => 0)) = 1 ∧
    toMat (reLayout L 2).size M' *
      toMat (reLayout L 2).size (assembleK (reLayout L 2) exC err' (fun _ _ => 0) (fun _ _ => 0)) = 1 := by
  refine ⟨⟨3, true, 0, 0⟩, fun k => if k = 0 then 1/6 else 0,
    ofMat !![10/7, -2/7, -8/7, 1/7; -2/7, 6/7, -4/7, 4/7; -8/7, -4/7, 12/7, 2/7; 1/7, 4/7, 2/7, -11/14],
    ofMat !![6/7, -6/7, 3/7; -6/7, 6/7, 4/7; 3/7, 4/7, -11/14],
    rfl, rfl, rfl, rfl, by norm_num [exErr], ?_, ?_, ?_⟩
  · intro k hk hk0
    simp [exErr, hk0, Nat.ne_of_lt hk]
  · have hK : toMat 4 (assembleK ⟨3, true, 0, 0⟩ exC exErr (fun _ _ => 0) (fun _ _ => 0)) =
        !![1 + 1/2, 1/2, 1, Nat.cast 1; 1/2, 1 + 0, 1/2, Nat.cast 1; 1, 1/2, 1 + 1/4, Nat.cast 1;
          Nat.cast 1, Nat.cast 1, Nat.cast 1, Nat.cast 0] := (etaExpand_eq _).symm
    show toMat 4 _ * toMat 4 _ = 1
    rw [toMat_ofMat, hK, one_fin_four]
    simp only [cons_mul, cons_vecMul_cons, empty_vecMul, Matrix.empty_mul, smul_cons, Matrix.smul_empty, cons_add_cons,
      empty_add_empty, add_zero, smul_eq_mul]
    norm_num
  · have hK : toMat 3 (assembleK (reLayout ⟨3, true, 0, 0⟩ 2) exC (fun k => if k = 0 then 1/6 else 0) (fun _ _ => 0)
        (fun _ _ => 0)) = !![1 + 1/6, 1/2, Nat.cast 1; 1/2, 1 + 0, Nat.cast 1; Nat.cast 1, Nat.cast 1, Nat.cast 0] :=
      (etaExpand_eq _).symm
    show toMat 3 _ * toMat 3 _ = 1
    rw [toMat_ofMat, hK, mul_fin_three, one_fin_three]
    norm_num

end GSV.Props.C05
