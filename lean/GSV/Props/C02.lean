/-
  C02 — shipped covariance models are positive semi-definite where they claim validity.
  The code's acceptance predicate (`GSV.Model.Validity.accepts`: `check_dim` + the bounds stored at construction) implies
  the literature validity condition `litValid`, for every class, every dimension and every ordered field of parameters;
  every way GSTools turns a valid isotropic correlation into a covariance matrix (variance, length scale, anisotropy +
  rotation, nugget, appended time axis, Yadrenko chordal distance) preserves positive semi-definiteness; Gaussian, Rational,
  Exponential, Stable and TPLGaussian are proved valid end to end, the TPL classes as coded being the normalised
  superposition of their modes.  `litValid ⇒ PSD` for the remaining families is classical analysis that is not in Mathlib
  (trusted).
-/
import GSV.Model.Validity
import GSV.RealInst
import GSV.Lemmas.Psd
import Mathlib.Tactic.Linarith
import Mathlib.Tactic.NormNum
import Mathlib.Tactic.FinCases
import Mathlib.Analysis.InnerProductSpace.PiL2
import Mathlib.Analysis.InnerProductSpace.ProdL2
import Mathlib.Geometry.Euclidean.Angle.Unoriented.Basic
import Mathlib.Analysis.SpecialFunctions.Gamma.Basic
import Mathlib.Analysis.SpecialFunctions.ImproperIntegrals
import Mathlib.Analysis.SpecialFunctions.Integrals.Basic
import Mathlib.Analysis.SpecialFunctions.Integrability.Basic
import Mathlib.MeasureTheory.Measure.Lebesgue.Basic
import Mathlib.MeasureTheory.Constructions.BorelSpace.Basic

namespace GSV.Props.C02
open GSV GSV.Model.Validity GSV.Lemmas.Psd

section table
variable {K : Type} [Field K] [LinearOrder K]

theorem errCase_eq_zero_iff (b : Bound K) (v : K) :
    errCase b v = 0 ↔
      (if b.iv.lowerClosed then b.lo ≤ v else b.lo < v) ∧
      (match b.hi with
       | none => True
       | some hi => if b.iv.upperClosed then v ≤ hi else v < hi) := by
  obtain ⟨lo, hi, iv⟩ := b
  cases iv <;> cases hi <;>
    simp [errCase, Iv.lowerClosed, Iv.upperClosed, ite_eq_iff, and_comm]

theorem firstError_nil (p : Params K) : firstError [] p = none := rfl

theorem firstError_cons_eq_none (a : Arg) (b : Bound K) (bs : List (Arg × Bound K)) (p : Params K) :
    firstError ((a, b) :: bs) p = none ↔ errCase b (p.get a) = 0 ∧ firstError bs p = none := by
  unfold firstError
  rw [List.findSome?_cons]
  by_cases h : errCase b (p.get a) = 0 <;> simp only [h, if_true, if_false, true_and, false_and, reduceCtorEq]

/-- Acceptance in inequalities: `check_dim` of the current dimension, the three intervals of `CovModel` and the
    optional-argument intervals stored at construction.  (`accepts c d` is the case `d0 = d1 = d`.) -/
theorem acceptsAfterSetDim_iff {c : Cls} {d0 d1 : Nat} {p : Params K} :
    acceptsAfterSetDim c d0 d1 p = true ↔
      checkDim c d1 = true ∧ 0 < p.var ∧ 0 < p.lenScale ∧ 0 ≤ p.nugget ∧ firstError (optBounds c d0) p = none := by
  unfold acceptsAfterSetDim allBounds baseBounds
  rw [Bool.and_eq_true, Option.isNone_iff_eq_none]
  simp only [List.cons_append, List.nil_append, firstError_cons_eq_none, errCase_eq_zero_iff, Iv.lowerClosed,
    Params.get, Bool.false_eq_true, if_false, if_true, and_true, Nat.cast_zero]

/-- `check_arg_bounds` on the optional arguments, in inequalities: the intervals of `default_opt_arg_bounds` of a model
    of class `c` built in dimension `d`. -/
theorem firstError_optBounds_iff {c : Cls} {d : Nat} {p : Params K} :
    firstError (optBounds c d) p = none ↔
      match c with
      | .Matern => dbl02 ≤ p.nu ∧ p.nu ≤ 30
      | .Integral => 0 < p.nu ∧ p.nu ≤ 50
      | .Stable => 0 < p.alpha ∧ p.alpha ≤ 2
      | .Rational => 1 / 2 ≤ p.alpha ∧ p.alpha ≤ 50
      | .SuperSpherical => ((d : K) - 1) / 2 ≤ p.nu ∧ p.nu ≤ 50
      | .JBessel => (d : K) / 2 - 1 ≤ p.nu ∧ p.nu ≤ 50
      | .TPLSimple => ((d : K) + 1) / 2 ≤ p.nu ∧ p.nu ≤ 50
      | .TPLGaussian | .TPLExponential => (dbl01 < p.hurst ∧ p.hurst < 1) ∧ 0 ≤ p.lenLow
      | .TPLStable => (dbl01 < p.hurst ∧ p.hurst < 1) ∧ (0 < p.alpha ∧ p.alpha ≤ 2) ∧ 0 ≤ p.lenLow
      | _ => True := by
  cases c <;>
    simp only [optBounds, firstError_cons_eq_none, firstError_nil, errCase_eq_zero_iff, Iv.lowerClosed,
      Iv.upperClosed, Params.get, Bool.false_eq_true, if_false, if_true, and_true, Nat.cast_zero, Nat.cast_one,
      Nat.cast_ofNat]

/-- for the 14 classes whose bounds do not depend on the dimension the stored bounds are the bounds of every dimension -/
theorem acceptsAfterSetDim_eq_accepts (c : Cls) (hc : dimIndepBounds c = true) (d0 d1 : Nat) (p : Params K) :
    acceptsAfterSetDim c d0 d1 p = accepts c d1 p := by
  cases c
  case SuperSpherical | JBessel | TPLSimple => cases hc
  all_goals rfl

theorem hStep_invariants (s : HState K) (o : HOp K) :
    (hStep s o).1.cls = s.cls ∧ (hStep s o).1.boundsDim = s.boundsDim ∧ (hStep s o).1.forced = s.forced := by
  cases o with
  | setDim d =>
    simp only [hStep]
    split_ifs <;> exact ⟨rfl, rfl, rfl⟩
  | _ => exact ⟨rfl, rfl, rfl⟩

theorem hRun_invariants (s : HState K) (ops : List (HOp K)) :
    (hRun s ops).cls = s.cls ∧ (hRun s ops).boundsDim = s.boundsDim ∧ (hRun s ops).forced = s.forced := by
  induction ops generalizing s with
  | nil => exact ⟨rfl, rfl, rfl⟩
  | cons o os ih =>
    obtain ⟨h1, h2, h3⟩ := hStep_invariants s o
    obtain ⟨i1, i2, i3⟩ := ih (hStep s o).1
    exact ⟨i1.trans h1, i2.trans h2, i3.trans h3⟩

/-- **Evaluations leave no trace**: the state reached by a history is the state reached by the same history with every
    read access removed — the model of "the code keeps no cache"; the correspondence compares the real object after the
    history with a freshly constructed one of the predicted (dimension, values). -/
theorem history_eval_irrelevant (s : HState K) (ops : List (HOp K)) :
    hRun s ops = hRun s (ops.filter fun o => !o.isEval) := by
  induction ops generalizing s with
  | nil => rfl
  | cons o os ih =>
    cases o with
    | eval => exact ih s
    | setDim d => exact ih (hStep s (.setDim d)).1
    | setArg a v => exact ih (hStep s (.setArg a v)).1

/-- what the object accepts after a history is acceptance with the class and the bounds of its construction -/
theorem hAccepted_hRun (c : Cls) (d0 : Nat) (forced : Option Nat) (p0 : Params K) (ops : List (HOp K)) :
    hAccepted (hRun (hInit c d0 forced p0) ops)
      = acceptsAfterSetDim c d0 (hRun (hInit c d0 forced p0) ops).dim (hRun (hInit c d0 forced p0) ops).p := by
  obtain ⟨hc, hb, -⟩ := hRun_invariants (hInit c d0 forced p0) ops
  rw [hAccepted, hc, hb]
  rfl

variable [IsStrictOrderedRing K]

theorem dbl01_pos : (0 : K) < dbl01 := by unfold dbl01; norm_num

theorem dbl02_pos : (0 : K) < dbl02 := by unfold dbl02; norm_num

/-- **Validity with the bounds of the construction dimension `d0` in a current dimension `d1 ≤ d0`** (finding D8: the
    bounds are frozen at construction, so `model.dim = d1` re-checks against those of `d0`).  Lowering the dimension or
    keeping it is safe: every dimension-dependent lower bound is monotone in the dimension, and `check_dim` is the one
    of the current dimension. -/
theorem setdim_validity_partial (c : Cls) (d0 d1 : Nat) (p : Params K) (hle : d1 ≤ d0)
    (h : acceptsAfterSetDim c d0 d1 p = true) : litValid c d1 p := by
  obtain ⟨hd, hv, hl, hn, ho⟩ := acceptsAfterSetDim_iff.1 h
  rw [firstError_optBounds_iff] at ho
  rw [litValid, Nat.cast_zero]
  refine ⟨hv.le, hl, hn, ?_⟩
  have hcast : (d1 : K) ≤ (d0 : K) := Nat.cast_le.2 hle
  have half : ∀ {a b : K}, a ≤ b → a / 2 ≤ b / 2 := fun h => div_le_div_of_nonneg_right h zero_le_two
  have h01 := dbl01_pos (K := K)
  have h02 := dbl02_pos (K := K)
  -- `ho`: the optional-argument intervals of the class; goal: its literature condition
  cases c <;>
    simp only [litValidShape, Nat.cast_zero, Nat.cast_one, Nat.cast_ofNat, checkDim, decide_eq_true_eq] at hd ho ⊢
  case Matern => exact h02.trans_le ho.1
  case Integral => exact ho.1
  case Stable => exact ho
  case Rational => exact (half_pos one_pos).trans_le ho.1
  case SuperSpherical => exact (half (sub_le_sub_right hcast 1)).trans ho.1
  case JBessel => exact (sub_le_sub_right (half hcast) 1).trans ho.1
  case TPLSimple => exact (half (add_le_add hcast le_rfl)).trans ho.1
  case TPLGaussian | TPLExponential => exact ⟨h01.trans ho.1.1, ho.1.2, ho.2⟩
  case TPLStable => exact ⟨h01.trans ho.1.1, ho.1.2, ho.2.2, ho.2.1⟩
  case Cubic | Linear | Circular | Spherical => exact Nat.le_of_lt_succ hd

/-- **C02 validity table.**  Whatever the class, the dimension (every `d`; lat-lon (3), lat-lon + time (4) and
    `spatial_dim + 1` are instances) and the parameter values: a model that the code accepts without an
    invalid-dimension warning satisfies the literature validity condition of its family in that dimension. -/
theorem validity_table (c : Cls) (d : Nat) (p : Params K) (h : accepts c d p = true) : litValid c d p :=
  setdim_validity_partial c d d p le_rfl h

/-- non-trivial instance of the hypothesis: the 3-D JBessel model at the edge of its bound -/
example : accepts (α := ℚ) .JBessel 3 ⟨1, 1, 0, 1/2, 0, 0, 0⟩ = true := by
  decide +kernel

/-- the defaults of every class are accepted wherever `check_dim` holds, up to `d = 99` (so the table is not vacuous);
    from `d = 100` on TPLSimple's default `ν = (d + 1) / 2` lies above its upper bound `50` -/
theorem defaults_accepted (c : Cls) (d : Nat) (hd : checkDim c d = true) (hd99 : d ≤ 99) :
    accepts (α := K) c d (defaultParams c d) = true := by
  have hd100 : (d : K) + 1 ≤ 100 := by exact_mod_cast Nat.succ_le_succ hd99
  have le50 : ∀ {x : K}, x ≤ d + 1 → x / 2 ≤ 50 := fun hx =>
    (div_le_div_of_nonneg_right (hx.trans hd100) zero_le_two).trans_eq (by norm_num)
  have hd1 : (d : K) ≤ d + 1 := le_add_of_nonneg_right zero_le_one
  have h01 : (dbl01 : K) < 1 / 4 := by unfold dbl01; norm_num
  have h02 : (dbl02 : K) ≤ 1 := by unfold dbl02; norm_num
  refine acceptsAfterSetDim_iff.2 ⟨hd, Nat.cast_pos.2 one_pos, Nat.cast_pos.2 one_pos, Nat.cast_nonneg 0,
    firstError_optBounds_iff.2 ?_⟩
  -- each default of `default_opt_arg` lies in its interval of `default_opt_arg_bounds`
  cases c <;>
    simp only [defaultParams, optDefaults, List.find?_cons, List.find?_nil, beq_eq_decide, reduceCtorEq,
      decide_false, decide_true, Option.elim, Nat.cast_zero, Nat.cast_one, Nat.cast_ofNat]
  case Matern => exact ⟨h02, by norm_num⟩
  case Integral | Stable | Rational => norm_num
  case SuperSpherical => exact ⟨le_rfl, le50 ((sub_le_self _ zero_le_one).trans hd1)⟩
  case JBessel => exact ⟨sub_le_self _ zero_le_one, le50 hd1⟩
  case TPLSimple => exact ⟨le_rfl, le50 le_rfl⟩
  case TPLGaussian => exact ⟨⟨h01.trans (by norm_num), by norm_num⟩, le_rfl⟩
  case TPLExponential => exact ⟨⟨h01, by norm_num⟩, le_rfl⟩
  case TPLStable => exact ⟨⟨h01.trans (by norm_num), by norm_num⟩, by norm_num, le_rfl⟩

/-- what one would like to hold after `model.dim = d1` -/
def setdim_validity_full : Prop :=
  ∀ (c : Cls) (d0 d1 : Nat) (p : Params ℚ), acceptsAfterSetDim c d0 d1 p = true → litValid c d1 p

/-- **The full statement is false of the current code**: `JBessel(dim=1, nu=0)` followed by
    `model.dim = 3` is accepted (bounds are frozen at construction) although `ν = 0 < 3/2 − 1`.
    The same witness is replayed on the implementation by the search (`stale-dim-dependent-bounds`). -/
theorem setdim_validity_full_false : ¬ setdim_validity_full := by
  intro h
  have := (h .JBessel 1 3 ⟨1, 1, 0, 0, 0, 0, 0⟩ (by decide +kernel)).2.2.2
  simp only [litValidShape] at this
  norm_num at this

/-- whatever the history: a state that a FRESH constructor accepts is valid in the current dimension (this is the
    classification the search applies after every history). -/
theorem history_validity_of_fresh (s0 : HState K) (ops : List (HOp K))
    (h : hFreshAccepted (hRun s0 ops) = true) :
    litValid (hRun s0 ops).cls (hRun s0 ops).dim (hRun s0 ops).p :=
  validity_table _ _ _ h

/-- **After any history** of evaluations, dimension changes and parameter changes on a model constructed in dimension
    `d0`: if the object accepts its current state (stored bounds + `check_dim` of the current dimension) and the current
    dimension does not exceed `d0`, the state is valid in the current dimension. -/
theorem history_validity_partial (c : Cls) (d0 : Nat) (forced : Option Nat) (p0 : Params K) (ops : List (HOp K))
    (hacc : hAccepted (hRun (hInit c d0 forced p0) ops) = true)
    (hle : (hRun (hInit c d0 forced p0) ops).dim ≤ d0) :
    litValid c (hRun (hInit c d0 forced p0) ops).dim (hRun (hInit c d0 forced p0) ops).p := by
  rw [hAccepted_hRun] at hacc
  exact setdim_validity_partial c d0 _ _ hle hacc

/-- **After any history, every dimension** (up or down): for the 14 classes without dimension-dependent bounds
    (HyperSpherical, Gaussian, …, the TPL classes except TPLSimple) a state the object accepts is valid in the current
    dimension.  The remaining three are finding D8 (`setdim_validity_full_false`). -/
theorem history_validity_dim_indep (c : Cls) (hc : dimIndepBounds c = true) (d0 : Nat) (forced : Option Nat)
    (p0 : Params K) (ops : List (HOp K)) (hacc : hAccepted (hRun (hInit c d0 forced p0) ops) = true) :
    litValid c (hRun (hInit c d0 forced p0) ops).dim (hRun (hInit c d0 forced p0) ops).p := by
  rw [hAccepted_hRun, acceptsAfterSetDim_eq_accepts c hc] at hacc
  exact validity_table c _ _ hacc

/-- non-trivial instance: a HyperSpherical model built in 1-D, evaluated, raised to 3-D, its variance changed, evaluated
    again — accepted, in dimension 3 -/
example : let s := hRun (hInit (α := ℚ) .HyperSpherical 1 none ⟨1, 1, 0, 0, 0, 0, 0⟩) [.eval, .setDim 3, .setArg .var 2, .eval]
    hAccepted s = true ∧ s.dim = 3 ∧ s.p.var = 2 := by
  decide +kernel

/-- and of the partial statement: SuperSpherical built in 3-D (ν = 1), lowered to 2-D after an evaluation -/
example : let s := hRun (hInit (α := ℚ) .SuperSpherical 3 none ⟨1, 1, 0, 1, 0, 0, 0⟩) [.eval, .setDim 2, .eval]
    hAccepted s = true ∧ s.dim ≤ 3 := by
  decide +kernel

end table

/-! ## closure: from a valid isotropic correlation to every covariance matrix GSTools builds -/

section closure
variable {E F : Type*}

/-- `var ≥ 0` times a PSD function is PSD (`covariance = var · correlation`). -/
theorem psd_scale [Sub E] {ρ : E → ℝ} (h : IsPSDFun ρ) {var : ℝ} (hv : 0 ≤ var) :
    IsPSDFun fun r => var * ρ r :=
  IsPSDKernel.smul h hv

/-- sums of PSD functions are PSD (nested structures, nugget as a model). -/
theorem psd_sum [Sub E] {ρ₁ ρ₂ : E → ℝ} (h₁ : IsPSDFun ρ₁) (h₂ : IsPSDFun ρ₂) :
    IsPSDFun fun r => ρ₁ r + ρ₂ r :=
  IsPSDKernel.add h₁ h₂

/-- products of PSD functions are PSD (Schur). -/
theorem psd_mul [Sub E] {ρ₁ ρ₂ : E → ℝ} (h₁ : IsPSDFun ρ₁) (h₂ : IsPSDFun ρ₂) :
    IsPSDFun fun r => ρ₁ r * ρ₂ r :=
  IsPSDKernel.mul h₁ h₂

/-- **Linear images.**  If `ρ` is PSD on `F` then `ρ ∘ A` is PSD on `E` for every additive (in particular
    every linear) map `A : E → F` — `isometrize` = stretch ∘ rotate, division by the length scale,
    `rescale`, embedding of a lower-dimensional space.  No invertibility is needed. -/
theorem psd_linear_image [AddGroup E] [AddGroup F] {ρ : F → ℝ} (h : IsPSDFun ρ) (A : E →+ F) :
    IsPSDFun fun r => ρ (A r) := by
  simpa [IsPSDFun, map_sub] using IsPSDKernel.comp h fun x : E => A x

theorem psd_linear_map [AddCommGroup E] [Module ℝ E] [AddCommGroup F] [Module ℝ F] {ρ : F → ℝ}
    (h : IsPSDFun ρ) (A : E →ₗ[ℝ] F) : IsPSDFun fun r => ρ (A r) :=
  psd_linear_image h A.toAddMonoidHom

/-- **Nugget as a function**: the zero-lag indicator is PSD on every group. -/
theorem psd_delta [AddGroup E] [DecidableEq E] : IsPSDFun fun r : E => if r = 0 then (1 : ℝ) else 0 := by
  simpa [IsPSDFun, sub_eq_zero] using IsPSDKernel.delta (X := E)

/-- **Nugget / measurement error on a matrix**: adding a non-negative diagonal keeps a PSD matrix PSD
    (nugget on distinct points, per-point `cond_err` variances). -/
theorem psd_nugget {n : Type*} [Fintype n] [DecidableEq n] {M : Matrix n n ℝ} (hM : M.PosSemidef)
    {e : n → ℝ} (he : ∀ i, 0 ≤ e i) : (M + Matrix.diagonal e).PosSemidef :=
  hM.add (Matrix.PosSemidef.diagonal he)

/-- PSD radial profile on a normed group: `φ ∘ ‖·‖` is PSD -/
def IsPSDRadial (E : Type*) [NormedAddCommGroup E] (φ : ℝ → ℝ) : Prop := IsPSDFun fun v : E => φ ‖v‖

/-- rescaled profile: `φ(c · r)` is valid wherever `φ` is (`c = rescale / len_scale`) -/
theorem psd_radial_scale [NormedAddCommGroup F] [NormedSpace ℝ F] {φ : ℝ → ℝ} (h : IsPSDRadial F φ) {c : ℝ}
    (hc : 0 ≤ c) : IsPSDRadial F fun r => φ (c * r) := by
  have := psd_linear_map h (c • (LinearMap.id : F →ₗ[ℝ] F))
  simpa only [IsPSDRadial, LinearMap.smul_apply, LinearMap.id_apply, norm_smul, Real.norm_eq_abs,
    abs_of_nonneg hc] using this

/-- **The spatial covariance of a GSTools model** (`cov_spatial` + nugget at zero lag): for a correlation
    profile valid on `F`, any `var ≥ 0`, `nugget ≥ 0`, any length scale `ℓ > 0` and any linear map `A`
    (anisotropy ∘ rotation), `var · φ(‖A(x − y)‖ / ℓ) + nugget · [A (x − y) = 0]` is PSD. -/
theorem psd_cov_spatial [NormedAddCommGroup E] [NormedSpace ℝ E] [NormedAddCommGroup F] [NormedSpace ℝ F]
    [DecidableEq F]
    {φ : ℝ → ℝ} (h : IsPSDRadial F φ) (A : E →ₗ[ℝ] F) {var nugget ℓ : ℝ} (hv : 0 ≤ var) (hn : 0 ≤ nugget)
    (hl : 0 < ℓ) :
    IsPSDFun fun r : E => var * φ (‖A r‖ / ℓ) + nugget * (if A r = 0 then 1 else 0) := by
  have h1 : IsPSDFun fun r : E => φ (ℓ⁻¹ * ‖A r‖) := psd_linear_map (psd_radial_scale h (inv_nonneg.2 hl.le)) A
  have h2 : IsPSDFun fun r : E => (if A r = 0 then (1 : ℝ) else 0) :=
    psd_linear_map (psd_delta (E := F)) A
  simpa only [div_eq_inv_mul] using psd_sum (psd_scale h1 hv) (psd_scale h2 hn)

end closure

section yadrenko
variable {V : Type*} [NormedAddCommGroup V] [InnerProductSpace ℝ V]

/-- On a sphere of radius `R` the Euclidean distance of two points is the chordal distance of their
    angle: `‖x − y‖ = 2 R sin(∠(x, y) / 2)`; with the great-circle distance `ζ = R·∠` this is
    `great_circle_to_chordal(ζ, R) = 2 R sin(ζ / (2 R))`. -/
theorem chordal_eq_dist {R : ℝ} (hR : 0 ≤ R) {x y : V} (hx : ‖x‖ = R) (hy : ‖y‖ = R) :
    ‖x - y‖ = 2 * R * Real.sin (InnerProductGeometry.angle x y / 2) := by
  have h0 := InnerProductGeometry.angle_nonneg x y
  have hsin : 0 ≤ Real.sin (InnerProductGeometry.angle x y / 2) :=
    Real.sin_nonneg_of_nonneg_of_le_pi (div_nonneg h0 zero_le_two)
      ((half_le_self h0).trans (InnerProductGeometry.angle_le_pi x y))
  -- squares: `‖x − y‖² = 2R² − 2R² cos θ` and `sin²(θ/2) = (1 − cos θ)/2`
  rw [← sq_eq_sq₀ (norm_nonneg _) (mul_nonneg (mul_nonneg zero_le_two hR) hsin), @norm_sub_sq_real,
    ← InnerProductGeometry.cos_angle_mul_norm_mul_norm x y, hx, hy, mul_pow, Real.sin_sq_eq_half_sub,
    mul_div_cancel₀ _ two_ne_zero]
  ring

/-- **Yadrenko construction.**  If the profile `φ` is valid in the ambient space `V` (= `ℝ³`), then for
    every family of points ON THE SPHERE of radius `R`, the matrix `[φ(2 R sin(∠(x_i, x_j)/2))]` — the
    model evaluated at the chordal distance of the great-circle lag, which is what `cov_yadrenko` does — is PSD. -/
theorem psd_yadrenko {φ : ℝ → ℝ} (h : IsPSDRadial V φ) {R : ℝ} (hR : 0 ≤ R) :
    IsPSDKernel fun a b : {x : V // ‖x‖ = R} =>
      φ (2 * R * Real.sin (InnerProductGeometry.angle (a : V) (b : V) / 2)) := by
  have h' : IsPSDKernel fun x y : V => φ ‖x - y‖ := h
  refine (h'.comp fun a : {x : V // ‖x‖ = R} => (a : V)).congr fun a b => ?_
  rw [chordal_eq_dist hR a.2 b.2]

end yadrenko

section time
variable {E : Type*} [NormedAddCommGroup E]

/-- **Appended, scaled time axis.**  If the profile is valid on the `L²` product `E × ℝ` (= `ℝ^{d+1}` for
    `E = ℝ^d`; `ℝ⁴` for lat-lon + time), then for space–time points `(x, t)` the matrix of
    `φ(√(‖x_i − x_j‖² + (κ (t_i − t_j))²))` is PSD for every time scaling `κ`. -/
theorem psd_metric_time {φ : ℝ → ℝ} (h : IsPSDRadial (WithLp 2 (E × ℝ)) φ) (κ : ℝ) :
    IsPSDKernel fun a b : E × ℝ => φ (Real.sqrt (‖a.1 - b.1‖ ^ 2 + (κ * (a.2 - b.2)) ^ 2)) := by
  have h' : IsPSDKernel fun x y : WithLp 2 (E × ℝ) => φ ‖x - y‖ := h
  refine (h'.comp fun a : E × ℝ => (WithLp.toLp 2 (a.1, κ * a.2) : WithLp 2 (E × ℝ))).congr fun a b => ?_
  rw [WithLp.prod_norm_eq_of_L2]
  simp only [WithLp.sub_fst, WithLp.sub_snd, WithLp.toLp_fst, WithLp.toLp_snd, Real.norm_eq_abs, sq_abs, mul_sub]

/-- lat-lon + time: points on the sphere of radius `R` in `V` with a time stamp -/
theorem psd_yadrenko_time {V : Type*} [NormedAddCommGroup V] [InnerProductSpace ℝ V] {φ : ℝ → ℝ}
    (h : IsPSDRadial (WithLp 2 (V × ℝ)) φ) {R : ℝ} (hR : 0 ≤ R) (κ : ℝ) :
    IsPSDKernel fun a b : {x : V // ‖x‖ = R} × ℝ =>
      φ (Real.sqrt ((2 * R * Real.sin (InnerProductGeometry.angle (a.1 : V) (b.1 : V) / 2)) ^ 2
        + (κ * (a.2 - b.2)) ^ 2)) := by
  refine ((psd_metric_time h κ).comp fun a : {x : V // ‖x‖ = R} × ℝ => ((a.1 : V), a.2)).congr fun a b => ?_
  rw [chordal_eq_dist hR a.1.2 b.1.2]

end time

section bounds
variable {E : Type*} [AddGroup E]

theorem psd_even {ρ : E → ℝ} (h : IsPSDFun ρ) (r : E) : ρ (-r) = ρ r := by
  simpa using IsPSDKernel.symm h 0 r

/-- **`|ρ(r)| ≤ ρ(0)`** for every PSD function (2×2 minor). -/
theorem cor_le_one {ρ : E → ℝ} (h : IsPSDFun ρ) (r : E) : |ρ r| ≤ ρ 0 := by
  have h0 : 0 ≤ ρ 0 := by simpa using IsPSDKernel.diag_nonneg h (0 : E)
  have := IsPSDKernel.abs_le h r 0
  simp only [sub_zero, sub_self] at this
  rwa [← sq, Real.sqrt_sq h0] at this

theorem cor_mem_Icc {ρ : E → ℝ} (h : IsPSDFun ρ) (h1 : ρ 0 = 1) (r : E) : -1 ≤ ρ r ∧ ρ r ≤ 1 :=
  abs_le.1 (h1 ▸ cor_le_one h r)

end bounds

section families
variable {V : Type*} [NormedAddCommGroup V] [InnerProductSpace ℝ V]

/-- the Gaussian profile `exp(−r²)` is valid on every real inner-product space:
    `exp(−‖x − y‖²) = e^{−‖x‖²} · e^{2⟨x,y⟩} · e^{−‖y‖²}`, the middle factor being the entrywise exponential
    of a Gram kernel. -/
theorem gaussian_psd : IsPSDRadial V fun r => Real.exp (-(r ^ 2)) := by
  have h1 : IsPSDKernel fun a b : V => Real.exp (2 * inner ℝ a b) :=
    (IsPSDKernel.inner.smul (by norm_num : (0:ℝ) ≤ 2)).exp
  unfold IsPSDRadial IsPSDFun
  refine (h1.conj fun a => Real.exp (-‖a‖ ^ 2)).congr fun a b => ?_
  show Real.exp (-‖a - b‖ ^ 2) = _
  rw [← Real.exp_add, ← Real.exp_add, @norm_sub_sq_real]
  congr 1; ring

theorem gaussian_kernel_psd {t : ℝ} (ht : 0 ≤ t) : IsPSDKernel fun a b : V => Real.exp (-(t * ‖a - b‖ ^ 2)) := by
  have h : IsPSDKernel fun a b : V => Real.exp (-((√t * ‖a - b‖) ^ 2)) :=
    psd_radial_scale (gaussian_psd (V := V)) (Real.sqrt_nonneg t)
  simpa only [mul_pow, Real.sq_sqrt ht] using h

/-- a profile in `r²` may be rescaled by any real factor, since `(c r)² = (|c| r)²` -/
theorem psd_radial_scale_sq {ψ : ℝ → ℝ} (h : IsPSDRadial V fun r => ψ (r ^ 2)) (c : ℝ) :
    IsPSDRadial V fun r => ψ ((c * r) ^ 2) := by
  simpa only [mul_pow, sq_abs] using psd_radial_scale h (abs_nonneg c)

/-- **The Gaussian model of GSTools** `ρ(r) = exp(−(s r / ℓ)²)` is a valid correlation in every
    dimension (every real inner-product space), for every rescale factor `s` and length `ℓ`. -/
theorem gaussian_model_psd (s ℓ : ℝ) : IsPSDRadial V fun r => Real.exp (-((s * r / ℓ) ^ 2)) := by
  simpa only [mul_div_right_comm] using psd_radial_scale_sq (ψ := fun x => Real.exp (-x)) (gaussian_psd (V := V)) (s / ℓ)

theorem gaussian_cor_zero (s ℓ : ℝ) : Real.exp (-((s * 0 / ℓ) ^ 2)) = 1 := by simp

/-! ### non-negative spectrum ⇒ positive semi-definite (the direction of Bochner's theorem the property uses) -/

section spectral
open MeasureTheory

/-- a single wave: `cos⟨k, x − y⟩` is PSD (it is `cos a cos b + sin a sin b`) -/
theorem psd_cos (k : V) : IsPSDFun fun r : V => Real.cos (inner ℝ k r) := by
  simpa only [IsPSDFun, inner_sub_right] using IsPSDKernel.cos_sub fun a : V => (inner ℝ k a : ℝ)

/-- **Discrete spectrum.**  `ρ(r) = Σ_j w_j cos⟨k_j, r⟩` with non-negative weights is PSD — in particular
    the covariance `(var/N) Σ_j cos⟨k_j, x − y⟩` realised by the randomization method for ANY set of modes. -/
theorem psd_of_spectral_sum {ι : Type*} (s : Finset ι) (w : ι → ℝ) (k : ι → V) (hw : ∀ j ∈ s, 0 ≤ w j) :
    IsPSDFun fun r : V => ∑ j ∈ s, w j * Real.cos (inner ℝ (k j) r) :=
  IsPSDKernel.sum s fun j hj => psd_scale (psd_cos (k j)) (hw j hj)

/-- **Non-negative spectral density ⇒ PSD.**  If `S ≥ 0` is integrable against a measure `μ` on the wave
    vectors (Lebesgue measure for a spectral density, any finite measure with `S = 1` for a spectral
    measure), then `ρ(r) = ∫ S(k) cos⟨k, r⟩ dμ(k)` is a positive semi-definite function. -/
theorem psd_of_spectral_density [MeasurableSpace V] [BorelSpace V] [SecondCountableTopology V]
    (μ : Measure V) {S : V → ℝ} (hS : ∀ k, 0 ≤ S k) (hint : Integrable S μ) :
    IsPSDFun fun r : V => ∫ k, S k * Real.cos (inner ℝ k r) ∂μ := by
  unfold IsPSDFun
  refine IsPSDKernel.integral μ (F := fun k a b => S k * Real.cos (inner ℝ k (a - b))) ?_ ?_
  · exact Filter.Eventually.of_forall fun k => psd_scale (psd_cos k) (hS k)
  · intro a b
    have hc : Continuous fun k : V => Real.cos (inner ℝ k (a - b)) :=
      Real.continuous_cos.comp (continuous_id.inner continuous_const)
    refine (hint.mul_bdd (c := 1) hc.aestronglyMeasurable ?_)
    exact Filter.Eventually.of_forall fun k => by simpa using Real.abs_cos_le_one _

/-- spectral *measure* version: `ρ(r) = ∫ cos⟨k, r⟩ dμ(k)` for a finite measure `μ` (e.g. the uniform
    measure on a sphere of wave vectors, whose transform is the J-Bessel model at `ν = d/2 − 1`). -/
theorem psd_of_spectral_measure [MeasurableSpace V] [BorelSpace V] [SecondCountableTopology V]
    (μ : Measure V) [IsFiniteMeasure μ] : IsPSDFun fun r : V => ∫ k, Real.cos (inner ℝ k r) ∂μ := by
  simpa using psd_of_spectral_density μ (S := fun _ => (1:ℝ)) (fun _ => zero_le_one) (integrable_const _)

end spectral

/-! ### scale mixtures: the Integral, Matérn and Rational models as mixtures of Gaussians, the truncated power-law (TPL)
superpositions -/

section mixtures
open MeasureTheory Set

/-- **Scale mixtures.**  If the profile `φ` is valid on `V`, then so is every superposition
    `r ↦ ∫ w(t) φ(c(t) r) dμ(t)` with non-negative weights `w` and scalings `c`. -/
theorem psd_scale_mixture {T : Type*} [MeasurableSpace T] (μ : Measure T) {φ : ℝ → ℝ} (h : IsPSDRadial V φ)
    (w c : T → ℝ) (hw : ∀ᵐ t ∂μ, 0 ≤ w t) (hc : ∀ᵐ t ∂μ, 0 ≤ c t)
    (hint : ∀ r : ℝ, 0 ≤ r → Integrable (fun t => w t * φ (c t * r)) μ) :
    IsPSDRadial V fun r => ∫ t, w t * φ (c t * r) ∂μ := by
  unfold IsPSDRadial IsPSDFun
  refine IsPSDKernel.integral μ (F := fun t a b => w t * φ (c t * ‖a - b‖)) ?_ fun a b => hint _ (norm_nonneg _)
  filter_upwards [hw, hc] with t hwt hct
  exact psd_scale (psd_radial_scale h hct) hwt

/-- **Mixtures of Gaussians**: `r ↦ ∫_S w(t) exp(−r² c(t)) dμ(t)` with `w, c ≥ 0` on `S` and `w` integrable is valid in
    every dimension. -/
theorem gaussian_mixture_psd {T : Type*} [MeasurableSpace T] (μ : Measure T) {S : Set T} (hS : MeasurableSet S)
    (w c : T → ℝ) (hw : ∀ t ∈ S, 0 ≤ w t) (hc : ∀ t ∈ S, 0 ≤ c t) (hwi : IntegrableOn w S μ) (hcm : Measurable c) :
    IsPSDRadial V fun r => ∫ t in S, w t * Real.exp (-(r ^ 2 * c t)) ∂μ := by
  have hc' := ae_restrict_of_forall_mem (μ := μ) hS hc
  refine IsPSDKernel.integral _ (F := fun t a b => w t * Real.exp (-(‖a - b‖ ^ 2 * c t))) ?_ fun a b => ?_
  · filter_upwards [ae_restrict_of_forall_mem hS hw, hc'] with t hwt hct
    simpa only [mul_comm] using (gaussian_kernel_psd (V := V) hct).smul hwt
  · refine hwi.mul_bdd (c := 1) (Real.measurable_exp.comp (hcm.const_mul _).neg).aestronglyMeasurable ?_
    filter_upwards [hc'] with t hct
    rw [Real.norm_eq_abs, Real.abs_exp, Real.exp_le_one_iff]
    exact neg_nonpos.2 (mul_nonneg (sq_nonneg _) hct)

/-- **The Integral model** `ρ(r) = (ν/2) E_{1+ν/2}(r²)`, with the generalised exponential integral in its
    defining form `E_s(x) = ∫₁^∞ t^{−s} e^{−x t} dt`, is a valid correlation in every dimension for `ν > 0`:
    it is a mixture of Gaussians. -/
theorem integral_model_psd {ν : ℝ} (hν : 0 < ν) :
    IsPSDRadial V fun r => ν / 2 * ∫ t in Ioi (1:ℝ), t ^ (-(1 + ν / 2)) * Real.exp (-(r ^ 2 * t)) := by
  have h1 : ∀ t ∈ Ioi (1:ℝ), (0:ℝ) ≤ t := fun t ht => zero_le_one.trans (le_of_lt ht)
  exact psd_scale (gaussian_mixture_psd (V := V) _ measurableSet_Ioi (fun t => t ^ (-(1 + ν / 2))) (fun t => t)
    (fun t ht => Real.rpow_nonneg (h1 t ht) _) h1 (integrableOn_Ioi_rpow_of_lt (by linarith) zero_lt_one)
    measurable_id) (by positivity)

/-- **Matérn model** in its Gamma-mixture form `ρ(r) = Γ(ν)⁻¹ ∫₀^∞ u^{ν−1} e^{−u} e^{−r²/(4u)} du`
    (`= 2^{1−ν}/Γ(ν) · r^ν K_ν(r)` by DLMF 10.32.10) is a valid correlation in every dimension for `ν > 0`. -/
theorem matern_mixture_psd {ν : ℝ} (hν : 0 < ν) :
    IsPSDRadial V fun r =>
      (Real.Gamma ν)⁻¹ * ∫ u in Ioi (0:ℝ), Real.exp (-u) * u ^ (ν - 1) * Real.exp (-(r ^ 2 / (4 * u))) := by
  have := psd_scale (gaussian_mixture_psd (V := V) _ measurableSet_Ioi (fun u => Real.exp (-u) * u ^ (ν - 1))
    (fun u => (4 * u)⁻¹) (fun u hu => mul_nonneg (Real.exp_pos _).le (Real.rpow_nonneg (le_of_lt hu) _))
    (fun u hu => inv_nonneg.2 (mul_nonneg (by norm_num) (le_of_lt hu))) (Real.GammaIntegral_convergent hν)
    (measurable_const.mul measurable_id).inv) (inv_nonneg.2 (Real.Gamma_pos_of_pos hν).le)
  simpa only [IsPSDRadial, div_eq_mul_inv] using this

theorem rational_mixture {α u : ℝ} (hα : 0 < α) (hu : 0 ≤ u) :
    (1 + u) ^ (-α) = (Real.Gamma α)⁻¹ * ∫ t in Ioi (0:ℝ), t ^ (α - 1) * Real.exp (-((1 + u) * t)) := by
  have h1 : 0 < 1 + u := add_pos_of_pos_of_nonneg one_pos hu
  rw [Real.integral_rpow_mul_exp_neg_mul_Ioi hα h1, one_div, Real.inv_rpow h1.le, ← Real.rpow_neg h1.le,
    mul_comm _ (Real.Gamma α), inv_mul_cancel_left₀ (Real.Gamma_pos_of_pos hα).ne']

/-- **The Rational model** `ρ(r) = (1 + r²/α)^(−α)` is a valid correlation in every dimension for every
    `α > 0` (GSTools admits `0.5 ≤ α ≤ 50`). -/
theorem rational_psd {α : ℝ} (hα : 0 < α) : IsPSDRadial V fun r => (1 + r ^ 2 / α) ^ (-α) := by
  -- `t^(α−1) e^{−(1 + r²/α) t} = e^{−t} t^(α−1) · e^{−r² t/α}`: a mixture of Gaussians with the Gamma weight
  have e : ∀ r : ℝ, (1 + r ^ 2 / α) ^ (-α)
      = (Real.Gamma α)⁻¹ * ∫ t in Ioi (0:ℝ), Real.exp (-t) * t ^ (α - 1) * Real.exp (-(r ^ 2 * (t / α))) := fun r => by
    rw [rational_mixture hα (by positivity)]
    congr 1
    refine setIntegral_congr_fun measurableSet_Ioi fun t _ => ?_
    rw [mul_comm (Real.exp (-t)), mul_assoc, ← Real.exp_add]
    congr 2
    ring
  simpa only [IsPSDRadial, e] using psd_scale (gaussian_mixture_psd (V := V) _ measurableSet_Ioi
    (fun t => Real.exp (-t) * t ^ (α - 1)) (fun t => t / α)
    (fun t ht => mul_nonneg (Real.exp_pos _).le (Real.rpow_nonneg (le_of_lt ht) _))
    (fun t ht => div_nonneg (le_of_lt ht) hα.le) (Real.GammaIntegral_convergent hα) (measurable_id.div_const α))
    (inv_nonneg.2 (Real.Gamma_pos_of_pos hα).le)

/-- **The Rational model of GSTools** `ρ(r) = (1 + (s r/ℓ)²/α)^(−α)` -/
theorem rational_model_psd {α : ℝ} (hα : 0 < α) (s ℓ : ℝ) :
    IsPSDRadial V fun r => (1 + (s * r / ℓ) ^ 2 / α) ^ (-α) := by
  simpa only [mul_div_right_comm] using
    psd_radial_scale_sq (ψ := fun x => (1 + x / α) ^ (-α)) (rational_psd (V := V) hα) (s / ℓ)

/-- **Truncated power-law superposition** (`TPLCovModel`): `C(r) = ∫_{ℓ_low}^{ℓ_up} λ^{2H−1} φ(r/λ) dλ`
    is valid wherever the mode profile `φ` is, for every Hurst exponent and `0 ≤ ℓ_low`
    (integrability is a hypothesis here; discharged for Gaussian modes below). -/
theorem tpl_psd_of_mode {φ : ℝ → ℝ} (h : IsPSDRadial V φ) (H lo up : ℝ) (hlo : 0 ≤ lo)
    (hint : ∀ r : ℝ, 0 ≤ r → IntegrableOn (fun lam : ℝ => lam ^ (2 * H - 1) * φ (lam⁻¹ * r)) (Ioc lo up)) :
    IsPSDRadial V fun r => ∫ lam in Ioc lo up, lam ^ (2 * H - 1) * φ (lam⁻¹ * r) :=
  psd_scale_mixture (volume.restrict (Ioc lo up)) h (fun lam => lam ^ (2 * H - 1)) (fun lam => lam⁻¹)
    (ae_restrict_of_forall_mem measurableSet_Ioc fun _ ht => Real.rpow_nonneg (hlo.trans ht.1.le) _)
    (ae_restrict_of_forall_mem measurableSet_Ioc fun _ ht => inv_nonneg.2 (hlo.trans ht.1.le)) hint

theorem tpl_gaussian_integrableOn {H up r : ℝ} (hH : 0 < H) (hup : 0 ≤ up) :
    IntegrableOn (fun lam : ℝ => lam ^ (2 * H - 1) * Real.exp (-((lam⁻¹ * r) ^ 2))) (Ioc 0 up) := by
  have hi : IntegrableOn (fun lam : ℝ => lam ^ (2 * H - 1)) (Ioc 0 up) :=
    (intervalIntegrable_iff_integrableOn_Ioc_of_le hup).1 (intervalIntegral.intervalIntegrable_rpow' (by linarith))
  refine hi.mul_bdd (c := 1) (Real.measurable_exp.comp ((measurable_inv.mul_const r).pow_const 2).neg).aestronglyMeasurable
    (.of_forall fun t => ?_)
  rw [Real.norm_eq_abs, Real.abs_exp, Real.exp_le_one_iff]
  exact neg_nonpos.2 (sq_nonneg _)

/-- **TPLGaussian** (unnormalised; the normalisation `2H / (ℓ_up^{2H} − ℓ_low^{2H})` is a positive factor):
    valid in every dimension for every `H > 0` and `0 ≤ ℓ_low ≤ ℓ_up`. -/
theorem tpl_gaussian_psd {H lo up : ℝ} (hH : 0 < H) (hlo : 0 ≤ lo) (hle : lo ≤ up) :
    IsPSDRadial V fun r => ∫ lam in Ioc lo up, lam ^ (2 * H - 1) * Real.exp (-((lam⁻¹ * r) ^ 2)) :=
  tpl_psd_of_mode (gaussian_psd (V := V)) H lo up hlo fun _ _ =>
    (tpl_gaussian_integrableOn hH (hlo.trans hle)).mono_set (Ioc_subset_Ioc_left hlo)

end mixtures

/-! ### the Linear (triangle) model on the line -/

section triangle
open MeasureTheory Set

/-- **Linear model in 1-D** (= HyperSpherical in `d = 1`, SuperSpherical with `ν = 0`, TPLSimple with `ν = 1`):
    `max(1 − |r|, 0)` is the autocorrelation of the indicator of `[0, 1]`, hence PSD on `ℝ`. -/
theorem linear_psd_1d : IsPSDFun fun r : ℝ => max (1 - |r|) 0 := by
  -- `1_[0,1](t − a) · 1_[0,1](t − b)` is the indicator of `[a, a + 1] ∩ [b, b + 1]`, an interval of length `(1 − |a − b|)⁺`
  have key : ∀ a b t : ℝ,
      (Icc a (a + 1)).indicator (fun _ => (1:ℝ)) t * (Icc b (b + 1)).indicator (fun _ => (1:ℝ)) t
        = (Icc (max a b) (min (a + 1) (b + 1))).indicator (fun _ => (1:ℝ)) t := fun a b t => by
    rw [← Icc_inter_Icc, ← inter_indicator_mul, mul_one]
  have hmix := IsPSDKernel.integral (volume : Measure ℝ)
    (Filter.Eventually.of_forall fun t => IsPSDKernel.of_feature fun a => (Icc a (a + 1)).indicator (fun _ => (1:ℝ)) t)
    (fun a b => by
      simp_rw [key a b]
      exact (integrable_indicator_iff measurableSet_Icc).2 (integrableOn_const (by simp)))
  unfold IsPSDFun
  refine hmix.congr fun a b => ?_
  simp_rw [key a b]
  rw [integral_indicator measurableSet_Icc, setIntegral_const, Measure.real, Real.volume_Icc,
    ENNReal.toReal_ofReal', smul_eq_mul, mul_one, min_add_add_right, ← max_sub_min_eq_abs']
  congr 1
  ring
end triangle

/-! ### the Stable (powered exponential) family, `0 < α ≤ 2`, and the Exponential model — every dimension -/

section stable
open MeasureTheory Set

/-- `‖a − b‖^α` is conditionally negative definite for `0 < α < 2`: Bernstein representation
    `s^β · I = ∫₀^∞ (1 − e^{−t s}) t^{−1−β} dt` of `s^β`, `β = α/2`, applied to `s = ‖a − b‖²`, each
    `1 − e^{−t‖a−b‖²}` being CND because the Gaussian kernel is PSD. -/
theorem norm_rpow_cnd {α : ℝ} (hα0 : 0 < α) (hα2 : α < 2) : IsCNDKernel fun a b : V => ‖a - b‖ ^ α := by
  have hβ0 : 0 < α / 2 := by positivity
  have hβ1 : α / 2 < 1 := by linarith
  have hF : ∀ᵐ t ∂(volume.restrict (Ioi (0:ℝ))), IsCNDKernel fun a b : V => bernsteinG (α / 2) (‖a - b‖ ^ 2) t := by
    refine ae_restrict_of_forall_mem measurableSet_Ioi fun t (ht : 0 < t) => ?_
    exact (gaussian_kernel_psd (V := V) ht.le).one_sub_cnd (Real.rpow_nonneg ht.le _)
  have hI := IsCNDKernel.integral _ hF fun a b => bernsteinG_integrableOn hβ0 hβ1 (sq_nonneg ‖a - b‖)
  have hIpos := bernsteinI_pos hβ0 hβ1
  have e : (fun a b : V => ‖a - b‖ ^ α)
      = fun a b => (bernsteinI (α / 2))⁻¹ * ∫ t in Ioi (0:ℝ), bernsteinG (α / 2) (‖a - b‖ ^ 2) t := by
    funext a b
    rw [bernstein_integral hβ0 (sq_nonneg _), ← Real.rpow_natCast, ← Real.rpow_mul (norm_nonneg _), Nat.cast_ofNat,
      mul_div_cancel₀ _ two_ne_zero, mul_comm (_ ^ α), inv_mul_cancel_left₀ hIpos.ne']
  rw [e]
  exact hI.smul (inv_nonneg.2 hIpos.le)

/-- **Stable model** `ρ(r) = exp(−r^α)`, `0 < α ≤ 2`, is a valid correlation in every dimension
    (Schoenberg: `exp(−ψ)` for the conditionally negative definite `ψ = ‖·‖^α`; `α = 2` is the Gaussian). -/
theorem stable_psd {α : ℝ} (hα0 : 0 < α) (hα2 : α ≤ 2) : IsPSDRadial V fun r => Real.exp (-(r ^ α)) := by
  rcases hα2.eq_or_lt with rfl | hlt
  · simpa only [Real.rpow_two] using gaussian_psd (V := V)
  · exact (norm_rpow_cnd (V := V) hα0 hlt).exp_neg 0

/-- **Exponential model** `ρ(r) = exp(−r)` — every dimension. -/
theorem exponential_psd : IsPSDRadial V fun r => Real.exp (-r) := by
  simpa only [Real.rpow_one] using stable_psd (V := V) (α := 1) one_pos one_le_two

/-- GSTools' `Stable.cor(h) = exp(−h^α)` at `h = s r / ℓ` (`s, ℓ ≥ 0`) -/
theorem stable_model_psd {α : ℝ} (hα0 : 0 < α) (hα2 : α ≤ 2) {s ℓ : ℝ} (hs : 0 ≤ s) (hl : 0 ≤ ℓ) :
    IsPSDRadial V fun r => Real.exp (-((s / ℓ * r) ^ α)) :=
  psd_radial_scale (stable_psd (V := V) hα0 hα2) (div_nonneg hs hl)

/-- **TPLStable / TPLExponential** superpositions (unnormalised) are valid in every dimension, given
    integrability of the superposition integrand -/
theorem tpl_stable_psd {α : ℝ} (hα0 : 0 < α) (hα2 : α ≤ 2) (H lo up : ℝ) (hlo : 0 ≤ lo)
    (hint : ∀ r : ℝ, 0 ≤ r →
      IntegrableOn (fun lam : ℝ => lam ^ (2 * H - 1) * Real.exp (-((lam⁻¹ * r) ^ α))) (Ioc lo up)) :
    IsPSDRadial V fun r => ∫ lam in Ioc lo up, lam ^ (2 * H - 1) * Real.exp (-((lam⁻¹ * r) ^ α)) :=
  tpl_psd_of_mode (stable_psd (V := V) hα0 hα2) H lo up hlo hint

end stable

/-! ## end to end: accepted by the code ⇒ every covariance matrix is PSD -/

section endtoend
open Classical

/-- a profile valid on `V` is valid on every space that embeds isometrically into `V`
    ("valid in all lower dimensions") -/
theorem psd_radial_of_isometry {W : Type*} [NormedAddCommGroup W] [NormedSpace ℝ W] {φ : ℝ → ℝ}
    (h : IsPSDRadial V φ) (ι : W →ₗᵢ[ℝ] V) : IsPSDRadial W φ := by
  simpa only [IsPSDRadial, LinearIsometry.coe_toLinearMap, LinearIsometry.norm_map] using psd_linear_map h ι.toLinearMap

/-- what acceptance contributes to every family: `var ≥ 0`, `len_scale > 0`, `nugget ≥ 0`, so that a profile valid on
    `ℝ^d` gives a PSD spatial covariance -/
theorem accepted_cov_spatial_psd {c : Cls} {d : ℕ} {p : Params ℝ} (h : accepts c d p = true) {φ : ℝ → ℝ}
    (hφ : IsPSDRadial (EuclideanSpace ℝ (Fin d)) φ) (A : EuclideanSpace ℝ (Fin d) →ₗ[ℝ] EuclideanSpace ℝ (Fin d)) :
    IsPSDFun fun r : EuclideanSpace ℝ (Fin d) =>
      p.var * φ (‖A r‖ / p.lenScale) + p.nugget * (if A r = 0 then 1 else 0) := by
  obtain ⟨-, hv, hl, hn, -⟩ := acceptsAfterSetDim_iff.1 h
  exact psd_cov_spatial hφ A hv.le hn hl

/-- **Gaussian, end to end.**  If the code accepts `Gaussian(dim=d, var, len_scale, nugget)` then, for every
    anisotropy/rotation matrix `A` and rescale factor `s`, the function
    `var · exp(−(s ‖A r‖ / len_scale)²) + nugget · [A r = 0]` is positive semi-definite on `ℝ^d`: every
    covariance matrix the model produces on finitely many points has no negative eigenvalue. -/
theorem accepted_gaussian_cov_psd (d : ℕ) (p : Params ℝ) (h : accepts .Gaussian d p = true) (s : ℝ)
    (A : EuclideanSpace ℝ (Fin d) →ₗ[ℝ] EuclideanSpace ℝ (Fin d)) :
    IsPSDFun fun r : EuclideanSpace ℝ (Fin d) =>
      p.var * Real.exp (-((s * (‖A r‖ / p.lenScale)) ^ 2)) + p.nugget * (if A r = 0 then 1 else 0) :=
  accepted_cov_spatial_psd h (psd_radial_scale_sq (ψ := fun x => Real.exp (-x)) gaussian_psd s) A

/-- **Rational, end to end** (shape parameter `α` taken from the accepted parameter set). -/
theorem accepted_rational_cov_psd (d : ℕ) (p : Params ℝ) (h : accepts .Rational d p = true) (s : ℝ)
    (A : EuclideanSpace ℝ (Fin d) →ₗ[ℝ] EuclideanSpace ℝ (Fin d)) :
    IsPSDFun fun r : EuclideanSpace ℝ (Fin d) =>
      p.var * (1 + (s * (‖A r‖ / p.lenScale)) ^ 2 / p.alpha) ^ (-p.alpha)
        + p.nugget * (if A r = 0 then 1 else 0) := by
  have hα : 0 < p.alpha := by simpa only [litValidShape, Nat.cast_zero] using (validity_table .Rational d p h).2.2.2
  exact accepted_cov_spatial_psd h
    (psd_radial_scale_sq (ψ := fun x => (1 + x / p.alpha) ^ (-p.alpha)) (rational_psd hα) s) A

theorem accepted_exponential_cov_psd (d : ℕ) (p : Params ℝ) (h : accepts .Exponential d p = true) {s : ℝ}
    (hs : 0 ≤ s) (A : EuclideanSpace ℝ (Fin d) →ₗ[ℝ] EuclideanSpace ℝ (Fin d)) :
    IsPSDFun fun r : EuclideanSpace ℝ (Fin d) =>
      p.var * Real.exp (-(s * (‖A r‖ / p.lenScale))) + p.nugget * (if A r = 0 then 1 else 0) :=
  accepted_cov_spatial_psd h (psd_radial_scale exponential_psd hs) A

/-- **Stable, end to end** (`α` from the accepted parameter set: the code's `(0, 2]` interval is exactly the
    validity range). -/
theorem accepted_stable_cov_psd (d : ℕ) (p : Params ℝ) (h : accepts .Stable d p = true) {s : ℝ}
    (hs : 0 ≤ s) (A : EuclideanSpace ℝ (Fin d) →ₗ[ℝ] EuclideanSpace ℝ (Fin d)) :
    IsPSDFun fun r : EuclideanSpace ℝ (Fin d) =>
      p.var * Real.exp (-((s * (‖A r‖ / p.lenScale)) ^ p.alpha)) + p.nugget * (if A r = 0 then 1 else 0) := by
  have hα : 0 < p.alpha ∧ p.alpha ≤ 2 := by
    simpa only [litValidShape, Nat.cast_zero, Nat.cast_ofNat] using (validity_table .Stable d p h).2.2.2
  exact accepted_cov_spatial_psd h (psd_radial_scale (stable_psd hα.1 hα.2) hs) A

/-- the hypotheses of the closure theorems are satisfiable by non-trivial objects: the Gaussian profile on
    `ℝ³`, on the sphere (Yadrenko) and in space–time -/
example : IsPSDKernel fun a b : {x : EuclideanSpace ℝ (Fin 3) // ‖x‖ = 6371} =>
    Real.exp (-((2 * 6371 * Real.sin (InnerProductGeometry.angle (a : EuclideanSpace ℝ (Fin 3)) b / 2)) ^ 2)) :=
  psd_yadrenko (gaussian_psd (V := EuclideanSpace ℝ (Fin 3))) (by norm_num)

example (κ : ℝ) : IsPSDKernel fun a b : EuclideanSpace ℝ (Fin 2) × ℝ =>
    Real.exp (-(Real.sqrt (‖a.1 - b.1‖ ^ 2 + (κ * (a.2 - b.2)) ^ 2) ^ 2)) :=
  psd_metric_time (gaussian_psd (V := WithLp 2 (EuclideanSpace ℝ (Fin 2) × ℝ))) κ

example (r : EuclideanSpace ℝ (Fin 3)) : -1 ≤ Real.exp (-(‖r‖ ^ 2)) ∧ Real.exp (-(‖r‖ ^ 2)) ≤ 1 :=
  cor_mem_Icc (gaussian_psd (V := EuclideanSpace ℝ (Fin 3))) (by simp) r

end endtoend

/-! ## the TPL classes as coded: rescaled truncation scales, two-term form = normalised superposition

`GSV.Model.Validity.tplScales / tplCor / tplVarFactor` model which lengths (`len_low / rescale`,
`(len_low + len_scale) / rescale`, the `isclose` snap) and which weights `TPL*.correlation` combines the two
untruncated terms with; the correspondence harness compares them with the real classes for every `rescale`. -/

section tplmodel
open MeasureTheory Set

/-- the `len_low = 0` TPL model at upper scale `ℓ` with mode profile `φ`: what `tplstable_cor(r, ℓ, H, α)` stands for
    (`φ(h) = exp(−h^α)`), `2H/ℓ^{2H} ∫₀^ℓ λ^{2H−1} φ(r/λ) dλ` -/
noncomputable def tplMode (φ : ℝ → ℝ) (H ℓ r : ℝ) : ℝ :=
  2 * H / ℓ ^ (2 * H) * ∫ lam in Ioc (0:ℝ) ℓ, lam ^ (2 * H - 1) * φ (lam⁻¹ * r)

/-- the normalised superposition weight `w(λ) = 2H λ^{2H−1} / (up^{2H} − lo^{2H})` on `(lo, up]` -/
noncomputable def tplDensity (H lo up lam : ℝ) : ℝ := 2 * H * lam ^ (2 * H - 1) / (up ^ (2 * H) - lo ^ (2 * H))

theorem tpl_rpow_lt {H lo up : ℝ} (hH : 0 < H) (hlo : 0 ≤ lo) (hlt : lo < up) : lo ^ (2 * H) < up ^ (2 * H) :=
  Real.rpow_lt_rpow hlo hlt (mul_pos two_pos hH)

theorem tplDensity_nonneg {H lo up lam : ℝ} (hH : 0 < H) (hlo : 0 ≤ lo) (hlt : lo < up) (hlam : 0 ≤ lam) :
    0 ≤ tplDensity H lo up lam :=
  div_nonneg (mul_nonneg (mul_nonneg zero_le_two hH.le) (Real.rpow_nonneg hlam _))
    (sub_pos.2 (tpl_rpow_lt hH hlo hlt)).le

/-- `∫_{lo}^{up} λ^{2H−1} dλ = (up^{2H} − lo^{2H}) / (2H)` (= `TPLCovModel.var_factor`) -/
theorem tpl_integral_rpow {H lo up : ℝ} (hH : 0 < H) (hle : lo ≤ up) :
    ∫ lam in Ioc lo up, lam ^ (2 * H - 1) = (up ^ (2 * H) - lo ^ (2 * H)) / (2 * H) := by
  rw [← intervalIntegral.integral_of_le hle, integral_rpow (Or.inl (by linarith)), sub_add_cancel]

theorem integral_tplDensity_mul (H lo up : ℝ) (g : ℝ → ℝ) (s : Set ℝ) :
    ∫ lam in s, tplDensity H lo up lam * g lam
      = 2 * H / (up ^ (2 * H) - lo ^ (2 * H)) * ∫ lam in s, lam ^ (2 * H - 1) * g lam := by
  rw [← integral_const_mul]
  refine integral_congr_ae (Filter.Eventually.of_forall fun lam => ?_)
  simp only [tplDensity]
  ring

/-- the weights `tplDensity` integrate to one over `(lo, up]`: the TPL correlation is a *normalised* mixture -/
theorem tplDensity_integral {H lo up : ℝ} (hH : 0 < H) (hlo : 0 ≤ lo) (hlt : lo < up) :
    ∫ lam in Ioc lo up, tplDensity H lo up lam = 1 := by
  have h := integral_tplDensity_mul H lo up (fun _ => 1) (Ioc lo up)
  simp only [mul_one] at h
  rw [h, tpl_integral_rpow hH hlt.le, div_mul_div_comm, mul_comm, div_self]
  exact mul_ne_zero (sub_pos.2 (tpl_rpow_lt hH hlo hlt)).ne' (by positivity)

/-- **Two-term form = superposition.**  What `TPL*.correlation` computes from the two untruncated models at the
    scales `lo < up`, `(up^{2H} T_up(r) − lo^{2H} T_lo(r)) / (up^{2H} − lo^{2H})`, is the normalised
    superposition of the modes `φ(r/λ)` over `λ ∈ (lo, up]` with the weight `tplDensity`, provided
    `λ ↦ λ^{2H−1} φ(r/λ)` is integrable on `(0, up]` (`hint`). -/
theorem tplCor_eq_mixture (φ : ℝ → ℝ) {H lo up : ℝ} (hH : 0 < H) (hlo : 0 < lo) (hlt : lo < up) (r : ℝ)
    (hint : IntegrableOn (fun lam : ℝ => lam ^ (2 * H - 1) * φ (lam⁻¹ * r)) (Ioc 0 up)) :
    tplCor ⟨lo, up, false⟩ H (tplMode φ H up r) (tplMode φ H lo r)
      = ∫ lam in Ioc lo up, tplDensity H lo up lam * φ (lam⁻¹ * r) := by
  have ha : up ^ (2 * H) ≠ 0 := (Real.rpow_pos_of_pos (hlo.trans hlt) _).ne'
  have hb : lo ^ (2 * H) ≠ 0 := (Real.rpow_pos_of_pos hlo _).ne'
  -- `∫₀^up = ∫₀^lo + ∫_lo^up`
  have hadd := setIntegral_union (Ioc_disjoint_Ioc_of_le le_rfl) measurableSet_Ioc
    (hint.mono_set (Ioc_subset_Ioc_right hlt.le)) (hint.mono_set (Ioc_subset_Ioc_left hlo.le))
  rw [Ioc_union_Ioc_eq_Ioc hlo.le hlt.le] at hadd
  rw [integral_tplDensity_mul]
  simp only [tplCor, tplMode, rpow_real, Bool.false_eq_true, if_false, Nat.cast_ofNat]
  rw [hadd, ← mul_assoc, ← mul_assoc, mul_div_cancel₀ _ ha, mul_div_cancel₀ _ hb, ← mul_sub, add_sub_cancel_left,
    mul_div_right_comm]

theorem tplMode_eq_mixture (φ : ℝ → ℝ) {H ℓ : ℝ} (hH : 0 < H) (r : ℝ) :
    tplMode φ H ℓ r = ∫ lam in Ioc (0:ℝ) ℓ, tplDensity H 0 ℓ lam * φ (lam⁻¹ * r) := by
  rw [integral_tplDensity_mul, Real.zero_rpow (mul_pos two_pos hH).ne', sub_zero, tplMode]

/-- the scales chosen by the code are the *rescaled* lengths and are ordered `0 ≤ lo < up` -/
theorem tplScales_spec {lenScale lenLow rescale : ℝ} (hls : 0 < lenScale) (hll : 0 ≤ lenLow) (hrs : 0 < rescale) :
    let s := tplScales lenScale lenLow rescale
    (s.snap = true → s.lo = 0 ∧ s.up = lenScale / rescale ∧ lenLow / rescale ≤ 1e-8) ∧
    (s.snap = false → s.lo = lenLow / rescale ∧ s.up = (lenLow + lenScale) / rescale ∧ 0 < s.lo) ∧
    0 ≤ s.lo ∧ s.lo < s.up := by
  have h0 : 0 ≤ lenLow / rescale := div_nonneg hll hrs.le
  have hup : 0 < lenScale / rescale := div_pos hls hrs
  simp only [tplScales, fabs_real, abs_of_nonneg h0, Nat.cast_zero]
  split_ifs with hc
  · exact ⟨fun _ => ⟨rfl, rfl, hc⟩, nofun, le_rfl, hup⟩
  · have hpos : 0 < lenLow / rescale := lt_trans (by norm_num) (not_le.1 hc)
    exact ⟨nofun, fun _ => ⟨rfl, rfl, hpos⟩, h0, div_lt_div_of_pos_right (lt_add_of_pos_right _ hls) hrs⟩

/-- **The correlation of a TPL class is the documented normalised mixture at the rescaled scales** — for every
    `len_scale > 0`, `len_low ≥ 0`, `rescale > 0`, `H > 0` and every mode profile `φ` for which
    `λ ↦ λ^{2H−1} φ(r/λ)` is integrable on `(0, s.up]` (`hint`):
    `correlation(r) = ∫_{s.lo}^{s.up} w(λ) φ(r/λ) dλ` with `w = tplDensity ≥ 0`, `∫ w = 1`
    (`tplDensity_nonneg`, `tplDensity_integral`), `s = tplScales len_scale len_low rescale`. -/
theorem tpl_model_cor_eq_mixture (φ : ℝ → ℝ) {lenScale lenLow rescale H : ℝ} (hls : 0 < lenScale)
    (hll : 0 ≤ lenLow) (hrs : 0 < rescale) (hH : 0 < H) (r : ℝ)
    (hint : IntegrableOn (fun lam : ℝ => lam ^ (2 * H - 1) * φ (lam⁻¹ * r))
      (Ioc 0 (tplScales lenScale lenLow rescale).up)) :
    let s := tplScales lenScale lenLow rescale
    tplCor s H (tplMode φ H s.up r) (tplMode φ H s.lo r)
      = ∫ lam in Ioc s.lo s.up, tplDensity H s.lo s.up lam * φ (lam⁻¹ * r) := by
  have hspec := tplScales_spec hls hll hrs
  revert hspec hint
  generalize tplScales lenScale lenLow rescale = s
  obtain ⟨lo, up, _ | _⟩ := s
  · rintro hint ⟨-, h2, -, h4⟩
    exact tplCor_eq_mixture φ hH (h2 rfl).2.2 h4 r hint
  · rintro - ⟨h1, -⟩
    obtain ⟨rfl, -⟩ := h1 rfl
    exact tplMode_eq_mixture φ hH r

theorem tpl_model_psd_of_mode {φ : ℝ → ℝ} (h : IsPSDRadial V φ) {lenScale lenLow rescale H : ℝ}
    (hls : 0 < lenScale) (hll : 0 ≤ lenLow) (hrs : 0 < rescale) (hH : 0 < H)
    (hint : ∀ r : ℝ, 0 ≤ r → IntegrableOn (fun lam : ℝ => lam ^ (2 * H - 1) * φ (lam⁻¹ * r))
      (Ioc 0 (tplScales lenScale lenLow rescale).up)) :
    IsPSDRadial V fun r =>
      tplCor (tplScales lenScale lenLow rescale) H
        (tplMode φ H (tplScales lenScale lenLow rescale).up r)
        (tplMode φ H (tplScales lenScale lenLow rescale).lo r) := by
  obtain ⟨-, -, h3, h4⟩ := tplScales_spec hls hll hrs
  set s := tplScales lenScale lenLow rescale
  have hbase := tpl_psd_of_mode (V := V) h H s.lo s.up h3 fun r hr =>
    (hint r hr).mono_set (Ioc_subset_Ioc_left h3)
  have hsc := psd_scale hbase (var := 2 * H / (s.up ^ (2 * H) - s.lo ^ (2 * H)))
    (div_nonneg (by positivity) (sub_pos.2 (tpl_rpow_lt hH h3 h4)).le)
  unfold IsPSDRadial IsPSDFun at hsc ⊢
  refine hsc.congr fun a b => ?_
  exact (tpl_model_cor_eq_mixture φ hls hll hrs hH ‖a - b‖ (hint _ (norm_nonneg _))).trans
    (integral_tplDensity_mul H s.lo s.up _ _)

/-- **TPLGaussian, the model as coded** (scales = rescaled lengths, normalised two-term form): valid in every
    dimension for `len_scale > 0`, `len_low ≥ 0`, every `rescale > 0`, `H > 0`. -/
theorem tpl_gaussian_model_psd {lenScale lenLow rescale H : ℝ}
    (hls : 0 < lenScale) (hll : 0 ≤ lenLow) (hrs : 0 < rescale) (hH : 0 < H) :
    IsPSDRadial V fun r =>
      tplCor (tplScales lenScale lenLow rescale) H
        (tplMode (fun h => Real.exp (-(h ^ 2))) H (tplScales lenScale lenLow rescale).up r)
        (tplMode (fun h => Real.exp (-(h ^ 2))) H (tplScales lenScale lenLow rescale).lo r) := by
  obtain ⟨-, -, h3, h4⟩ := tplScales_spec hls hll hrs
  exact tpl_model_psd_of_mode (gaussian_psd (V := V)) hls hll hrs hH fun _ _ =>
    tpl_gaussian_integrableOn hH (h3.trans h4.le)

/-- `TPLCovModel.var_factor` is the total (unnormalised) weight `∫ λ^{2H−1} dλ` over the rescaled truncation
    interval — the normalisation of `tplDensity` -/
theorem tplVarFactor_eq_integral {lenScale lenLow rescale H : ℝ} (hls : 0 < lenScale) (hrs : 0 < rescale)
    (hH : 0 < H) :
    tplVarFactor lenScale lenLow rescale H
      = ∫ lam in Ioc (lenLow / rescale) ((lenLow + lenScale) / rescale), lam ^ (2 * H - 1) := by
  rw [tpl_integral_rpow hH (div_le_div_of_nonneg_right (le_add_of_nonneg_right hls.le) hrs.le)]
  simp only [tplVarFactor, rpow_real, Nat.cast_ofNat]

/-- non-trivial instance: `TPLGaussian(len_scale=9, len_low=1, rescale=2)` works with the scales `(1/2, 5]` -/
example : (tplScales (9:ℝ) 1 2).snap = false ∧ (tplScales (9:ℝ) 1 2).lo = 1 / 2 ∧ (tplScales (9:ℝ) 1 2).up = 5 := by
  have h : ¬ (|(1:ℝ) / 2| ≤ 1e-8) := by norm_num
  simp only [tplScales, fabs_real, h, if_false]
  norm_num

end tplmodel

section tplendtoend
open Classical

/-- **TPLGaussian, end to end**: accepted by the code ⇒ for every `rescale > 0` and every anisotropy/rotation
    matrix the covariance built from the coded two-term correlation at the rescaled scales is PSD on `ℝ^d`. -/
theorem accepted_tplgaussian_cov_psd (d : ℕ) (p : Params ℝ) (h : accepts .TPLGaussian d p = true) {s : ℝ}
    (hs : 0 < s) (A : EuclideanSpace ℝ (Fin d) →ₗ[ℝ] EuclideanSpace ℝ (Fin d)) :
    IsPSDFun fun r : EuclideanSpace ℝ (Fin d) =>
      p.var * tplCor (tplScales p.lenScale p.lenLow s) p.hurst
          (tplMode (fun h => Real.exp (-(h ^ 2))) p.hurst (tplScales p.lenScale p.lenLow s).up ‖A r‖)
          (tplMode (fun h => Real.exp (-(h ^ 2))) p.hurst (tplScales p.lenScale p.lenLow s).lo ‖A r‖)
        + p.nugget * (if A r = 0 then 1 else 0) := by
  have hval := validity_table .TPLGaussian d p h
  simp only [litValid, litValidShape, Nat.cast_zero, Nat.cast_one] at hval
  obtain ⟨hv, hl, hn, hH, -, hll⟩ := hval
  exact psd_sum (psd_scale (psd_linear_map (tpl_gaussian_model_psd (V := EuclideanSpace ℝ (Fin d)) hl hll hs hH) A) hv)
    (psd_scale (psd_linear_map psd_delta A) hn)

end tplendtoend

end families

end GSV.Props.C02
