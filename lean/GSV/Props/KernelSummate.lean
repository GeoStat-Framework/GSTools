/-
  Law-free specifications of the generated mode-summation kernels (field/summator.pyx).
  Everything here holds for an arbitrary carrier `α` with arbitrary operations — in particular for
  IEEE doubles, bit for bit.
-/
import GSV.Gen.Summator
import GSV.Lemmas.Ctl
namespace GSV.Props
open GSV GSV.Transc GSV.Summator

set_option linter.unusedSectionVars false
variable {α : Type} [Arith α] [Transc α] [DecidableLT α] [DecidableLE α]

/-- `⟨k_j, x_i⟩` accumulated in the order the kernel uses -/
def phaseOf (k : Nat → Nat → α) (x : Nat → Nat → α) (dim j i : Nat) : α :=
  forRange 0 dim ((0:Nat):α) fun d acc => acc + k d j * x d i

/-- The common shape of the two scalar kernels: for every point `i` and mode `j` the phase is accumulated in a scalar slot,
    then cell `i` of the output advances by a term `T j phase`.  Each generated kernel has a state structure of its own, so
    the state enters through its accessors.  Cell `i` is owned by iteration `i`, hence the result under any admissible
    schedule is the sequential sum. -/
theorem modeLoop_spec {σ : Type} (sm : σ → Nat → α) (ph : σ → α) (setPh : σ → α → σ) (setSm : σ → (Nat → α) → σ)
    (h1 : ∀ s v, sm (setPh s v) = sm s) (h2 : ∀ s v, ph (setPh s v) = v) (h3 : ∀ s a, sm (setSm s a) = a)
    (sched : Sched) (hs : sched.Admissible) (k pos : Nat → Nat → α) (T : Nat → α → α) (dim N X : Nat) (s0 : σ) (i : Nat) :
    sm (parRange sched 0 X s0 fun i st => forRange 0 N st fun j st =>
        let st := setPh st ((0:Nat):α)
        let st := forRange 0 dim st fun d st => setPh st (ph st + k d j * pos d i)
        setSm st (upd (sm st) i (sm st i + T j (ph st)))) i =
      if i < X then forRange 0 N (sm s0 i) (fun j acc => acc + T j (phaseOf k pos dim j i)) else sm s0 i := by
  -- the phase loop leaves the output alone and ends with `⟨k_j, x_i⟩` in the scalar slot
  have hsm : ∀ i j s, sm (forRange 0 dim (setPh s ((0:Nat):α)) fun d st => setPh st (ph st + k d j * pos d i)) = sm s :=
    fun i j s => (forRange_keep sm _ (fun d s => h1 s _) _ _ _).trans (h1 s _)
  have hph : ∀ i j s, ph (forRange 0 dim (setPh s ((0:Nat):α)) fun d st => setPh st (ph st + k d j * pos d i)) =
      phaseOf k pos dim j i :=
    fun i j s => (forRange_proj ph _ (fun d acc => acc + k d j * pos d i) (fun d s => h2 s _) _ _ _).trans (by rw [h2]; rfl)
  rw [parRange_owned sm (fun i v => forRange 0 N v fun j acc => acc + T j (phaseOf k pos dim j i)) _ _ _ sched hs]
  · simp only [Nat.zero_le, true_and]
  · intro i s q hq
    exact forRange_keep (fun s => sm s q) _ (fun j s => by simp only [h3, hsm, upd_other _ _ hq]) _ _ _
  · intro i s
    exact forRange_proj (fun s => sm s i) _ (fun j acc => acc + T j (phaseOf k pos dim j i))
      (fun j s => by simp only [h3, hsm, hph, upd_same]) _ _ _

/-- the defining sum of the randomization method at point `i`, accumulated from `v0` -/
def summateCell (cov : Nat → Nat → α) (z1 z2 : Nat → α) (pos : Nat → Nat → α) (dim N i : Nat) (v0 : α) : α :=
  forRange 0 N v0 fun j acc =>
    acc + (z1 j * cos (phaseOf cov pos dim j i) + z2 j * sin (phaseOf cov pos dim j i))

theorem summate_spec (sched : Sched) (hs : sched.Admissible)
    (cov : Nat → Nat → α) (c0 c1 : Nat) (z1 : Nat → α) (n1 : Nat) (z2 : Nat → α) (n2 : Nat)
    (pos : Nat → Nat → α) (dim X : Nat) (i : Nat) :
    summate sched cov c0 c1 z1 n1 z2 n2 pos dim X i =
      if i < X then summateCell cov z1 z2 pos dim c1 i ((0:Nat):α) else ((0:Nat):α) :=
  modeLoop_spec summate.St.summed_modes summate.St.phase (fun s v => { s with phase := v })
    (fun s a => { s with summed_modes := a }) (fun _ _ => rfl) (fun _ _ => rfl) (fun _ _ => rfl) sched hs cov pos
    (fun j p => z1 j * cos p + z2 j * sin p) dim c1 X _ i

/-- the defining sum of the Fourier method at point `i` -/
def fourierCell (sf : Nat → α) (modes : Nat → Nat → α) (z1 z2 : Nat → α) (pos : Nat → Nat → α) (dim N i : Nat) (v0 : α) : α :=
  forRange 0 N v0 fun j acc =>
    acc + sf j * (z1 j * cos (phaseOf modes pos dim j i) + z2 j * sin (phaseOf modes pos dim j i))

theorem summate_fourier_spec (sched : Sched) (hs : sched.Admissible)
    (sf : Nat → α) (f0 : Nat) (modes : Nat → Nat → α) (c0 c1 : Nat) (z1 : Nat → α) (n1 : Nat) (z2 : Nat → α) (n2 : Nat)
    (pos : Nat → Nat → α) (dim X : Nat) (i : Nat) :
    summate_fourier sched sf f0 modes c0 c1 z1 n1 z2 n2 pos dim X i =
      if i < X then fourierCell sf modes z1 z2 pos dim c1 i ((0:Nat):α) else ((0:Nat):α) :=
  modeLoop_spec summate_fourier.St.summed_modes summate_fourier.St.phase (fun s v => { s with phase := v })
    (fun s a => { s with summed_modes := a }) (fun _ _ => rfl) (fun _ _ => rfl) (fun _ _ => rfl) sched hs modes pos
    (fun j p => sf j * (z1 j * cos p + z2 j * sin p)) dim c1 X _ i

/-- `|k_j|²` as `abs_square` accumulates it -/
def absSq (cov : Nat → Nat → α) (dim j : Nat) : α :=
  forRange 0 dim ((0:Nat):α) fun d acc => acc + npow (cov d j) 2

theorem abs_square_spec (cov : Nat → Nat → α) (dim j : Nat) :
    abs_square (fun i_ => cov i_ j) dim = absSq cov dim j :=
  forRange_proj abs_square.St.r _ (fun d acc => acc + npow (cov d j) 2) (by intros; rfl) _ _ _

/-- first unit vector, as the kernel builds it -/
def e1 (d : Nat) : α := if d = 0 then ((1:Nat):α) else ((0:Nat):α)

/-- component `d` of the incompressible field at point `i` -/
def incomprCell (cov : Nat → Nat → α) (z1 z2 : Nat → α) (pos : Nat → Nat → α) (c0 dim N d i : Nat) (v0 : α) : α :=
  forRange 0 N v0 fun j acc =>
    acc + (e1 d - cov d j * cov 0 j / absSq cov c0 j) *
      (z1 j * cos (phaseOf cov pos dim j i) + z2 j * sin (phaseOf cov pos dim j i))

section incompr
variable (cov : Nat → Nat → α) (c0 c1 : Nat) (z1 : Nat → α) (z2 : Nat → α) (pos : Nat → Nat → α) (dim : Nat)

/-- one `(i, j)` round of the incompressible kernel: the body of the two outer loops of `summate_incompr` -/
private def incBodyJ (i j : Nat) (st : summate_incompr.St α) : summate_incompr.St α :=
  let st := { st with k_2 := abs_square (fun i_ => cov i_ j) c0 }
  let st := { st with phase := ((0:Nat):α) }
  let st := forRange 0 dim st fun d st => { st with phase := st.phase + cov d j * pos d i }
  forRange 0 dim st fun d st =>
    let st := { st with proj := upd st.proj d (st.e1 d - cov d j * cov 0 j / st.k_2) }
    { st with summed_modes := upd2 st.summed_modes d i (st.summed_modes d i + st.proj d * (z1 j * cos st.phase + z2 j * sin st.phase)) }

/-- what mode `j` adds to component `d` at point `i`, for the unit vector `e` -/
private def incTerm (e : Nat → α) (d j i : Nat) : α :=
  (e d - cov d j * cov 0 j / absSq cov c0 j) * (z1 j * cos (phaseOf cov pos dim j i) + z2 j * sin (phaseOf cov pos dim j i))

private theorem incBodyJ_spec (i j : Nat) (st : summate_incompr.St α) :
    (incBodyJ cov c0 z1 z2 pos dim i j st).e1 = st.e1 ∧
    ∀ d k, (incBodyJ cov c0 z1 z2 pos dim i j st).summed_modes d k =
      if d < dim ∧ k = i then st.summed_modes d i + incTerm cov c0 z1 z2 pos dim st.e1 d j i else st.summed_modes d k := by
  unfold incBodyJ
  simp only []
  -- the state after the phase loop: `⟨k_j, x_i⟩` in the scalar slot, `|k_j|²` in `k_2`, output and `e1` as before
  generalize hs2 : forRange 0 dim _ (fun d (st : summate_incompr.St α) => { st with phase := st.phase + cov d j * pos d i }) = s2
  have hph : s2.phase = phaseOf cov pos dim j i := by
    rw [← hs2]
    exact forRange_proj summate_incompr.St.phase _ (fun d acc => acc + cov d j * pos d i) (by intros; rfl) _ _ _
  obtain ⟨he1, hk2, hsm⟩ : s2.e1 = st.e1 ∧ s2.k_2 = absSq cov c0 j ∧ s2.summed_modes = st.summed_modes := by
    rw [← hs2, ← abs_square_spec]
    exact Prod.mk.inj (forRange_keep (fun s : summate_incompr.St α => (s.e1, s.k_2, s.summed_modes)) _ (by intros; rfl) _ _ _)
      |>.imp_right Prod.mk.inj
  constructor
  · rw [← he1]
    exact forRange_keep summate_incompr.St.e1 _ (by intros; rfl) _ _ _
  · intro d k
    -- the component loop owns row `d`; it reads `e1`, `|k_j|²` and the phase, which it leaves alone
    refine (congrFun (foldIdx_owned_frame summate_incompr.St.summed_modes (fun s => (s.e1, s.k_2, s.phase))
      (fun fr d v => upd v i (v i + (fr.1 d - cov d j * cov 0 j / fr.2.1) * (z1 j * cos fr.2.2 + z2 j * sin fr.2.2)))
      _ (by intros; rfl) ?_ ?_ (idxRange 0 dim) (nodup_idxRange 0 dim) s2 d) k).trans ?_
    · intro d' s k' hk'
      funext q
      simp only [upd2_apply, hk', false_and, if_false]
    · intro d' s
      funext q
      simp only [upd_same, upd2_apply, upd_apply, true_and]
    · rw [hph, hk2, he1, hsm]
      by_cases hd : d < dim
      · rw [if_pos (mem_idxRange.2 ⟨Nat.zero_le d, hd⟩)]
        exact ite_iff_congr (and_iff_right hd).symm
      · rw [if_neg fun h => hd (mem_idxRange.1 h).2, if_neg fun h => hd h.1]

private theorem incLoopJ_spec (i : Nat) (l : List Nat) (s : summate_incompr.St α) :
    (foldIdx l s (incBodyJ cov c0 z1 z2 pos dim i)).e1 = s.e1 ∧
    ∀ d k, (foldIdx l s (incBodyJ cov c0 z1 z2 pos dim i)).summed_modes d k =
      if d < dim ∧ k = i then foldIdx l (s.summed_modes d i) (fun j acc => acc + incTerm cov c0 z1 z2 pos dim s.e1 d j i)
      else s.summed_modes d k := by
  induction l generalizing s with
  | nil =>
    refine ⟨rfl, fun d k => ?_⟩
    split
    · next h => rw [h.2]; rfl
    · rfl
  | cons j l ih =>
    obtain ⟨h1, h2⟩ := incBodyJ_spec cov c0 z1 z2 pos dim i j s
    obtain ⟨ih1, ih2⟩ := ih (incBodyJ cov c0 z1 z2 pos dim i j s)
    refine ⟨ih1.trans h1, fun d k => ?_⟩
    rw [foldIdx_cons, ih2 d k, h1, h2 d i, h2 d k]
    by_cases hc : d < dim ∧ k = i
    · rw [if_pos hc, if_pos hc, if_pos ⟨hc.1, rfl⟩]; rfl
    · rw [if_neg hc, if_neg hc, if_neg hc]

end incompr

theorem summate_incompr_spec
    (cov : Nat → Nat → α) (c0 c1 : Nat) (z1 : Nat → α) (n1 : Nat) (z2 : Nat → α) (n2 : Nat)
    (pos : Nat → Nat → α) (dim X : Nat) (d i : Nat) :
    summate_incompr cov c0 c1 z1 n1 z2 n2 pos dim X d i =
      if d < dim ∧ i < X then incomprCell cov z1 z2 pos c0 dim c1 d i ((0:Nat):α) else ((0:Nat):α) := by
  unfold summate_incompr
  -- the point loop owns column `i` of the output; it reads `e1`, which it leaves alone
  refine (congrFun (foldIdx_owned_frame (fun s k d => s.summed_modes d k) summate_incompr.St.e1
    (fun e i col d => if d < dim then forRange 0 c1 (col d) (fun j acc => acc + incTerm cov c0 z1 z2 pos dim e d j i) else col d)
    (fun i st => foldIdx (idxRange 0 c1) st (incBodyJ cov c0 z1 z2 pos dim i))
    (fun i s => (incLoopJ_spec cov c0 z1 z2 pos dim i _ s).1) ?_ ?_ (idxRange 0 X) (nodup_idxRange 0 X) _ i) d).trans ?_
  · intro i s k hk
    exact funext fun d => ((incLoopJ_spec cov c0 z1 z2 pos dim i _ s).2 d k).trans (if_neg fun h => hk h.2)
  · intro i s
    exact funext fun d => ((incLoopJ_spec cov c0 z1 z2 pos dim i _ s).2 d i).trans
      (ite_iff_congr (and_iff_left rfl))
  · by_cases hi : i < X
    · rw [if_pos (mem_idxRange.2 ⟨Nat.zero_le i, hi⟩)]
      -- the kernel's initial `e1 = upd (fun _ => 0) 0 1` unfolds to `Props.e1`, and `incTerm` at it to the summand of `incomprCell`
      exact ite_iff_congr (and_iff_left hi).symm
    · rw [if_neg fun h => hi (mem_idxRange.1 h).2, if_neg fun h => hi h.2]

end GSV.Props
