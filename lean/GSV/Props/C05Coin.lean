/-
  C05 (coincident conditioning points, measurement errors): the error term of the kriging matrix — the model
  nugget by default (`cond_err="nugget"`), a scalar, or one value per point — enters on the DIAGONAL only; between two
  different conditioning points the entry is the PLAIN covariance of their lag, also when the lag is 0 (repeated
  measurements at one station).  Hence a positive semidefinite covariance block (coincident points make it singular)
  plus positive errors is positive DEFINITE: the simple-kriging system of repeated stations with measurement errors is
  regular (`pseudo_inv=False` must work).  The right-hand sides carry the plain covariance, and in exact mode the sill
  exactly at the lags inside numpy's `isclose` band of 0.
-/
import GSV.Props.C05
import Mathlib.Algebra.Order.Star.Real
namespace GSV.Props.C05
open GSV GSV.Props GSV.Model.Krige Finset Matrix

set_option linter.unusedSectionVars false

section lawfree
variable {α : Type} [Arith α] [Transc α] [DecidableLT α] [DecidableLE α]

/-- between two DIFFERENT conditioning points the matrix entry is the covariance entry — no error term, whatever
    the lag between the two points is -/
theorem assembleK_offdiag (L : Layout) (C : Nat → Nat → α) (err : Nat → α) (F E : Nat → Nat → α) (i j : Nat)
    (hi : i < L.n) (hj : j < L.n) (hij : i ≠ j) : assembleK L C err F E i j = C i j :=
  (assembleK_data hi hj).trans (if_neg hij)

/-- the diagonal entry carries the covariance at lag 0 plus the point's own measurement error -/
theorem assembleK_diag (L : Layout) (C : Nat → Nat → α) (err : Nat → α) (F E : Nat → Nat → α) (i : Nat)
    (hi : i < L.n) : assembleK L C err F E i i = C i i + err i :=
  (assembleK_data hi hi).trans (if_pos rfl)

theorem condErr_nugget (nugget : α) (i : Nat) : condErr nugget (ErrSpec.nugget : ErrSpec α) i = nugget := rfl
theorem condErr_scalar (nugget e : α) (i : Nat) : condErr nugget (ErrSpec.scalar e) i = e := rfl
theorem condErr_perPoint (nugget : α) (e : Nat → α) (i : Nat) : condErr nugget (ErrSpec.perPoint e) i = e i := rfl

/-- the matrix of a configuration: off the diagonal the PLAIN covariance of the lag — for every error setting and
    every nugget (in particular: not the nugget-aware covariance, which would put the sill at coincident points) -/
theorem assembleKCfg_offdiag (L : Layout) (cv : Nat → Nat → α) (nugget : α) (es : ErrSpec α) (F E : Nat → Nat → α)
    (i j : Nat) (hi : i < L.n) (hj : j < L.n) (hij : i ≠ j) : assembleKCfg L cv nugget es F E i j = cv i j :=
  assembleK_offdiag L cv _ F E i j hi hj hij

/-- the diagonal entry of a conditioning point is the covariance at lag 0 plus its `cond_err` (nugget, scalar or per point) -/
theorem assembleKCfg_diag (L : Layout) (cv : Nat → Nat → α) (nugget : α) (es : ErrSpec α) (F E : Nat → Nat → α)
    (i : Nat) (hi : i < L.n) : assembleKCfg L cv nugget es F E i i = cv i i + condErr nugget es i :=
  assembleK_diag L cv _ F E i hi

/-- with the default `cond_err="nugget"` the diagonal entry of every conditioning point is the covariance at lag 0 plus
    the model nugget -/
theorem assembleKCfg_diag_nugget (L : Layout) (cv : Nat → Nat → α) (nugget : α) (F E : Nat → Nat → α)
    (i : Nat) (hi : i < L.n) : assembleKCfg L cv nugget ErrSpec.nugget F E i i = cv i i + nugget :=
  assembleKCfg_diag L cv nugget .nugget F E i hi

/-- right-hand sides without `exact`: the plain covariance at every lag -/
theorem rhsCov_plain (sill : α) (d cv : Nat → Nat → α) (i p : Nat) : rhsCov false sill d cv i p = cv i p := by
  simp [rhsCov]

/-- exact mode, lag inside the `isclose` band of 0: the sill -/
theorem rhsCov_exact_zero (sill : α) (d cv : Nat → Nat → α) (i p : Nat) (h : lagZero (d i p) = true) :
    rhsCov true sill d cv i p = sill := by
  simp [rhsCov, covNugget, h]

/-- exact mode, lag outside the band: the plain covariance -/
theorem rhsCov_exact_far (sill : α) (d cv : Nat → Nat → α) (i p : Nat) (h : lagZero (d i p) = false) :
    rhsCov true sill d cv i p = cv i p := by
  simp [rhsCov, covNugget, h]

/-- on the data rows the right-hand side of a target is the lag-based covariance: plain, or nugget-aware in exact mode -/
theorem assembleRHSLag_data (L : Layout) (exact : Bool) (sill : α) (d cv f e : Nat → Nat → α) (i p : Nat) (hi : i < L.n) :
    assembleRHSLag L false exact sill d cv f e i p = rhsCov exact sill d cv i p :=
  (assembleRHS_data hi).trans (if_neg Bool.false_ne_true)

end lawfree

/-- a lag counts as zero exactly when `|r| ≤ 1e-8`: `np.isclose(r, 0)` with its default `atol` (`rtol` multiplies 0) -/
theorem lagZero_iff (r : ℝ) : lagZero r = true ↔ |r| ≤ 1e-8 := by
  simp [lagZero]

/-- **coincident points are NOT perfectly correlated measurements**: for two different conditioning points with the
    same covariance entry as the diagonal one (lag 0: `cv i j = cv i i`) and a positive error at `i`, the off-diagonal
    entry of the matrix is strictly smaller than the diagonal entry.  (Filling the block with the nugget-aware
    covariance would make them equal — identical rows, a singular matrix.) -/
theorem coincident_offdiag_lt_diag (L : Layout) (cv : Nat → Nat → ℝ) (nugget : ℝ) (es : ErrSpec ℝ) (F E : Nat → Nat → ℝ)
    (i j : Nat) (hi : i < L.n) (hj : j < L.n) (hij : i ≠ j) (hsame : cv i j = cv i i) (hpos : 0 < condErr nugget es i) :
    assembleKCfg L cv nugget es F E i j < assembleKCfg L cv nugget es F E i i := by
  rw [assembleKCfg_offdiag L cv nugget es F E i j hi hj hij, assembleKCfg_diag L cv nugget es F E i hi, hsame]
  linarith

/-- the layout of simple kriging with `n` conditioning points -/
def simpleLayout (n : Nat) : Layout := ⟨n, false, 0, 0⟩

theorem simpleLayout_size (n : Nat) : (simpleLayout n).size = n := rfl

theorem simple_matrix_eq (n : Nat) (C : Nat → Nat → ℝ) (err : Nat → ℝ) (F E : Nat → Nat → ℝ) :
    toMat n (assembleK (simpleLayout n) C err F E) = toMat n C + Matrix.diagonal (fun i : Fin n => err i) := by
  ext i j
  rw [Matrix.add_apply, diagonal_apply, toMat, assembleK_data (L := simpleLayout n) i.2 j.2]
  simp only [Fin.ext_iff]
  split
  · rfl
  · exact (add_zero _).symm

/-- **repeated stations with measurement errors give a regular system**: if the covariance block is positive
    semidefinite (it is singular as soon as two conditioning points coincide) and every point has a positive
    measurement error (e.g. the default `cond_err="nugget"` with a positive nugget), the simple-kriging matrix is
    positive definite -/
theorem simple_posDef_of_errors (n : Nat) (C : Nat → Nat → ℝ) (err : Nat → ℝ) (F E : Nat → Nat → ℝ)
    (hC : (toMat n C).PosSemidef) (herr : ∀ i, i < n → 0 < err i) :
    (toMat n (assembleK (simpleLayout n) C err F E)).PosDef := by
  rw [simple_matrix_eq]
  exact Matrix.PosDef.posSemidef_add hC (Matrix.PosDef.diagonal fun i => herr i i.2)

/-- under the hypotheses of `simple_posDef_of_errors` the matrix is invertible: an `M` with `M * K = 1` exists (what
    `scipy.linalg.inv` must return), and with it the quadratic form subtracted from the sill is non-negative
    (variance ≤ sill) -/
theorem simple_regular_of_errors (n : Nat) (C : Nat → Nat → ℝ) (err : Nat → ℝ) (F E : Nat → Nat → ℝ)
    (hC : (toMat n C).PosSemidef) (herr : ∀ i, i < n → 0 < err i) :
    ∃ M : Matrix (Fin n) (Fin n) ℝ, M * toMat n (assembleK (simpleLayout n) C err F E) = 1 ∧
      ∀ (k : Fin n → ℝ) (sill : ℝ), 0 ≤ k ⬝ᵥ (M *ᵥ k) ∧ sill - k ⬝ᵥ (M *ᵥ k) ≤ sill := by
  have hP := simple_posDef_of_errors n C err F E hC herr
  have hU : IsUnit (toMat n (assembleK (simpleLayout n) C err F E)).det :=
    (Matrix.isUnit_iff_isUnit_det _).mp hP.isUnit
  refine ⟨(toMat n (assembleK (simpleLayout n) C err F E))⁻¹, Matrix.nonsing_inv_mul _ hU, fun k sill => ?_⟩
  exact var_le_sill_simple _ _ k (Matrix.nonsing_inv_mul _ hU) hP sill

/-- non-vacuity and sharpness on two coincident points with variance `v = 1` and nugget `e = 1/2`:
    the model's block `[[v+e, v], [v, v+e]]` is regular (determinant `e (2v + e) = 5/4`) -/
example : (!![(1:ℝ) + 1/2, 1; 1, 1 + 1/2]).det = 5/4 := by
  rw [Matrix.det_fin_two_of]; norm_num

/-- the same two points with the sill at every zero lag, `[[v+e, v+e], [v+e, v+e]]`, give a singular block -/
example : (!![(1:ℝ) + 1/2, 1 + 1/2; 1 + 1/2, 1 + 1/2]).det = 0 := by
  rw [Matrix.det_fin_two_of]; norm_num

/-- the covariance block of `n` points at ONE location (all ones) is positive semidefinite: it is `1 1ᵀ` -/
theorem ones_posSemidef (n : Nat) : (toMat n (fun _ _ => (1:ℝ))).PosSemidef := by
  have h : toMat n (fun _ _ => (1:ℝ)) = Matrix.vecMulVec (star (fun _ : Fin n => (1:ℝ))) (fun _ => 1) := by
    ext i j; simp [toMat, Matrix.vecMulVec]
  rw [h]
  exact Matrix.posSemidef_vecMulVec_star_self _

/-- the hypotheses of `simple_posDef_of_errors` are satisfiable by two coincident points: the all-ones covariance
    block is positive semidefinite (and singular) -/
example : (toMat 2 (fun _ _ => (1:ℝ))).PosSemidef := ones_posSemidef 2

end GSV.Props.C05
