/-
  C17 — Fourier-generated fields are exactly periodic: the generated kernel `summate_fourier` (through its law-free
  specification `summate_fourier_spec`) on the mode grid of the hand-written model of `gstools.field.generator.Fourier`
  (`GSV/Model/Fourier.lean`, with `update` as a state machine and the isometrization `SRF.__call__` applies first),
  instantiated at ℝ.

  Which shift leaves the field unchanged:
  the generator sees *isometrized* points `y = diag(1, 1/anis) · Q · x` (`Q` = `matrix_derotate`), and its wave
  numbers are `k_d = n_d · 2π/L_d · anis'_d` with integer `n_d` (`anis' = [1] + anis`).  Hence
  * generator level: `gen(y)` is invariant under `y ↦ y + c · L_d / anis'_d · e_d`, `c ∈ ℤ` (and under sums of such shifts);
  * SRF level: the field is invariant under `x ↦ x + c · L_d · (row d of Q)`, i.e. along the `d`-th main axis of the
    model by the period given for that axis; for unrotated models these are the coordinate axes.
-/
import GSV.Lemmas.Fourier
import Mathlib.Tactic.IntervalCases
namespace GSV.Props.C17
open GSV GSV.Props GSV.Model.Fourier GSV.Fourier Finset

theorem modesGrid_real (mreq : Nat → Nat) (period anis : Nat → ℝ) (dim d j : Nat) :
    modesGrid mreq (deltaK period anis) dim d j =
      (((gridIdx (fun d => modeLen (mreq d)) dim d j : ℤ) - ((mreq d / 2 : ℕ) : ℤ) : ℤ) : ℝ) *
        (2 * Real.pi / period d * anisP anis d) := by
  unfold modesGrid gridOf
  show mode1d (mreq d) (deltaK period anis d) _ = _
  rw [mode1d_real, deltaK_real]

/-- `_set_modes`: every entry of the mode grid is an integer multiple `n·Δk_d` of `Δk_d = 2π/L_d·anis'_d`, and for an
    even positive requested count `m_d` the integer lies in `{−m_d/2, …, m_d/2 − 1}` -/
theorem grid_integer_multiples (mreq : Nat → Nat) (period anis : Nat → ℝ) (dim d j : Nat)
    (hm : Even (mreq d)) (hpos : 0 < mreq d) :
    ∃ n : ℤ, -((mreq d / 2 : ℕ) : ℤ) ≤ n ∧ n < ((mreq d / 2 : ℕ) : ℤ) ∧
      modesGrid mreq (deltaK period anis) dim d j = (n : ℝ) * (2 * Real.pi / period d * anisP anis d) := by
  refine ⟨_, by omega, ?_, modesGrid_real mreq period anis dim d j⟩
  have h := gridIdx_lt (fun d => modeLen (mreq d)) dim d j (hpos.trans_eq (modeLen_even hm).symm)
  have h2 : modeLen (mreq d) = 2 * (mreq d / 2) := rfl
  omega

/-- every entry of the mode grid is an integer multiple of `Δk_d = 2π/L_d·anis'_d`, whatever the requested counts -/
theorem grid_integer_multiple_any (mreq : Nat → Nat) (period anis : Nat → ℝ) (dim d j : Nat) :
    ∃ n : ℤ, modesGrid mreq (deltaK period anis) dim d j = (n : ℝ) * (2 * Real.pi / period d * anisP anis d) :=
  ⟨_, modesGrid_real mreq period anis dim d j⟩

/-- an even requested count is the number of modes produced, `len(np.arange(-(m//2), m//2)) = m` (finding F1 was
    about this count) -/
theorem mode_count_even (m : Nat) (h : Even m) : modeLen m = m := modeLen_even h

example : Even ((fun _ : Nat => 8) 1) ∧ 0 < (fun _ : Nat => 8) 1 := ⟨⟨4, rfl⟩, by norm_num⟩

/-- `Fourier.__call__` (the generated kernel, any admissible `prange` schedule) on the grid `_set_modes` builds:
    shifting every point `i` by `Σ_d c_{d,i} · L_d / anis'_d · e_d` with integers `c_{d,i}` leaves every output cell
    unchanged — for every spectrum factor, every random amplitudes `z1 z2` (seed), every mode count, every point. -/
theorem periodic_gen (sched : Sched) (hs : sched.Admissible) (mreq : Nat → Nat) (period anis : Nat → ℝ)
    (sf z1 z2 : Nat → ℝ) (N dim X : Nat) (pos pos' : Nat → Nat → ℝ) (c : Nat → Nat → ℤ)
    (hL : ∀ d < dim, period d ≠ 0) (ha : ∀ d < dim, anisP anis d ≠ 0)
    (hshift : ∀ d < dim, ∀ i < X, pos' d i = pos d i + (c d i : ℝ) * period d / anisP anis d) (i : Nat) :
    genField sched sf (modesGrid mreq (deltaK period anis) dim) z1 z2 N pos' dim X i =
      genField sched sf (modesGrid mreq (deltaK period anis) dim) z1 z2 N pos dim X i :=
  genField_congr_phase hs fun hi j _ =>
    ⟨_, phaseOf_lattice_shift (fun d => c d i) hL ha
      (fun d _ => modesGrid_real mreq period anis dim d j) fun d hd => hshift d hd i hi⟩

/-- single axis, single period: the statement of the property at generator level -/
theorem periodic_gen_axis (sched : Sched) (hs : sched.Admissible) (mreq : Nat → Nat) (period anis : Nat → ℝ)
    (sf z1 z2 : Nat → ℝ) (N dim X : Nat) (pos pos' : Nat → Nat → ℝ) (d₀ : Nat)
    (hL : ∀ d < dim, period d ≠ 0) (ha : ∀ d < dim, anisP anis d ≠ 0)
    (hshift : ∀ d < dim, ∀ i < X, pos' d i = pos d i + if d = d₀ then period d₀ / anisP anis d₀ else 0) (i : Nat) :
    genField sched sf (modesGrid mreq (deltaK period anis) dim) z1 z2 N pos' dim X i =
      genField sched sf (modesGrid mreq (deltaK period anis) dim) z1 z2 N pos dim X i := by
  refine periodic_gen sched hs mreq period anis sf z1 z2 N dim X pos pos' (fun d _ => if d = d₀ then 1 else 0)
    hL ha (fun d hd i hi => ?_) i
  rw [hshift d hd i hi]
  by_cases h : d = d₀
  · subst h; simp
  · simp [h]

/-- the hypotheses of `periodic_gen` are satisfiable by a non-trivial shift (2-D, periods 10 and 4, anis 1/2) -/
example : ∃ (period anis : Nat → ℝ) (pos pos' : Nat → Nat → ℝ) (c : Nat → Nat → ℤ),
    (∀ d < 2, period d ≠ 0) ∧ (∀ d < 2, anisP anis d ≠ 0) ∧
    (∀ d < 2, ∀ i < 1, pos' d i = pos d i + (c d i : ℝ) * period d / anisP anis d) ∧ pos' 1 0 ≠ pos 1 0 := by
  refine ⟨fun d => if d = 0 then 10 else 4, fun _ => 1 / 2, fun _ _ => 0,
    fun d _ => if d = 0 then 10 else 8, fun _ _ => 1, ?_, ?_, ?_, ?_⟩
  · intro d hd; interval_cases d <;> norm_num
  · exact fun d _ => (anisP_pos (fun _ => by norm_num) d).ne'
  · intro d hd i _
    interval_cases d <;> norm_num [anisP]
  · norm_num

/-- `SRF(model, generator="Fourier")`: isometrize with derotation `Q` and anisotropy, then the generator.
    If row `d₀` of `Q` (the `d₀`-th main axis of the model) has unit length and is orthogonal to the other rows, then
    moving every point `i` by `c_i · L_{d₀}` along that axis leaves the field unchanged. -/
theorem periodic_srf (sched : Sched) (hs : sched.Admissible) (Q : Nat → Nat → ℝ) (mreq : Nat → Nat)
    (period anis : Nat → ℝ) (sf z1 z2 : Nat → ℝ) (N dim X : Nat) (x x' : Nat → Nat → ℝ) (d₀ : Nat) (c : Nat → ℤ)
    (hL : ∀ d < dim, period d ≠ 0) (ha : ∀ d < dim, anisP anis d ≠ 0)
    (hQ : ∀ d < dim, ∑ e ∈ range dim, Q d e * Q d₀ e = if d = d₀ then 1 else 0)
    (hshift : ∀ e < dim, ∀ i < X, x' e i = x e i + (c i : ℝ) * period d₀ * Q d₀ e) (i : Nat) :
    srfField sched Q anis sf (modesGrid mreq (deltaK period anis) dim) z1 z2 N x' dim X i =
      srfField sched Q anis sf (modesGrid mreq (deltaK period anis) dim) z1 z2 N x dim X i := by
  unfold srfField
  refine periodic_gen sched hs mreq period anis sf z1 z2 N dim X _ _ (fun d i => if d = d₀ then c i else 0)
    hL ha (fun d hd i hi => ?_) i
  rw [isometrize_shift Q anis d fun e he => hshift e he i hi, hQ d hd]
  by_cases h : d = d₀
  · subst h; simp
  · simp [h]

/-- unrotated model (`Q` = identity): the field repeats along coordinate axis `d₀` with the period given for it -/
theorem periodic_srf_unrotated (sched : Sched) (hs : sched.Admissible) (mreq : Nat → Nat)
    (period anis : Nat → ℝ) (sf z1 z2 : Nat → ℝ) (N dim X : Nat) (x x' : Nat → Nat → ℝ) (d₀ : Nat) (hd₀ : d₀ < dim)
    (c : Nat → ℤ) (hL : ∀ d < dim, period d ≠ 0) (ha : ∀ d < dim, anisP anis d ≠ 0)
    (hshift : ∀ e < dim, ∀ i < X, x' e i = x e i + if e = d₀ then (c i : ℝ) * period d₀ else 0) (i : Nat) :
    srfField sched (fun d e => if d = e then 1 else 0) anis sf (modesGrid mreq (deltaK period anis) dim) z1 z2 N x' dim X i =
      srfField sched (fun d e => if d = e then 1 else 0) anis sf (modesGrid mreq (deltaK period anis) dim) z1 z2 N x dim X i := by
  refine periodic_srf sched hs _ mreq period anis sf z1 z2 N dim X x x' d₀ c hL ha
    (fun d hd => rowsON_id dim d hd d₀ hd₀) (fun e he i hi => ?_) i
  rw [hshift e he i hi]
  by_cases h : e = d₀
  · subst h; simp
  · simp [h, Ne.symm h]

/-- the derotation of a 2-D model rotated by `θ` (`matrix_derotate(2, θ) = [[cos θ, sin θ], [−sin θ, cos θ]]`) -/
noncomputable def derot2 (θ : ℝ) (d e : Nat) : ℝ :=
  if d = 0 then (if e = 0 then Real.cos θ else Real.sin θ) else (if e = 0 then -Real.sin θ else Real.cos θ)

/-- the 2-D derotation written out: main axes `(cos θ, sin θ)` and `(−sin θ, cos θ)` -/
theorem derot_two (angles : Nat → ℝ) (d e : Nat) (hd : d < 2) (he : e < 2) :
    derot 2 angles d e = derot2 (angles 0) d e := by
  interval_cases d <;> interval_cases e <;> simp [derot, givens, derot2]

/-- the rows of the 2-D derotation `derot2 θ` are orthonormal -/
theorem derot2_rows (θ : ℝ) (d₀ : Nat) (hd₀ : d₀ < 2) :
    ∀ d < 2, ∑ e ∈ range 2, derot2 θ d e * derot2 θ d₀ e = if d = d₀ then 1 else 0 := by
  intro d hd
  rw [← rowsON_derot 2 (fun _ => θ) d hd d₀ hd₀]
  exact sum_congr rfl fun e he => by
    rw [derot_two _ d e hd (mem_range.mp he), derot_two _ d₀ e hd₀ (mem_range.mp he)]

/-- 2-D model rotated by any angle `θ`: the field repeats along the rotated main axes
    `(cos θ, sin θ)` (`d₀ = 0`) and `(−sin θ, cos θ)` (`d₀ = 1`) with the periods given for them -/
theorem periodic_srf_rot2d (sched : Sched) (hs : sched.Admissible) (θ : ℝ) (mreq : Nat → Nat)
    (period anis : Nat → ℝ) (sf z1 z2 : Nat → ℝ) (N X : Nat) (x x' : Nat → Nat → ℝ) (d₀ : Nat) (hd₀ : d₀ < 2)
    (c : Nat → ℤ) (hL : ∀ d < 2, period d ≠ 0) (ha : ∀ d < 2, anisP anis d ≠ 0)
    (hshift : ∀ e < 2, ∀ i < X, x' e i = x e i + (c i : ℝ) * period d₀ * derot2 θ d₀ e) (i : Nat) :
    srfField sched (derot2 θ) anis sf (modesGrid mreq (deltaK period anis) 2) z1 z2 N x' 2 X i =
      srfField sched (derot2 θ) anis sf (modesGrid mreq (deltaK period anis) 2) z1 z2 N x 2 X i :=
  periodic_srf sched hs (derot2 θ) mreq period anis sf z1 z2 N 2 X x x' d₀ c hL ha (derot2_rows θ d₀ hd₀) hshift i

/-- `matrix_derotate(dim, angles)` as the code builds it for `dim ≤ 3` has orthonormal rows, for every angle
    (2-D: one Givens rotation; 3-D: `G₀₁(−α)·G₀₂(β)·G₁₂(−γ)`; 1-D: identity) -/
theorem derot_rows_orthonormal (dim : Nat) (hdim : dim ≤ 3) (angles : Nat → ℝ) : RowsON dim (derot dim angles) :=
  rowsON_derot dim angles

/-- the statement of the property at SRF level, dim 1-3, any anisotropy, any rotation angles:
    the field repeats when every point is moved by an integer multiple of `L_{d₀}` along the `d₀`-th main axis of the
    model (row `d₀` of `matrix_derotate(dim, angles)`, i.e. column `d₀` of the rotation) -/
theorem periodic_srf_rotated (sched : Sched) (hs : sched.Admissible) (dim : Nat) (hdim : dim ≤ 3) (angles : Nat → ℝ)
    (mreq : Nat → Nat) (period anis : Nat → ℝ) (sf z1 z2 : Nat → ℝ) (N X : Nat) (x x' : Nat → Nat → ℝ)
    (d₀ : Nat) (hd₀ : d₀ < dim) (c : Nat → ℤ)
    (hL : ∀ d < dim, period d ≠ 0) (ha : ∀ d < dim, anisP anis d ≠ 0)
    (hshift : ∀ e < dim, ∀ i < X, x' e i = x e i + (c i : ℝ) * period d₀ * derot dim angles d₀ e) (i : Nat) :
    srfField sched (derot dim angles) anis sf (modesGrid mreq (deltaK period anis) dim) z1 z2 N x' dim X i =
      srfField sched (derot dim angles) anis sf (modesGrid mreq (deltaK period anis) dim) z1 z2 N x dim X i :=
  periodic_srf sched hs (derot dim angles) mreq period anis sf z1 z2 N dim X x x' d₀ c hL ha
    (fun d hd => rowsON_derot dim angles d hd d₀ hd₀) hshift i

/-! ## after updates: histories of `update(model, seed, period, mode_no)` calls (setters, `SRF.__call__`) -/

section lawfree
set_option linter.unusedSectionVars false
variable {α : Type} [Arith α] [Transc α] [DecidableLT α] [DecidableLE α] [Inhabited α]

/-- one `update` call keeps the invariant "the stored grid is the grid derived from the stored period, the stored
    model's anisotropy and the stored mode counts, and the amplitudes were redrawn after the last grid change" —
    whatever the call (new / equal model, period, mode_no, seed, any combination, also calls that raise).
    Needs the model comparison to be exact on the anisotropy (`EqvExact`); see `isclose_not_exact`. -/
theorem update_inv (eqv : Mdl α → Mdl α → Bool) (heq : EqvExact eqv) (st : St α) (u : Upd α) (h : Inv st) :
    Inv (update eqv st u).1 := by
  rcases update_cases eqv st u with ⟨_, hst, _⟩ | ⟨hm, hp, _, hupd⟩
  · rw [hst]; exact h
  · rw [hupd]
    intro _
    -- a call without a period is only accepted by a state that has one, and that state is coherent
    have hc : u.period = none → Coherent st := fun hper => h (hp hper)
    have hfr := steps_frame st (u.model.getD st.model).anis (isNewModel eqv st u.model) u.period u.modeNo
    refine seedStep_coherent ?_ (fun hnone => hfr.2.1.trans (hm hnone)) (fun hnone => hnone ▸ rfl) fun hnot => ?_
    · rw [hfr.1]
      refine gridOK_steps fun hper hnm => ?_
      -- nothing recomputed: the given model compares equal, so by exactness its anisotropy is the stored one
      rw [anis_of_not_new heq (by simpa [hp hper] using hnm)]
      exact (hc hper).grid
    · simp only [Bool.or_eq_false_iff, Option.isSome_eq_false_iff, Option.isNone_iff_eq_none] at hnot
      rw [hnot.1.1, hnot.2, hnot.1.2]
      exact hc hnot.2

theorem blank_inv : Inv (blank : St α) := nofun

theorem run_inv (eqv : Mdl α → Mdl α → Bool) (heq : EqvExact eqv) (us : List (Upd α)) (st : St α) (h : Inv st) :
    Inv (run eqv st us) := by
  induction us generalizing st with
  | nil => exact h
  | cons u us ih => exact ih _ (update_inv eqv heq st u h)

/-- every state reached from a blank object by any history of `update` calls (the first accepted one being the
    constructor's) is coherent as soon as it has a period -/
theorem reachable_coherent (eqv : Mdl α → Mdl α → Bool) (heq : EqvExact eqv) (us : List (Upd α)) :
    Inv (run eqv blank us) :=
  run_inv eqv heq us _ blank_inv

/-- fresh-equivalence of the grid: in a coherent state `self._modes` is exactly the grid `_set_modes` would build now
    from the stored period, the stored model's anisotropy and the stored mode counts -/
theorem coherent_modes_eq_derived (st : St α) (h : Coherent st) :
    st.modes = modesGrid st.modeNo (deltaK st.period st.model.anis) st.model.dim := by
  funext d j
  unfold St.modes modesGrid gridOf
  have hl : (fun d => modeLen (st.modeNo d)) = st.modeNo := funext h.grid.even
  rw [hl, h.grid.modes, h.grid.dk]

/-- what `SRF.__call__` hands to the generator: `update(self.model, seed)`.  With an exact model comparison the
    generator afterwards stores the anisotropy of the SRF's model (in-place changes of the model included) -/
theorem srf_call_adopts_anis (eqv : Mdl α → Mdl α → Bool) (heq : EqvExact eqv) (st : St α) (m : Mdl α) (seed : Option Nat)
    (hp : st.hasPeriod = true) (hm : st.hasModel = true) (hdim : m.dim = st.model.dim) :
    (update eqv st ⟨some m, seed, none, none⟩).1.model.anis = m.anis ∧
    (update eqv st ⟨some m, seed, none, none⟩).1.model.dim = m.dim ∧
    (update eqv st ⟨some m, seed, none, none⟩).1.hasPeriod = true ∧
    (update eqv st ⟨some m, seed, none, none⟩).1.period = st.period := by
  rw [update_accepted eqv st ⟨some m, seed, none, none⟩ hm hp hdim rfl]
  refine and_assoc.1 ⟨?_, seedStep_frame.2.1.trans ((steps_frame st _ _ _ _).2.2.1 hp),
    seedStep_frame.2.2.trans ((steps_frame st _ _ _ _).2.2.2 rfl)⟩
  cases hnm : isNewModel eqv st (some m)
  · -- the model compares equal: the stored one is kept, and by exactness it has the same anisotropy
    have hmod : (seedStep st false ⟨some m, seed, none, none⟩).1.model = st.model := by
      cases seed
      · rfl
      · exact (setSeed_frame st _).1
    rw [steps_untouched, hmod]
    exact ⟨(anis_of_not_new heq hnm).symm, hdim.symm⟩
  · exact ⟨rfl, rfl⟩

/-- a call of `update` that raises (odd `mode_no`, neither model nor seed, unsupported) leaves the generator exactly
    as it was — on any carrier, in particular on doubles -/
theorem update_error_unchanged (eqv : Mdl α → Mdl α → Bool) (st : St α) (u : Upd α)
    (h : (update eqv st u).2 ≠ Out.ok) : (update eqv st u).1 = st := by
  rcases update_cases eqv st u with ⟨_, hst, _⟩ | ⟨_, _, _, hupd⟩
  · rw [hst]
  · rw [hupd] at h ⊢
    obtain ⟨hm, hp, hmn, hst⟩ := seedStep_out h
    rw [hst, hm, hp, hmn]
    exact steps_untouched st _

/-- a successful `update(..., mode_no=mn)` stores exactly the requested (even) number of modes on every axis
    (`len(np.arange(-(m//2), m//2)) = m`; finding F1) -/
theorem update_ok_modeNo (eqv : Mdl α → Mdl α → Bool) (st : St α) (u : Upd α) (mn : Array Nat)
    (hu : u.modeNo = some mn) (hok : (update eqv st u).2 = Out.ok) (d : Nat) (hd : d < (u.model.getD st.model).dim) :
    (update eqv st u).1.modeNo d = fillToDim mn d := by
  rcases update_cases eqv st u with ⟨_, hst, hne⟩ | ⟨_, _, hodd, hupd⟩
  · rw [hst] at hok; exact absurd hok hne
  · rw [hu] at hodd
    rw [hupd, seedStep_frame.1, hu]
    exact modeLen_even (even_of_oddModeNo_false hodd hd)

end lawfree

/-- histories, generator level: after any history of constructor / setter / update calls, the kernel on the mode grid
    the state stores is periodic with the period and the anisotropy the state stores — for any spectrum factors `sf`,
    amplitudes `z1 z2` and mode count `N` (they are not taken from the state) -/
theorem after_updates_periodic (eqv : Mdl ℝ → Mdl ℝ → Bool) (heq : EqvExact eqv) (us : List (Upd ℝ))
    (sched : Sched) (hs : sched.Admissible) (sf z1 z2 : Nat → ℝ) (N X : Nat) (pos pos' : Nat → Nat → ℝ) (c : Nat → Nat → ℤ) :
    let st := run eqv blank us
    st.hasPeriod = true →
    (∀ d < st.model.dim, st.period d ≠ 0) → (∀ d < st.model.dim, anisP st.model.anis d ≠ 0) →
    (∀ d < st.model.dim, ∀ i < X, pos' d i = pos d i + (c d i : ℝ) * st.period d / anisP st.model.anis d) →
    ∀ i, genField sched sf st.modes z1 z2 N pos' st.model.dim X i = genField sched sf st.modes z1 z2 N pos st.model.dim X i := by
  intro st hp hL ha hshift i
  have hc := reachable_coherent eqv heq us hp
  rw [coherent_modes_eq_derived st hc]
  exact periodic_gen sched hs _ _ _ sf z1 z2 N _ X pos pos' c hL ha hshift i

/-- histories, SRF level: after any history, calling the SRF with its (possibly in-place changed or replaced)
    model `m` gives a field that repeats along the main axes of `m` (rows of its derotation `Q`) by the stored periods -/
theorem srf_after_updates_periodic (eqv : Mdl ℝ → Mdl ℝ → Bool) (heq : EqvExact eqv) (us : List (Upd ℝ))
    (m : Mdl ℝ) (seed : Option Nat) (Q : Nat → Nat → ℝ)
    (sched : Sched) (hs : sched.Admissible) (sf z1 z2 : Nat → ℝ) (N X : Nat) (x x' : Nat → Nat → ℝ) (d₀ : Nat) (c : Nat → ℤ) :
    let st0 := run eqv blank us
    let st := (update eqv st0 ⟨some m, seed, none, none⟩).1
    st0.hasPeriod = true → m.dim = st0.model.dim →
    (∀ d < m.dim, st.period d ≠ 0) → (∀ d < m.dim, anisP m.anis d ≠ 0) →
    (∀ d < m.dim, ∑ e ∈ range m.dim, Q d e * Q d₀ e = if d = d₀ then 1 else 0) →
    (∀ e < m.dim, ∀ i < X, x' e i = x e i + (c i : ℝ) * st.period d₀ * Q d₀ e) →
    ∀ i, srfField sched Q m.anis sf st.modes z1 z2 N x' m.dim X i = srfField sched Q m.anis sf st.modes z1 z2 N x m.dim X i := by
  intro st0 st hp hdim hL ha hQ hshift i
  have hc0 := reachable_coherent eqv heq us hp
  obtain ⟨h1, h2, h3, _⟩ := srf_call_adopts_anis eqv heq st0 m seed hp hc0.hasModel hdim
  have hc : Coherent st := update_inv eqv heq st0 _ (reachable_coherent eqv heq us) h3
  rw [coherent_modes_eq_derived st hc, h1, h2]
  exact periodic_srf sched hs Q _ _ m.anis sf z1 z2 N m.dim X x x' d₀ c hL ha hQ hshift i

/-- histories, SRF level, with the derotation the code builds from the model's angles: after the constructor and any
    setter / update calls, an SRF call with a model of any anisotropy and rotation gives a field that repeats along the
    model's main axes by the stored periods -/
theorem srf_after_updates_periodic_rotated (eqv : Mdl ℝ → Mdl ℝ → Bool) (heq : EqvExact eqv) (us : List (Upd ℝ))
    (m : Mdl ℝ) (hdim3 : m.dim ≤ 3) (angles : Nat → ℝ) (seed : Option Nat)
    (sched : Sched) (hs : sched.Admissible) (sf z1 z2 : Nat → ℝ) (N X : Nat) (x x' : Nat → Nat → ℝ)
    (d₀ : Nat) (hd₀ : d₀ < m.dim) (c : Nat → ℤ) :
    let st0 := run eqv blank us
    let st := (update eqv st0 ⟨some m, seed, none, none⟩).1
    st0.hasPeriod = true → m.dim = st0.model.dim →
    (∀ d < m.dim, st.period d ≠ 0) → (∀ d < m.dim, anisP m.anis d ≠ 0) →
    (∀ e < m.dim, ∀ i < X, x' e i = x e i + (c i : ℝ) * st.period d₀ * derot m.dim angles d₀ e) →
    ∀ i, srfField sched (derot m.dim angles) m.anis sf st.modes z1 z2 N x' m.dim X i =
      srfField sched (derot m.dim angles) m.anis sf st.modes z1 z2 N x m.dim X i := by
  intro st0 st hp hdim hL ha hshift i
  exact srf_after_updates_periodic eqv heq us m seed (derot m.dim angles) sched hs sf z1 z2 N X x x' d₀ c hp hdim hL ha
    (fun d hd => rowsON_derot m.dim angles d hd d₀ hd₀) hshift i

/-! ### the witness for the `np.isclose` band -/

noncomputable def wA : Mdl ℝ := ⟨2, fun _ => 1 / 2, 0⟩
noncomputable def wB : Mdl ℝ := ⟨2, fun _ => 1 / 2 + 1 / 10 ^ 7, 0⟩

theorem wClose : mdlClose wA wB = true := by
  simp only [wA, wB, mdlClose, isclose, List.range_succ, List.range_zero, List.nil_append, List.all_cons, List.all_nil,
      Bool.and_true, beq_self_eq_true, Bool.true_and, fabs_real]
  norm_num [abs_le]

/-- the code's model comparison (`np.isclose` on the anisotropy) is NOT exact: two models that compare equal with
    different anisotropy (known finding F4: the generator then keeps the grid of the old anisotropy) -/
theorem isclose_not_exact : ¬ EqvExact (mdlClose : Mdl ℝ → Mdl ℝ → Bool) := by
  intro h
  have := h wA wB wClose 0
  norm_num [wA, wB] at this

/-- the full statement "after `SRF.__call__` the generator stores the anisotropy of the SRF's model" is FALSE for the
    code's own comparison (`mdlClose` = `np.isclose` band): a reachable state and a model inside the band whose
    anisotropy is not adopted (known finding F4, key `fourier:isclose-model-stale-anis`) -/
theorem srf_call_isclose_stale :
    ∃ (us : List (Upd ℝ)) (m : Mdl ℝ),
      let st0 := run mdlClose (blank : St ℝ) us
      st0.hasPeriod = true ∧ m.dim = st0.model.dim ∧
        (update mdlClose st0 ⟨some m, none, none, none⟩).1.model.anis 0 ≠ m.anis 0 := by
  refine ⟨[⟨some wA, some 1, some #[10], some #[4]⟩], wB, ?_⟩
  intro st0
  obtain ⟨hp, hm, hmod⟩ : st0.hasPeriod = true ∧ st0.hasModel = true ∧ st0.model = wA :=
    init_stores mdlClose wA 1 #[10] #[4] (by decide)
  have hdim : wB.dim = st0.model.dim := (congrArg Mdl.dim hmod).symm
  refine ⟨hp, hdim, ?_⟩
  -- `wB` compares equal to the stored `wA`, so the call changes nothing
  have hnm : isNewModel mdlClose st0 (some wB) = false := by
    simp only [isNewModel, hm, hmod, wClose, Bool.and_self, Bool.not_true]
  rw [update_accepted mdlClose st0 ⟨some wB, none, none, none⟩ hm hp hdim rfl, hnm, steps_untouched]
  show st0.model.anis 0 ≠ wB.anis 0
  rw [hmod]
  norm_num [wA, wB]

/-- `EqvExact` is satisfiable by a comparison that really compares (exact equality of tag, dimension and anisotropy) -/
example : EqvExact (fun (a b : Mdl ℝ) => by classical exact decide (a.tag = b.tag ∧ a.dim = b.dim ∧ a.anis = b.anis)) := by
  intro a b h d
  simp only [decide_eq_true_eq] at h
  rw [h.2.2]

end GSV.Props.C17
