/-
  Tie A for the normalizer formulas (C18), EXACT form — informative, not an obligation of `./check C18`.

  The hand-written model `GSV.Model.Norm` is equal to the definitions regenerated from `normalizer/methods.py`
  (`GSV/Gen/NormFormulas.lean`) on EVERY carrier `α` of the scalar interface, hence in particular on `Float`, which the
  driver runs — no algebraic law is used: the two texts have the same operator tree up to the order of the `if`s.
  This is the strongest form of the tie (the model text IS the source text) and it is brittle: a behaviour-preserving
  regrouping of a formula in the source (`a / b` -> `a * (1 / b)`) makes the regenerated definition a merely real-equal
  expression and the proofs below (`rfl`; `extRng_denormRange_lmbda` for the `lmbda`-dependent ranges; the re-nesting of
  `if`s `ite_mask_nesting` for YeoJohnson) stop checking.  The registered obligations are therefore the `ℝ`-level theorems
  `GSV.Props.GenTieNorm.*_eq_model_real`; the theorems of this file are audited on every run and reported under
  `coverage.informative` of the evidence: when one of them fails while all obligations hold, the source was rewritten
  without changing its real semantics, and the `Float` behaviour of model and code may now differ by roundings (tie B
  measures that).
-/
import GSV.Props.GenTieNorm

set_option linter.unusedSectionVars false

namespace GSV.Props.GenTieNormExact
open GSV GSV.Transc GSV.PyExpr GSV.Model.Norm GSV.Gen.NormFormulas GSV.Props.GenTieNorm

variable {α : Type} [Arith α] [Transc α] [DecidableLT α] [DecidableLE α]

theorem LogNormal_normalize_range_eq_model (p : Par α) :
    (LogNormal.normalize_range : Ext α × Ext α) = extRng (normRange .logNormal p) := rfl
theorem LogNormal_denormalize_range_eq_model (p : Par α) :
    (LogNormal.denormalize_range : Ext α × Ext α) = extRng (denormRange .logNormal p) := rfl
theorem LogNormal_denormalize_eq_model (p : Par α) (y : α) :
    LogNormal._denormalize y = denormRaw .logNormal p y := rfl
theorem LogNormal_normalize_eq_model (p : Par α) (x : α) :
    LogNormal._normalize x = normRaw .logNormal p x := rfl
theorem LogNormal_derivative_eq_model (p : Par α) (x : α) :
    LogNormal._derivative x = derivRaw .logNormal p x := rfl

theorem BoxCox_normalize_range_eq_model (p : Par α) :
    (BoxCox.normalize_range : Ext α × Ext α) = extRng (normRange .boxCox p) := rfl
theorem BoxCox_denormalize_range_eq_model (p : Par α) :
    BoxCox.denormalize_range p.lmbda = extRng (denormRange .boxCox p) :=
  (extRng_denormRange_lmbda .boxCox p rfl).symm
theorem BoxCox_denormalize_eq_model (p : Par α) (y : α) :
    BoxCox._denormalize p.lmbda y = denormRaw .boxCox p y := rfl
theorem BoxCox_normalize_eq_model (p : Par α) (x : α) :
    BoxCox._normalize p.lmbda x = normRaw .boxCox p x := rfl
theorem BoxCox_derivative_eq_model (p : Par α) (x : α) :
    BoxCox._derivative p.lmbda x = derivRaw .boxCox p x := rfl

theorem BoxCoxShift_normalize_range_eq_model (p : Par α) :
    BoxCoxShift.normalize_range p.shift = extRng (normRange .boxCoxShift p) := rfl
theorem BoxCoxShift_denormalize_range_eq_model (p : Par α) :
    BoxCoxShift.denormalize_range p.lmbda = extRng (denormRange .boxCoxShift p) :=
  (extRng_denormRange_lmbda .boxCoxShift p rfl).symm
theorem BoxCoxShift_denormalize_eq_model (p : Par α) (y : α) :
    BoxCoxShift._denormalize p.lmbda p.shift y = denormRaw .boxCoxShift p y := rfl
theorem BoxCoxShift_normalize_eq_model (p : Par α) (x : α) :
    BoxCoxShift._normalize p.lmbda p.shift x = normRaw .boxCoxShift p x := rfl
theorem BoxCoxShift_derivative_eq_model (p : Par α) (x : α) :
    BoxCoxShift._derivative p.lmbda p.shift x = derivRaw .boxCoxShift p x := rfl

theorem YeoJohnson_normalize_range_eq_model (p : Par α) :
    (YeoJohnson.normalize_range : Ext α × Ext α) = extRng (normRange .yeoJohnson p) := rfl
theorem YeoJohnson_denormalize_range_eq_model (p : Par α) :
    (YeoJohnson.denormalize_range : Ext α × Ext α) = extRng (denormRange .yeoJohnson p) := rfl
theorem YeoJohnson_denormalize_eq_model (p : Par α) (y : α) :
    YeoJohnson._denormalize p.lmbda y = denormRaw .yeoJohnson p y :=
  ite_mask_nesting ..
theorem YeoJohnson_normalize_eq_model (p : Par α) (x : α) :
    YeoJohnson._normalize p.lmbda x = normRaw .yeoJohnson p x :=
  ite_mask_nesting ..
theorem YeoJohnson_derivative_eq_model (p : Par α) (x : α) :
    YeoJohnson._derivative p.lmbda x = derivRaw .yeoJohnson p x := rfl

theorem Modulus_normalize_range_eq_model (p : Par α) :
    (Modulus.normalize_range : Ext α × Ext α) = extRng (normRange .modulus p) := rfl
theorem Modulus_denormalize_range_eq_model (p : Par α) :
    (Modulus.denormalize_range : Ext α × Ext α) = extRng (denormRange .modulus p) := rfl
theorem Modulus_denormalize_eq_model (p : Par α) (y : α) :
    Modulus._denormalize p.lmbda y = denormRaw .modulus p y := rfl
theorem Modulus_normalize_eq_model (p : Par α) (x : α) :
    Modulus._normalize p.lmbda x = normRaw .modulus p x := rfl
theorem Modulus_derivative_eq_model (p : Par α) (x : α) :
    Modulus._derivative p.lmbda x = derivRaw .modulus p x := rfl

theorem Manly_normalize_range_eq_model (p : Par α) :
    (Manly.normalize_range : Ext α × Ext α) = extRng (normRange .manly p) := rfl
theorem Manly_denormalize_range_eq_model (p : Par α) :
    Manly.denormalize_range p.lmbda = extRng (denormRange .manly p) :=
  (extRng_denormRange_lmbda .manly p rfl).symm
theorem Manly_denormalize_eq_model (p : Par α) (y : α) :
    Manly._denormalize p.lmbda y = denormRaw .manly p y := rfl
theorem Manly_normalize_eq_model (p : Par α) (x : α) :
    Manly._normalize p.lmbda x = normRaw .manly p x := rfl
theorem Manly_derivative_eq_model (p : Par α) (x : α) :
    Manly._derivative p.lmbda x = derivRaw .manly p x := rfl

/-- the base class `Normalizer` (`normalizer/base.py`; what `normalizer=None` means) is the model's identity class:
    its `normalize_range` -/
theorem Normalizer_normalize_range_eq_model (p : Par α) :
    (Normalizer.normalize_range : Ext α × Ext α) = extRng (normRange .identity p) := rfl
theorem Normalizer_denormalize_range_eq_model (p : Par α) :
    (Normalizer.denormalize_range : Ext α × Ext α) = extRng (denormRange .identity p) := rfl
theorem Normalizer_denormalize_eq_model (p : Par α) (y : α) :
    Normalizer._denormalize y = denormRaw .identity p y := rfl
theorem Normalizer_normalize_eq_model (p : Par α) (x : α) :
    Normalizer._normalize x = normRaw .identity p x := rfl

/-- e.g. the regenerated Box-Cox transform at `ℝ`, outside the `isclose` band, is `(x ^ λ - 1) / λ` and is what
    `GSV.Props.C18` reasons about -/
example (p : Par ℝ) (x : ℝ) (h : c0 p = false) :
    BoxCox._normalize p.lmbda x = (x ^ p.lmbda - 1) / p.lmbda
      ∧ normRaw .boxCox p x = BoxCox._normalize p.lmbda x := by
  refine ⟨?_, (BoxCox_normalize_eq_model p x).symm⟩
  rw [BoxCox_normalize_eq_model]
  simp [normRaw, h]

example (p : Par ℝ) (x : ℝ) (hx : x < 0) (h : c2 p = true) :
    YeoJohnson._normalize p.lmbda x = -Real.log (1 + -x) := by
  rw [YeoJohnson_normalize_eq_model]
  have : ¬ (x ≥ 0) := not_le.mpr hx
  simp [normRaw, h, this]

end GSV.Props.GenTieNormExact
