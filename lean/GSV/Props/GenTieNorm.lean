/-
  Tie A for the normalizer formulas (C18): the hand-written model `GSV.Model.Norm` is EQUAL over `ℝ` (the carrier of the
  C18 theorems), for all parameters and data, to the definitions that `vlib/pyexpr2lean.py` regenerates from the current
  text of `src/gstools/normalizer/methods.py` (for the inherited ranges and the identity base class: `normalizer/base.py`)
  on every run of `./check` (`GSV/Gen/NormFormulas.lean`).

  The theorems `*_eq_model_real` are the registered obligations, proved by `tie_real` (`GSV/Props/GenTieReal.lean`), which
  uses nothing about the particular formula: they keep checking when a formula is rewritten into a real-equal one
  (`log1p(x * l) / l` -> `log1p(x * l) * (1 / l)`) and stop checking on a semantic edit (a sign, a swapped range end,
  `>=` -> `>` in a mask, `log1p` -> `log`); `vlib/selftest_pyexpr2lean.py` runs both.  No side condition is needed.
  The carrier-polymorphic `rfl` form (the model text IS the source text, also on `Float`) is in `GenTieNormExact.lean`
  (informative).

  Vocabulary: `np.isclose`, `np.sign` of `GSV/PyExpr.lean` are the model's `isclose`, `sgn`; `np.log1p x` / `np.expm1 x` are
  `log (1 + x)` / `exp x - 1`; range tuples `(lo, hi)` with `∓np.inf` correspond to the model's `Rng` (`none` = infinite
  end) through `extRng`.
-/
import GSV.RealInst
import GSV.Props.GenTieReal
import GSV.Model.Norm
import GSV.Gen.NormFormulas

set_option linter.unusedSectionVars false

namespace GSV.Props.GenTieNorm
open GSV GSV.Transc GSV.PyExpr GSV.Model.Norm GSV.Gen.NormFormulas GSV.Props.GenTieReal

variable {α : Type} [Arith α] [Transc α] [DecidableLT α] [DecidableLE α]

theorem isclose_eq (a b : α) : PyExpr.isclose a b = Model.Norm.isclose a b := rfl
theorem sign_eq (x : α) : PyExpr.sign x = sgn x := rfl
theorem log1p_eq (x : α) : log1p x = log (((1:Nat):α) + x) := rfl
theorem expm1_eq (x : α) : expm1 x = exp x - ((1:Nat):α) := rfl
theorem log1p_real (x : ℝ) : log1p x = Real.log (1 + x) := GenTieReal.log1p_real x
theorem expm1_real (x : ℝ) : expm1 x = Real.exp x - 1 := GenTieReal.expm1_real x

/-- lower end of a model range as a tuple entry: `none` is `-np.inf` -/
def extLo : Option α → Ext α
  | none => .negInf
  | some x => .fin x
/-- upper end of a model range as a tuple entry: `none` is `+np.inf` -/
def extHi : Option α → Ext α
  | none => .posInf
  | some x => .fin x
/-- the tuple `(lo, hi)` a model range stands for (injective: a swapped or sign-flipped end is a different tuple) -/
def extRng (r : Rng α) : Ext α × Ext α := (extLo r.lo, extHi r.hi)

/-- a model range is determined by the tuple it stands for -/
theorem extRng_injective (r s : Rng α) (h : extRng r = extRng s) : r = s := by
  obtain ⟨rl, rh⟩ := r
  obtain ⟨sl, sh⟩ := s
  simp only [extRng, Prod.mk.injEq] at h
  obtain ⟨h1, h2⟩ := h
  cases rl <;> cases sl <;> cases rh <;> cases sh <;> simp_all [extLo, extHi]

/-- `denormalize_range` of BoxCox, BoxCoxShift, Manly (one text in the model) as the tuple the source returns -/
theorem extRng_denormRange_lmbda (k : Kind) (p : Par α) (hk : denormRange k p = denormRange .boxCox p) :
    extRng (denormRange k p) =
      if PyExpr.isclose p.lmbda ((0:Nat):α) = true then (Ext.negInf, Ext.posInf)
      else if p.lmbda < ((0:Nat):α) then (Ext.negInf, Ext.fin (-(((1:Nat):α) / p.lmbda)))
      else (Ext.fin (-(((1:Nat):α) / p.lmbda)), Ext.posInf) := by
  rw [hk, denormRange, c0, ← isclose_eq, apply_ite extRng, apply_ite extRng]
  rfl

/-! `tie_norm G, M` unfolds the generated definition `G`, the model function `M`, the `isclose` flags and the range
encoding, reads the model's `isclose` / `sgn` as numpy's, and runs `tie_real`. -/

local macro "tie_norm " g:ident ", " m:ident : tactic =>
  `(tactic| tie_real [$g:ident, $m:ident, c0, c2, ← isclose_eq, ← sign_eq, extRng, extLo, extHi])

theorem LogNormal_normalize_range_eq_model_real (p : Par ℝ) :
    (LogNormal.normalize_range : Ext ℝ × Ext ℝ) = extRng (normRange .logNormal p) := by
  tie_norm LogNormal.normalize_range, normRange
theorem LogNormal_denormalize_range_eq_model_real (p : Par ℝ) :
    (LogNormal.denormalize_range : Ext ℝ × Ext ℝ) = extRng (denormRange .logNormal p) := by
  tie_norm LogNormal.denormalize_range, denormRange
theorem LogNormal_denormalize_eq_model_real (p : Par ℝ) (y : ℝ) :
    LogNormal._denormalize y = denormRaw .logNormal p y := by
  tie_norm LogNormal._denormalize, denormRaw
theorem LogNormal_normalize_eq_model_real (p : Par ℝ) (x : ℝ) :
    LogNormal._normalize x = normRaw .logNormal p x := by
  tie_norm LogNormal._normalize, normRaw
theorem LogNormal_derivative_eq_model_real (p : Par ℝ) (x : ℝ) :
    LogNormal._derivative x = derivRaw .logNormal p x := by
  tie_norm LogNormal._derivative, derivRaw

theorem BoxCox_normalize_range_eq_model_real (p : Par ℝ) :
    (BoxCox.normalize_range : Ext ℝ × Ext ℝ) = extRng (normRange .boxCox p) := by
  tie_norm BoxCox.normalize_range, normRange
theorem BoxCox_denormalize_range_eq_model_real (p : Par ℝ) :
    BoxCox.denormalize_range p.lmbda = extRng (denormRange .boxCox p) := by
  tie_real [BoxCox.denormalize_range, extRng_denormRange_lmbda .boxCox p rfl]
theorem BoxCox_denormalize_eq_model_real (p : Par ℝ) (y : ℝ) :
    BoxCox._denormalize p.lmbda y = denormRaw .boxCox p y := by
  tie_norm BoxCox._denormalize, denormRaw
theorem BoxCox_normalize_eq_model_real (p : Par ℝ) (x : ℝ) :
    BoxCox._normalize p.lmbda x = normRaw .boxCox p x := by
  tie_norm BoxCox._normalize, normRaw
theorem BoxCox_derivative_eq_model_real (p : Par ℝ) (x : ℝ) :
    BoxCox._derivative p.lmbda x = derivRaw .boxCox p x := by
  tie_norm BoxCox._derivative, derivRaw

theorem BoxCoxShift_normalize_range_eq_model_real (p : Par ℝ) :
    BoxCoxShift.normalize_range p.shift = extRng (normRange .boxCoxShift p) := by
  tie_norm BoxCoxShift.normalize_range, normRange
theorem BoxCoxShift_denormalize_range_eq_model_real (p : Par ℝ) :
    BoxCoxShift.denormalize_range p.lmbda = extRng (denormRange .boxCoxShift p) := by
  tie_real [BoxCoxShift.denormalize_range, extRng_denormRange_lmbda .boxCoxShift p rfl]
theorem BoxCoxShift_denormalize_eq_model_real (p : Par ℝ) (y : ℝ) :
    BoxCoxShift._denormalize p.lmbda p.shift y = denormRaw .boxCoxShift p y := by
  tie_norm BoxCoxShift._denormalize, denormRaw
theorem BoxCoxShift_normalize_eq_model_real (p : Par ℝ) (x : ℝ) :
    BoxCoxShift._normalize p.lmbda p.shift x = normRaw .boxCoxShift p x := by
  tie_norm BoxCoxShift._normalize, normRaw
theorem BoxCoxShift_derivative_eq_model_real (p : Par ℝ) (x : ℝ) :
    BoxCoxShift._derivative p.lmbda p.shift x = derivRaw .boxCoxShift p x := by
  tie_norm BoxCoxShift._derivative, derivRaw

/-! YeoJohnson: the source fills `res[pos]` and `res[~pos]` (with `pos = data >= 0`) under two independent `if`s on
`lmbda`; the model branches on `x ≥ 0` first.  Same four formulas, different nesting. -/

theorem ite_mask_nesting {β : Type} (c d pos : Prop) [Decidable c] [Decidable d] [Decidable pos] (A B C D z : β) :
    (if c then
       if d then (if ¬pos then C else if pos then A else z) else (if ¬pos then D else if pos then A else z)
     else
       if d then (if ¬pos then C else if pos then B else z) else (if ¬pos then D else if pos then B else z))
      = if pos then (if c then A else B) else (if d then C else D) := by
  by_cases pos <;> by_cases c <;> by_cases d <;> simp [*]

theorem YeoJohnson_normalize_range_eq_model_real (p : Par ℝ) :
    (YeoJohnson.normalize_range : Ext ℝ × Ext ℝ) = extRng (normRange .yeoJohnson p) := by
  tie_norm YeoJohnson.normalize_range, normRange
theorem YeoJohnson_denormalize_range_eq_model_real (p : Par ℝ) :
    (YeoJohnson.denormalize_range : Ext ℝ × Ext ℝ) = extRng (denormRange .yeoJohnson p) := by
  tie_norm YeoJohnson.denormalize_range, denormRange
theorem YeoJohnson_denormalize_eq_model_real (p : Par ℝ) (y : ℝ) :
    YeoJohnson._denormalize p.lmbda y = denormRaw .yeoJohnson p y := by
  tie_real [YeoJohnson._denormalize, denormRaw, c0, c2, ← isclose_eq, ite_mask_nesting]
theorem YeoJohnson_normalize_eq_model_real (p : Par ℝ) (x : ℝ) :
    YeoJohnson._normalize p.lmbda x = normRaw .yeoJohnson p x := by
  tie_real [YeoJohnson._normalize, normRaw, c0, c2, ← isclose_eq, ite_mask_nesting]
theorem YeoJohnson_derivative_eq_model_real (p : Par ℝ) (x : ℝ) :
    YeoJohnson._derivative p.lmbda x = derivRaw .yeoJohnson p x := by
  tie_norm YeoJohnson._derivative, derivRaw

theorem Modulus_normalize_range_eq_model_real (p : Par ℝ) :
    (Modulus.normalize_range : Ext ℝ × Ext ℝ) = extRng (normRange .modulus p) := by
  tie_norm Modulus.normalize_range, normRange
theorem Modulus_denormalize_range_eq_model_real (p : Par ℝ) :
    (Modulus.denormalize_range : Ext ℝ × Ext ℝ) = extRng (denormRange .modulus p) := by
  tie_norm Modulus.denormalize_range, denormRange
theorem Modulus_denormalize_eq_model_real (p : Par ℝ) (y : ℝ) :
    Modulus._denormalize p.lmbda y = denormRaw .modulus p y := by
  tie_norm Modulus._denormalize, denormRaw
theorem Modulus_normalize_eq_model_real (p : Par ℝ) (x : ℝ) :
    Modulus._normalize p.lmbda x = normRaw .modulus p x := by
  tie_norm Modulus._normalize, normRaw
theorem Modulus_derivative_eq_model_real (p : Par ℝ) (x : ℝ) :
    Modulus._derivative p.lmbda x = derivRaw .modulus p x := by
  tie_norm Modulus._derivative, derivRaw

theorem Manly_normalize_range_eq_model_real (p : Par ℝ) :
    (Manly.normalize_range : Ext ℝ × Ext ℝ) = extRng (normRange .manly p) := by
  tie_norm Manly.normalize_range, normRange
theorem Manly_denormalize_range_eq_model_real (p : Par ℝ) :
    Manly.denormalize_range p.lmbda = extRng (denormRange .manly p) := by
  tie_real [Manly.denormalize_range, extRng_denormRange_lmbda .manly p rfl]
theorem Manly_denormalize_eq_model_real (p : Par ℝ) (y : ℝ) :
    Manly._denormalize p.lmbda y = denormRaw .manly p y := by
  tie_norm Manly._denormalize, denormRaw
theorem Manly_normalize_eq_model_real (p : Par ℝ) (x : ℝ) :
    Manly._normalize p.lmbda x = normRaw .manly p x := by
  tie_norm Manly._normalize, normRaw
theorem Manly_derivative_eq_model_real (p : Par ℝ) (x : ℝ) :
    Manly._derivative p.lmbda x = derivRaw .manly p x := by
  tie_norm Manly._derivative, derivRaw

theorem Normalizer_normalize_range_eq_model_real (p : Par ℝ) :
    (Normalizer.normalize_range : Ext ℝ × Ext ℝ) = extRng (normRange .identity p) := by
  tie_norm Normalizer.normalize_range, normRange
theorem Normalizer_denormalize_range_eq_model_real (p : Par ℝ) :
    (Normalizer.denormalize_range : Ext ℝ × Ext ℝ) = extRng (denormRange .identity p) := by
  tie_norm Normalizer.denormalize_range, denormRange
theorem Normalizer_denormalize_eq_model_real (p : Par ℝ) (y : ℝ) :
    Normalizer._denormalize y = denormRaw .identity p y := by
  tie_norm Normalizer._denormalize, denormRaw
theorem Normalizer_normalize_eq_model_real (p : Par ℝ) (x : ℝ) :
    Normalizer._normalize x = normRaw .identity p x := by
  tie_norm Normalizer._normalize, normRaw

/-- the hypotheses-free statements are about non-trivial objects: e.g. Box-Cox with `λ = 1/2` at `x = 4` is `2` on both sides -/
example : BoxCox._normalize (Par.mk (0.5:ℝ) 0).lmbda 4 = 2 ∧ normRaw .boxCox (Par.mk (0.5:ℝ) 0) 4 = 2 := by
  have h : normRaw .boxCox (Par.mk (0.5:ℝ) 0) 4 = 2 := by
    have hc : c0 (Par.mk (0.5:ℝ) 0) = false := by
      simp only [c0, Model.Norm.isclose, decide_eq_false_iff_not, fabs_real]; norm_num [abs_of_pos]
    have h4 : (4:ℝ) ^ (0.5:ℝ) = 2 := by
      rw [show (4:ℝ) = 2 ^ (2:ℝ) by norm_num, ← Real.rpow_mul (by norm_num)]; norm_num
    simp only [normRaw, hc, rpow_real, h4]; norm_num
  exact ⟨(BoxCox_normalize_eq_model_real _ 4).trans h, h⟩

end GSV.Props.GenTieNorm
