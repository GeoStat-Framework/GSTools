/-
  C02 — the ORDER handed to the exponential integral decides `|ρ| ≤ 1` for the models built on `E_s`.
  TPLStable / TPLExponential / TPLGaussian evaluate `ρ(r) = (2H/α) · E_{1+2H/α}((r/ℓ)^α)`, Integral
  `ρ(r) = (ν/2) · E_{1+ν/2}((r/ℓ)²)`: a prefactor `s - 1` times `E_s(x)`.  With the same `s` in both places the value
  stays in `[0, 1]`.  With `E` of the next lower order it exceeds `1` at the origin: this is the seeded change R4-C02a /
  C03a, `sps.expn(int(s), x)` for `sps.expn(int(np.around(s)), x)` in `exp_int`, when `s` lies a few ulp below an
  integer.  With the next higher order it drops below `1` at the origin, which only continuity in the parameters
  reveals (`rounding_scan` of `vlib/props/C02.py`).  Which integer order the code itself chooses is
  `expIntPlan_of_integer_close` in `Props/C03`.
-/
import GSV.RealInst
import Mathlib.Analysis.SpecialFunctions.ImproperIntegrals
namespace GSV.Props.C02Order
open MeasureTheory Set

/-- the generalised exponential integral `E_s(x) = ∫₁^∞ e^{-x t} t^{-s} dt` -/
noncomputable def expIntegral (s x : ℝ) : ℝ := ∫ t in Ioi (1:ℝ), Real.exp (-(x * t)) * t ^ (-s)

theorem kernel_integrableOn {s x : ℝ} (hs : 1 < s) (hx : 0 ≤ x) :
    IntegrableOn (fun t : ℝ => Real.exp (-(x * t)) * t ^ (-s)) (Ioi 1) := by
  refine (integrableOn_Ioi_rpow_of_lt (by linarith) zero_lt_one).bdd_mul (c := 1)
    (by fun_prop : Continuous fun t : ℝ => Real.exp (-(x * t))).aestronglyMeasurable ?_
  refine ae_restrict_of_forall_mem measurableSet_Ioi fun t ht => ?_
  rw [Real.norm_eq_abs, abs_of_pos (Real.exp_pos _), Real.exp_le_one_iff]
  exact neg_nonpos.2 (mul_nonneg hx (zero_le_one.trans (le_of_lt ht)))

theorem expIntegral_zero {s : ℝ} (hs : 1 < s) : expIntegral s 0 = 1 / (s - 1) := by
  simp only [expIntegral, zero_mul, neg_zero, Real.exp_zero, one_mul]
  rw [integral_Ioi_rpow_of_lt (by linarith) zero_lt_one, Real.one_rpow, neg_div, ← div_neg, neg_add', neg_neg]

theorem expIntegral_nonneg (s x : ℝ) : 0 ≤ expIntegral s x := by
  refine setIntegral_nonneg measurableSet_Ioi fun t (ht : 1 < t) => ?_
  exact mul_nonneg (Real.exp_pos _).le (Real.rpow_nonneg (by linarith) _)

theorem expIntegral_le {s x : ℝ} (hs : 1 < s) (hx : 0 ≤ x) : expIntegral s x ≤ 1 / (s - 1) := by
  rw [← expIntegral_zero hs]
  refine setIntegral_mono_on (kernel_integrableOn hs hx) (kernel_integrableOn hs le_rfl) measurableSet_Ioi
    fun t (ht : 1 < t) => ?_
  have ht0 : 0 ≤ t := by linarith
  exact mul_le_mul_of_nonneg_right (Real.exp_le_exp.2 (by linarith [mul_nonneg hx ht0])) (Real.rpow_nonneg ht0 _)

/-- the correlation of a power-law mode / of the Integral model at the origin: `(s - 1) E_s(0) = 1` -/
theorem mode_cor_zero {s : ℝ} (hs : 1 < s) : (s - 1) * expIntegral s 0 = 1 := by
  rw [expIntegral_zero hs, mul_one_div, div_self (sub_pos.2 hs).ne']

/-- the correlation of a power-law mode / of the Integral model lies in `[0, 1]`: prefactor `s - 1` (`= 2H/α`, `ν/2`)
    with the exponential integral of the SAME order `s` -/
theorem mode_cor_mem_Icc {s x : ℝ} (hs : 1 < s) (hx : 0 ≤ x) :
    0 ≤ (s - 1) * expIntegral s x ∧ (s - 1) * expIntegral s x ≤ 1 := by
  have hpos : 0 < s - 1 := by linarith
  refine ⟨mul_nonneg hpos.le (expIntegral_nonneg s x), ?_⟩
  calc (s - 1) * expIntegral s x ≤ (s - 1) * (1 / (s - 1)) :=
        mul_le_mul_of_nonneg_left (expIntegral_le hs hx) hpos.le
    _ = 1 := by field_simp

/-- prefactor of order `s`, exponential integral of the next LOWER order: `(s-1)/(s-2) > 1` at the origin -/
theorem neighbouring_order_exceeds_one {s : ℝ} (hs : 2 < s) :
    (s - 1) * expIntegral (s - 1) 0 = (s - 1) / (s - 2) ∧ 1 < (s - 1) * expIntegral (s - 1) 0 := by
  have heq : (s - 1) * expIntegral (s - 1) 0 = (s - 1) / (s - 2) := by
    rw [expIntegral_zero (by linarith), mul_one_div, sub_sub, one_add_one_eq_two]
  refine ⟨heq, ?_⟩
  rw [heq, lt_div_iff₀ (by linarith)]; linarith

/-- the integer instance: an order that is the integer `n ≥ 3` up to rounding, truncated to `n - 1` -/
theorem truncated_integer_order_exceeds_one (n : ℕ) (hn : 3 ≤ n) :
    1 < ((n:ℝ) - 1) * expIntegral ((n:ℝ) - 1) 0 := by
  have : (2:ℝ) < n := by
    have : (3:ℝ) ≤ n := by exact_mod_cast hn
    linarith
  exact (neighbouring_order_exceeds_one this).2

/-- prefactor of order `s`, exponential integral of the next HIGHER order: `(s-1)/s < 1` at the origin, although
    the documented value is `1` — invisible to `|ρ| ≤ 1`, visible to continuity in the parameters -/
theorem next_order_jump {s : ℝ} (hs : 1 < s) :
    (s - 1) * expIntegral (s + 1) 0 = (s - 1) / s ∧ (s - 1) * expIntegral (s + 1) 0 < 1 := by
  have heq : (s - 1) * expIntegral (s + 1) 0 = (s - 1) / s := by
    rw [expIntegral_zero (by linarith), mul_one_div, add_sub_cancel_right]
  refine ⟨heq, ?_⟩
  rw [heq, div_lt_one (by linarith)]; linarith

/-! the hypotheses are satisfiable: TPLStable(hurst = 0.6, alpha = 0.4) has order `1 + 2·0.6/0.4 = 4` -/

example : (4 - 1) * expIntegral 4 0 = 1 := mode_cor_zero (by norm_num)
example : 0 ≤ (4 - 1) * expIntegral 4 0.3 ∧ (4 - 1) * expIntegral 4 0.3 ≤ 1 :=
  mode_cor_mem_Icc (by norm_num) (by norm_num)
example : (4 - 1) * expIntegral (4 - 1) 0 = 3 / 2 := by
  have := (neighbouring_order_exceeds_one (s := 4) (by norm_num)).1
  rw [this]; norm_num

end GSV.Props.C02Order
