/-
  Tie A for the one-line array transforms (C19): the hand-written scalar maps of `GSV.Model.Transform`
  (`toLognormal`, `boxcox`, `forceMoments`, `toUniform`, `uniformToArcsin`, `uniformToUquad`, `toArcsin`, `toUquad`,
  `zinnharvey`) are EQUAL over `ℝ`, for all parameters and data, to the definitions that `vlib/pyexpr2lean.py`
  regenerates from the current text of `src/gstools/transform/array.py` on every run of `./check`
  (`GSV/Gen/TransformFormulas.lean`).

  The theorems `*_eq_model_real` are the registered obligations, proved by `tie_real` (`GSV/Props/GenTieReal.lean`), which
  keeps checking when a source formula is rewritten into a real-equal one (`(a + b) / 2` -> `a + (b - a) / 2`, folding
  `√2`, `√var` and the sign of `array_zinnharvey` into one scalar) and stops checking on a semantic edit.  No side
  condition is needed: the equalities hold for all real arguments (also for `var ≤ 0`, where both sides contain the same
  totalised `√`).  The carrier-polymorphic `rfl` form of the three equalities that re-associate nothing is in
  `GenTieTransformExact.lean` (informative).

  * The model is written in terms of the standard normal cdf `Φ` and its quantile function (parameters
    `cdf ppf`), the code in terms of `scipy.special.erf / erfinv` (parameter `sps : Sps α` of the generated
    definitions).  The tie instantiates `cdf := cdfOf sps = z ↦ 0.5 (1 + erf (z / √2))` and
    `ppf := ppfOf sps = u ↦ √2 erfinv (2u − 1)`, i.e. exactly the expressions the code writes; that scipy's `erf`
    makes `cdfOf` the normal cdf is the trusted fact named in DESIGN §4 C19.
  * `np.mean(field)` / `np.var(field)` of the array argument are scalar parameters (`mean_of_field`,
    `var_of_field`) of the generated `array_force_moments`; the tie instantiates them with the model's
    `lmean` / `lvar` of the sample.
  * `mean=None` / `var=None` (moments taken from the sample) are not generated: the generated definitions take
    `mean`, `var` as given numbers, like the model.  Optional bounds `a`, `b` are generated in both variants.
  * `array_discrete` (loop over thresholds, sorting) is outside the subset: tie B only.
-/
import GSV.RealInst
import GSV.Props.GenTieReal
import GSV.Model.Transform
import GSV.Gen.TransformFormulas

namespace GSV.Props.GenTieTransform
open GSV GSV.Transc GSV.PyExpr GSV.Model.Transform GSV.Gen.TransformFormulas GSV.Props.GenTieReal

variable {α : Type} [Arith α] [Transc α] [DecidableLT α] [DecidableLE α]

/-- the normal cdf as the code writes it: `0.5 * (1 + erf(z / sqrt 2))` -/
def cdfOf (sps : Sps α) (z : α) : α := (0.5:α) * (((1:Nat):α) + sps.erf (z / sqrt ((2:Nat):α)))
/-- the normal quantile function as the code writes it: `sqrt 2 * erfinv(2 u - 1)` -/
def ppfOf (sps : Sps α) (u : α) : α := sqrt ((2:Nat):α) * sps.erfinv (((2:Nat):α) * u - ((1:Nat):α))

theorem isclose_zero_real (x : ℝ) : PyExpr.isclose x ((0:Nat):ℝ) = lmbdaIsZero x := by
  simp [PyExpr.isclose, lmbdaIsZero]

/-! `tie_tf A, B` unfolds the two named definitions — a generated definition and the model function it is compared with
or, where the model side has already been rewritten into generated helpers, a generated definition and the helper it
calls — and the model's helpers (the generated definitions have the helpers of `array.py` inlined by the translator), reads
`np.isclose(lmbda, 0)` as the model's `lmbdaIsZero`, and runs `tie_real`. -/

local macro "tie_tf " g:ident ", " m:ident : tactic =>
  `(tactic| tie_real [$g:ident, $m:ident, toUniform, uniformToArcsin, uniformToUquad, cdfOf, ppfOf, standardize, zhCore,
      toLognormal, maxZero, arcsinDefaultA, arcsinDefaultB, uquadDefaultA, uquadDefaultB, Option.getD_some, Option.getD_none,
      isclose_zero_real])

theorem array_to_lognormal_eq_model_real (x : ℝ) : array_to_lognormal x = toLognormal x := by
  tie_tf array_to_lognormal, toLognormal
theorem uniform_to_arcsin_eq_model_real (a b u : ℝ) : _uniform_to_arcsin u a b = uniformToArcsin a b u := by
  tie_tf _uniform_to_arcsin, uniformToArcsin
/-- `array_force_moments`: every element is mapped by the generated formula with the sample moments -/
theorem array_force_moments_eq_model_real (mean var : ℝ) (l : List ℝ) :
    forceMoments mean var l = l.map fun x => array_force_moments (lmean l) (lvar l) x mean var := by
  simp only [forceMoments]
  refine List.map_congr_left fun x _ => ?_
  tie_tf array_force_moments, array_force_moments
theorem array_boxcox_eq_model_real (lmbda shift x : ℝ) : array_boxcox x lmbda shift = boxcox lmbda shift x := by
  tie_tf array_boxcox, boxcox
/-- the cube-root branches: the code fills `y > 0` first and `y < 0` second, so that the translated text tests `y < 0`
    first; the model tests `0 < y` first -/
theorem ite_sign_order (y n p z : ℝ) :
    (if y < ((0:Nat):ℝ) then n else if y > ((0:Nat):ℝ) then p else z)
      = if ((0:Nat):ℝ) < y then p else if y < ((0:Nat):ℝ) then n else z := by
  split_ifs with h1 h2
  · exact absurd h1 (lt_asymm h2)
  all_goals rfl
theorem uniform_to_uquad_eq_model_real (a b u : ℝ) : _uniform_to_uquad u a b = uniformToUquad a b u := by
  tie_real [_uniform_to_uquad, uniformToUquad, ite_sign_order]
theorem array_to_uniform_eq_model_real (sps : Sps ℝ) (mean var low high x : ℝ) :
    array_to_uniform sps x mean var low high = toUniform (cdfOf sps) mean var low high x := by
  tie_tf array_to_uniform, toUniform
/-! `array_to_arcsin` / `array_to_uquad` call `array_to_uniform(field, mean, var, 0, 1)` and hand the result to
`_uniform_to_arcsin` / `_uniform_to_uquad`, and so does the model: the ties of `array_to_uniform` and of the two helpers turn the model side into the
generated helpers, and what is left to compare is the generated function with its own helpers inlined. -/

/-- the bounds `0.0`, `1.0` of the model's unit interval, as the generated text writes them -/
theorem toUniform_unit (cdf : ℝ → ℝ) (mean var x : ℝ) :
    toUniform cdf mean var (0.0:ℝ) (1.0:ℝ) x = toUniform cdf mean var ((0:Nat):ℝ) ((1:Nat):ℝ) x := by
  norm_num

theorem array_to_arcsin_eq_model_real (sps : Sps ℝ) (mean var a b x : ℝ) :
    array_to_arcsin sps x mean var a b = toArcsin (cdfOf sps) mean var (some a) (some b) x := by
  rw [toArcsin, toUniform_unit, ← array_to_uniform_eq_model_real, ← uniform_to_arcsin_eq_model_real, array_to_uniform]
  tie_tf array_to_arcsin, _uniform_to_arcsin
theorem array_to_arcsin_default_eq_model_real (sps : Sps ℝ) (mean var x : ℝ) :
    array_to_arcsin_default sps x mean var = toArcsin (cdfOf sps) mean var none none x := by
  rw [toArcsin, toUniform_unit, ← array_to_uniform_eq_model_real, ← uniform_to_arcsin_eq_model_real, array_to_uniform]
  tie_tf array_to_arcsin_default, _uniform_to_arcsin
theorem array_to_uquad_eq_model_real (sps : Sps ℝ) (mean var a b x : ℝ) :
    array_to_uquad sps x mean var a b = toUquad (cdfOf sps) mean var (some a) (some b) x := by
  rw [toUquad, toUniform_unit, ← array_to_uniform_eq_model_real, ← uniform_to_uquad_eq_model_real, array_to_uniform]
  tie_tf array_to_uquad, _uniform_to_uquad
theorem array_to_uquad_default_eq_model_real (sps : Sps ℝ) (mean var x : ℝ) :
    array_to_uquad_default sps x mean var = toUquad (cdfOf sps) mean var none none x := by
  rw [toUquad, toUniform_unit, ← array_to_uniform_eq_model_real, ← uniform_to_uquad_eq_model_real, array_to_uniform]
  tie_tf array_to_uquad_default, _uniform_to_uquad
theorem array_zinnharvey_high_eq_model_real (sps : Sps ℝ) (mean var x : ℝ) :
    array_zinnharvey_high sps x mean var = zinnharvey (cdfOf sps) (ppfOf sps) true mean var x := by
  tie_tf array_zinnharvey_high, zinnharvey
theorem array_zinnharvey_low_eq_model_real (sps : Sps ℝ) (mean var x : ℝ) :
    array_zinnharvey_low sps x mean var = zinnharvey (cdfOf sps) (ppfOf sps) false mean var x := by
  tie_tf array_zinnharvey_low, zinnharvey

/-- the statements are about non-trivial objects: e.g. `array_to_uniform` with `erf := id` at `x = mean` is the midpoint
    `(low + high) / 2` on both sides -/
example (mean var low high : ℝ) :
    array_to_uniform ⟨id, id, id, id, fun _ x => x, fun _ x => x, fun _ x => x, fun _ _ _ x => x⟩ mean mean var low high
      = (low + high) / 2 := by
  simp only [array_to_uniform, id, sub_self, zero_div]; push_cast; norm_num; ring

end GSV.Props.GenTieTransform
