/-
  C14 — path independence for histories that contain BOUNDS operations.

  A directly constructed model always carries the default bounds of its class, so after `set_arg_bounds(...)` or an
  assignment to `var_bounds` / `len_scale_bounds` / … the statement "the model equals one constructed directly with the
  resulting values" has to read: construct directly with the resulting values, THEN set the same bounds
  (`m2 = Class(**values); m2.set_arg_bounds(check_args=False, **m.arg_bounds)`).

  `path_independent_with_bounds` proves this for EVERY reachable state — any history of plain setters, `rescale`,
  `set_arg_bounds` with either `check_args`, the `*_bounds` property setters, including calls that raised — of a class
  table whose default bounds are ordered at every dimension (`SpecBoundsOK`), under the one hypothesis without which the
  constructor itself rejects the values: they lie inside the class's DEFAULT bounds (`hdef`; necessary, see
  `not_path_independent_widened_bounds`).  `shipped_boundsOK` shows `SpecBoundsOK` for the shipped classes other than
  JBessel, SuperSpherical and TPLSimple (D8).  For these three it is false — the lower default bound of `nu` grows with
  the dimension and reaches the upper bound 50 (JBessel `[d/2 − 1, 50]` from `d = 102` on, SuperSpherical from
  `d = 101`, TPLSimple from `d = 99`) — so they are not covered.
-/
import GSV.Lemmas.CovStateBounds
import GSV.Props.C14

set_option linter.unusedSectionVars false
set_option linter.unnecessarySeqFocus false
namespace GSV.Props.C14
open GSV GSV.Model.CovState GSV.Lemmas.CovState

section field
variable {F : Type} [Field F] [LinearOrder F] [IsStrictOrderedRing F] [HasRPow F]
attribute [local instance] arithOfField

/-- the restricted histories (`ReachOkB`, `ReachOk`) are histories -/
theorem reach_of_reachOkB {sp : ClassSpec F} {s : State F} (h : ReachOkB sp s) : Reach sp s := by
  induction h with
  | init hc => exact Reach.init hc
  | step op _ _ _ _ ih => exact Reach.step op ih
  | bounds bs _ _ ih => exact Reach.step _ ih

theorem reach_of_reachOk {sp : ClassSpec F} {s : State F} (h : ReachOk sp s) : Reach sp s := by
  induction h with
  | init hc => exact Reach.init hc
  | step op _ _ _ ih => exact Reach.step op ih

theorem reach_runOps {sp : ClassSpec F} (ops : List (Op F)) {s : State F} (h : Reach sp s) :
    Reach sp (runOps sp s ops) := by
  induction ops generalizing s with
  | nil => exact h
  | cons op rest ih => exact ih (Reach.step op h)

/-- Path independence for every history, bounds operations included.
    Class table with sane optional-argument names (`hnm`), dimension-independent NAMES and default bounds that are
    ordered at EVERY dimension (`hbo`; `shipped_boundsOK` shows it for the shipped classes other than JBessel,
    SuperSpherical, TPLSimple, for which it fails from `d = 102`, `101`, `99` on).  `s` reachable by ANY history.
    If the values of `s` lie inside the default bounds of a freshly constructed model of its dimension
    (`hdef`), the dimension is admissible for the class (`hfix`) and — truncated-power-law classes only — the
    variance factor and the Hurst exponent are non-zero, then
    (1) constructing a model directly with the values read off `s` succeeds and yields `resetBounds sp s`
        (same values, default bounds), and
    (2) `set_arg_bounds(check_args=False, **s.arg_bounds)` on that model yields exactly `s`, without error. -/
theorem path_independent_with_bounds {sp : ClassSpec F} (hnm : SpecNamesOK sp) (hbo : SpecBoundsOK sp)
    {s : State F} (h : Reach sp s)
    (hfix : sp.fixDim = none ∨ sp.fixDim = some s.dim)
    (hdef : checkArgBounds sp (resetBounds sp s) = none)
    (hvf : varFactor sp s ≠ 0) (hh : sp.tpl = true → optGet s "hurst" ≠ 0) :
    construct sp (cfgOf sp s) = .ok (resetBounds sp s, !sp.checkDim s.dim || optWarn sp s) ∧
    step sp (resetBounds sp s) (.setArgBounds false (boundsArgs s)) = ⟨s, none, false⟩ := by
  have hw : WF s := structure_invariant sp h
  obtain ⟨hnames, hord⟩ := reach_names_ordered hbo h
  have hok : OptNamesOK s := optNamesOK_iff.mpr (hnames ▸ (namesOK_map _).mpr (hnm s.dim))
  obtain ⟨hnv, hnb⟩ := resetBounds_opt sp s hnames
  have hget : ∀ n, optGet (resetBounds sp s) n = optGet s n := optGet_congr hnv
  have hvfe : varFactor sp (resetBounds sp s) = varFactor sp s := by
    simp only [varFactor, hget]; rfl
  have hcfg : cfgOf sp (resetBounds sp s) = cfgOf sp s := by
    unfold cfgOf
    have hv : var sp (resetBounds sp s) = var sp s := by
      unfold var; rw [hvfe]; rfl
    rw [hv, hnv]; rfl
  have hw' : WF (resetBounds sp s) := hw.congr rfl rfl rfl rfl rfl rfl
  have hdb : DefaultBounds sp (resetBounds sp s) := by
    refine ⟨rfl, rfl, rfl, rfl, hnb, ?_⟩
    rw [names_of_map_pair hnv]; exact hok.1
  have hwarn : optWarn sp (resetBounds sp s) = optWarn sp s := by
    simp only [optWarn, hget]
    rfl
  constructor
  · have := construct_cfgOf hw' hfix hdb hdef (by rw [hvfe]; exact hvf) (fun ht => by rw [hget]; exact hh ht)
    rw [hcfg, hwarn] at this
    exact this
  · exact setArgBounds_resetBounds sp s hok hord hnv

/-- the corollary for the histories of `bounds_invariant_with_bounds_ops` (plain setters without `rescale` and
    `set_arg_bounds(check_args=True)`, none raised) on classes with neither variance factor nor fixed dimension -/
theorem path_independent_history_bounds {sp : ClassSpec F} (hnm : SpecNamesOK sp) (hbo : SpecBoundsOK sp)
    (htpl : sp.tpl = false) (hfix : sp.fixDim = none) {s : State F} (h : ReachOkB sp s)
    (hdef : checkArgBounds sp (resetBounds sp s) = none) :
    construct sp (cfgOf sp s) = .ok (resetBounds sp s, !sp.checkDim s.dim || optWarn sp s) ∧
    step sp (resetBounds sp s) (.setArgBounds false (boundsArgs s)) = ⟨s, none, false⟩ ∧
    InBounds sp s :=
  let ⟨h1, h2⟩ := path_independent_with_bounds hnm hbo (reach_of_reachOkB h) (Or.inl hfix) hdef
    (by rw [varFactor_nontpl htpl]; exact one_ne_zero) (fun ht => by rw [htpl] at ht; cases ht)
  ⟨h1, h2, (reachOkB_inBounds hnm h).2⟩

theorem zipWith_reset_id (L C : List (OptArg F))
    (h : L.map (fun o => (o.name, o.bnd)) = C.map (fun o => (o.name, o.bnd))) :
    List.zipWith (fun (o c : OptArg F) => ({ o with bnd := c.bnd } : OptArg F)) L C = L := by
  induction L generalizing C with
  | nil => simp
  | cons a L ih =>
    cases C with
    | nil => simp at h
    | cons c C =>
      simp only [List.map_cons, List.cons.injEq, Prod.mk.injEq] at h
      simp only [List.zipWith_cons_cons, List.cons.injEq]
      exact ⟨by rw [← h.1.2], ih C h.2⟩

/-- without bounds operations nothing has to be re-installed: `resetBounds` is the identity on states that carry the
    default bounds (so `path_independent_history` is the special case) -/
theorem resetBounds_of_defaultBounds {sp : ClassSpec F} {s : State F} (hdb : DefaultBounds sp s) :
    resetBounds sp s = s := by
  obtain ⟨h1, h2, h3, h4, h5, _⟩ := hdb
  unfold resetBounds
  rw [zipWith_reset_id _ _ h5, ← h1, ← h2, ← h3, ← h4]

/-- the shipped classes whose tables do not depend on the dimension (all but JBessel, SuperSpherical, TPLSimple, whose
    lower default bound of `nu` grows with the dimension) and the two user-defined classes of the harness satisfy the
    hypotheses on the class table -/
theorem shipped_boundsOK (name : String)
    (hn : name ∈ ["Gaussian", "Exponential", "Stable", "Matern", "Integral", "Rational", "Cubic", "Linear",
      "Circular", "Spherical", "HyperSpherical", "TPLGaussian", "TPLExponential", "TPLStable", "UserFix2", "UserFix3"])
    (sp : ClassSpec F) (hs : specOf name = some sp) : SpecBoundsOK sp ∧ SpecNamesOK sp := by
  refine ⟨?_, all_specs_namesOK name sp hs⟩
  -- the default bounds that occur in these tables
  have hb : BndOrdered (alphaArg : OptArg F).bnd ∧ (∀ x : F, BndOrdered (tplHurst x).bnd) ∧
      BndOrdered (tplLenLow : OptArg F).bnd ∧ BndOrdered (bcc (0.2 : F) ((30 : Nat) : F)) ∧
      BndOrdered (⟨some zero, some fifty, false, true⟩ : Bnd F) ∧ BndOrdered (bcc (0.5 : F) fifty) := by
    simp only [BndOrdered, alphaArg, tplHurst, tplLenLow, bcc, zero_eq, one_eq, two_eq, fifty]
    norm_num
  obtain ⟨h1, h2, h3, h4, h5, h6⟩ := hb
  unfold specOf at hs
  split at hs
  all_goals cases hs
  -- the rows of SuperSpherical, JBessel, TPLSimple
  case h_12 | h_13 | h_17 => simp only [List.mem_cons, List.not_mem_nil, or_false, String.reduceEq] at hn
  all_goals
    refine ⟨fun _ _ => rfl, fun d => ?_⟩
    simp only [plainSpec, List.mem_cons, List.not_mem_nil, or_false, forall_eq_or_imp, forall_eq, IsEmpty.forall_iff,
      implies_true, h1, h2, h3, h4, h5, h6, and_self]

end field
/-! ## Witnesses on `ℚ` (the carrier the driver executes) -/

/-- a history with bounds operations of every kind and a raising call:
    `m = Exponential(dim=2); m.set_arg_bounds(nugget=[0, 1/2, "co"], var=[1/2, 4]); m.dim = 3; m.nugget = 1/4;
     m.len_scale_bounds = [1/8, inf, "oo"]; m.len_scale = [2, 4]; m.var = 5  # raises, 5 is stored (D13)`.
    The final values lie inside the DEFAULT bounds, the final state differs from its bounds-reset counterpart, the
    constructor reproduces that counterpart and `set_arg_bounds(check_args=False, **arg_bounds)` reproduces the state. -/
def boundsHistory : List (Op ℚ) :=
  [.setArgBounds true [("nugget", ⟨some 0, some (1 / 2), "co"⟩), ("var", ⟨some (1 / 2), some 4, ""⟩)],
   .setDim 3, .setNugget (1 / 4), .setBoundsProp "len_scale" ⟨some (1 / 8), none, "oo"⟩, .setLenScale [2, 4], .setVar 5]

def boundsWitness : Bool :=
  match construct expSpec expCfg with
  | .ok (s0, _) =>
    let s := runOps expSpec s0 boundsHistory
    decide (checkArgBounds expSpec (resetBounds expSpec s) = none) && decide (resetBounds expSpec s ≠ s) &&
    decide (var expSpec s = 5) && decide (checkArgBounds expSpec s ≠ none) &&
    (match construct expSpec (cfgOf expSpec s) with
      | .ok (s', _) => decide (s' = resetBounds expSpec s) &&
          decide ((step expSpec s' (.setArgBounds false (boundsArgs s))).st = s) &&
          decide ((step expSpec s' (.setArgBounds false (boundsArgs s))).err = none)
      | .error _ => false)
  | .error _ => false

theorem boundsWitness_true : boundsWitness = true := by decide +kernel

/-- the hypotheses of `path_independent_with_bounds` on the state (`h`, `hdef`, `hvf`) are satisfied by the history
    `boundsHistory`: a reachable state that carries non-default bounds, is even OUTSIDE its own bounds after the
    raising call, and is inside the default ones.  (`shipped_boundsOK` gives those on the class.) -/
example : ∃ s : State ℚ, Reach expSpec s ∧ checkArgBounds expSpec (resetBounds expSpec s) = none ∧
    resetBounds expSpec s ≠ s ∧ varFactor expSpec s ≠ 0 := by
  have h := boundsWitness_true
  unfold boundsWitness at h
  split at h
  · rename_i s0 w heq
    simp only [Bool.and_eq_true, decide_eq_true_eq] at h
    refine ⟨runOps expSpec s0 boundsHistory, reach_runOps (F := ℚ) boundsHistory (Reach.init heq), h.1.1.1.1, h.1.1.1.2, ?_⟩
    rw [varFactor_nontpl (F := ℚ) (sp := expSpec) rfl]
    exact one_ne_zero
  · cases h

/-- necessity of `hdef`: `m = Exponential(dim=2); m.set_arg_bounds(nugget=[-1, 1]); m.nugget = -1/2` is accepted and
    inside its bounds, but `Exponential(dim=2, nugget=-1/2)` is rejected by the constructor (replayed on the package) -/
def widenedWitness : Bool :=
  match construct expSpec expCfg with
  | .ok (s0, _) =>
    let r1 := step expSpec s0 (.setArgBounds true [("nugget", ⟨some (-1), some 1, ""⟩)])
    let r2 := step expSpec r1.st (.setNugget (-1 / 2))
    decide (r1.err = none) && decide (r2.err = none) && decide (checkArgBounds expSpec r2.st = none) &&
    (match construct expSpec (cfgOf expSpec r2.st) with
      | .error e => decide (e = .bound "nugget" 1)
      | .ok _ => false)
  | .error _ => false

theorem widenedWitness_true : widenedWitness = true := by decide +kernel

/-- **without `hdef` the statement is false**: a state reached by non-raising operations, inside its (widened) bounds,
    whose values no direct construction accepts -/
theorem not_path_independent_widened_bounds :
    ∃ s : State ℚ, ReachOkB expSpec s ∧ checkArgBounds expSpec s = none ∧
      ∀ s' w, construct expSpec (cfgOf expSpec s) ≠ .ok (s', w) := by
  have h := widenedWitness_true
  unfold widenedWitness at h
  split at h
  · rename_i s0 w heq
    simp only [Bool.and_eq_true, decide_eq_true_eq] at h
    obtain ⟨⟨⟨h1, h2⟩, h3⟩, h4⟩ := h
    refine ⟨_, ReachOkB.step (.setNugget (-1 / 2)) (ReachOkB.bounds _ (ReachOkB.init heq) h1) rfl
      (fun v hv => by cases hv) h2, h3, ?_⟩
    intro s' w' hc
    rw [hc] at h4
    cases h4
  · cases h

end GSV.Props.C14
