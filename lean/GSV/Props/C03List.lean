/-
  C03 — list-valued scale arguments, the half-integer Matern family, lags of either sign.  `len_scale` and `integral_scale`
  are documented as "float or list"; on the model (`setLenScaleList`, `setIntegralScaleList`, `axisScales`) a list is cut to
  the dimension, padded with its last value, and turned into a main scale and anisotropy ratios `x_k / x_0` that replace the
  stored ones.  `maternHalfCor p` (`nu = p + 1/2`) reduces to the three slices modelled separately and is `1` at lag `0` for
  every `p`.  Every derived function is even in the lag.
-/
import GSV.Props.C03
namespace GSV.Props.C03List
open GSV GSV.Transc GSV.Model.CovFn GSV.Props.C03 MeasureTheory Set

/-! ## per-axis scales -/

theorem padLast_length (n : ℕ) (l : ℝ) (xs : List ℝ) : (padLast n l xs).length = n := by
  fun_induction padLast n l xs <;> simp [*]

theorem padLast_take (n : ℕ) (l : ℝ) (xs : List ℝ) : padLast n l (xs.take n) = padLast n l xs := by
  fun_induction padLast n l xs <;> simp [padLast, *]

theorem axisScales_length (dim : ℕ) (hd : 1 ≤ dim) (x0 : ℝ) (rest : List ℝ) :
    (axisScales dim (x0 :: rest)).length = dim := by
  simp only [axisScales, List.length_cons, padLast_length]
  omega

/-- a short list is padded with its last value: `[a, b]` in 3-D is `[a, b, b]` -/
theorem axisScales_short (a b : ℝ) : axisScales 3 [a, b] = [a, b, b] := by
  simp [axisScales, padLast]

/-- a list longer than the dimension is cut: `[a, b, c]` in 2-D is `[a, b]` -/
theorem axisScales_long (a b c : ℝ) : axisScales 2 [a, b, c] = [a, b] := by
  simp [axisScales, padLast]

/-- `len_scale = [x0, x1, …]` on a model of dimension ≥ 2: `len_scale_vec` is the per-axis list -/
theorem list_len_scale_vec (st : MState ℝ) (hd : 2 ≤ st.dim) (x0 x1 : ℝ) (rest : List ℝ) (h0 : x0 ≠ 0) :
    lenScaleVec (setLenScaleList st (x0 :: x1 :: rest)) = axisScales st.dim (x0 :: x1 :: rest) := by
  obtain ⟨n, hn⟩ : ∃ n, st.dim = n + 2 := ⟨st.dim - 2, by omega⟩
  have htake : (x0 :: x1 :: rest).take st.dim = x0 :: x1 :: rest.take n := by simp [hn]
  simp only [setLenScaleList, htake, lenScaleVec, axisScales, List.map_map, Function.comp_def, mul_div_cancel₀ _ h0,
    List.map_id', show st.dim - 1 = n + 1 by omega, padLast]
  congr 2
  exact padLast_take n x1 rest

/-- `integral_scale = Is` first assigns `Is` to `len_scale` and then prescribes the new main length scale as the integral
    scale: in ANY admissible previous state the reported `integral_scale_vec` is the `len_scale_vec` of that assignment -/
theorem reportedISVec_setIntegralScaleList (ci : ℕ → ℝ → ℝ) (hpos : ∀ d a, 0 < ci d a) (st : MState ℝ)
    (hst : MAdmissible st) (Is : List ℝ) :
    reportedISVec ci (setIntegralScaleList ci st Is) = lenScaleVec (setLenScaleList st Is) := by
  have hr : (setLenScaleList st Is).par.rescale = st.par.rescale := by unfold setLenScaleList; split <;> rfl
  rw [setIntegralScaleList, reportedISVec, reportedIS_setIntegralScale ci hpos _ (hr ▸ hst.rescale.ne')]
  rfl

/-- `integral_scale = [I0, I1, …]` on a model of dimension ≥ 2, in ANY admissible previous state: the reported
    `integral_scale_vec` is the per-axis list -/
theorem list_integral_scale_vec (ci : ℕ → ℝ → ℝ) (hpos : ∀ d a, 0 < ci d a) (st : MState ℝ) (hst : MAdmissible st)
    (hd : 2 ≤ st.dim) (I0 I1 : ℝ) (rest : List ℝ) (h0 : I0 ≠ 0) :
    reportedISVec ci (setIntegralScaleList ci st (I0 :: I1 :: rest)) = axisScales st.dim (I0 :: I1 :: rest) := by
  rw [reportedISVec_setIntegralScaleList ci hpos st hst, list_len_scale_vec st hd I0 I1 rest h0]

/-- a one-element list (or a scalar) prescribes the main scale only: the stored anisotropy ratios stay -/
theorem single_value_keeps_anis (st : MState ℝ) (hd : 1 ≤ st.dim) (x : ℝ) :
    (setLenScaleList st [x]).anis = st.anis ∧ (setLenScaleList st [x]).par.lenScale = x := by
  obtain ⟨n, hn⟩ : ∃ n, st.dim = n + 1 := ⟨st.dim - 1, by omega⟩
  simp [setLenScaleList, hn]

/-- if the isotropic model with parameters `p` has integral scale `I0`, the one whose `len_scale` is multiplied by
    `I_k / I0` (the anisotropy ratio that `integral_scale = [I0, …, I_k, …]` stores for axis `k`) has integral scale `I_k` -/
theorem list_integral_scale_axis (c : ℝ → ℝ) (p : Par ℝ) (hl : 0 < p.lenScale) (hs : 0 < p.rescale) (I0 Ik : ℝ)
    (hI0 : 0 < I0) (hIk : 0 < Ik) (hrep : integralScale p (∫ h in Ioi (0:ℝ), c h) = I0) :
    (∫ r in Ioi (0:ℝ), (fromCor { p with lenScale := p.lenScale * (Ik / I0) } c).correlation r) = Ik := by
  rw [integral_scale_scaling { p with lenScale := p.lenScale * (Ik / I0) } c (mul_pos hl (div_pos hIk hI0)) hs]
  show p.lenScale * (Ik / I0) / p.rescale * _ = Ik
  rw [mul_div_right_comm, mul_right_comm, ← lenRescaled, ← integralScale, hrep, mul_div_cancel₀ _ hI0.ne']

example : MAdmissible ⟨⟨2, 3, 0.5, 1.5⟩, 3, 1.5, [0.5, 2]⟩ := ⟨by norm_num, by norm_num⟩
example : reportedISVec (fun _ _ => (2:ℝ)) (setIntegralScaleList (fun _ _ => (2:ℝ)) ⟨⟨2, 3, 0.5, 1.5⟩, 3, 1.5, [0.5, 2]⟩ [10, 5])
    = [10, 5, 5] := by
  rw [list_integral_scale_vec _ (fun _ _ => by norm_num) _ ⟨by norm_num, by norm_num⟩ (by norm_num) _ _ _ (by norm_num)]
  simp [axisScales, padLast]

/-! ## Matern at half-integer orders -/

theorem fact_eq_factorial (n : ℕ) : fact n = n.factorial := by
  induction n with
  | zero => rfl
  | succ n ih => simp [fact, Nat.factorial, ih]

/-- the coefficients leave the signed 64-bit range from `21!` on (so from `p = 11`, where `(2p)! = 22!` appears) -/
theorem fact_21_gt_int64 : 2 ^ 63 < fact 21 := by
  rw [fact_eq_factorial]; decide

theorem maternHalfSum_small (y : ℝ) :
    maternHalfSum 0 y = 1 ∧ maternHalfSum 1 y = y + 2 ∧ maternHalfSum 2 y = y ^ 2 + 6 * y + 12 := by
  have c : maternHalfCoef 0 0 = 1 ∧ maternHalfCoef 1 0 = 1 ∧ maternHalfCoef 1 1 = 2 ∧ maternHalfCoef 2 0 = 1 ∧
    maternHalfCoef 2 1 = 6 ∧ maternHalfCoef 2 2 = 12 := by decide
  simp only [maternHalfSum, List.range_succ, List.range_zero, List.nil_append, List.cons_append, List.foldl_cons,
    List.foldl_nil, c, Nat.cast_zero, Nat.cast_one, Nat.cast_ofNat, zero_mul, zero_add, one_mul]
  exact ⟨trivial, trivial, by ring⟩

theorem maternHalf_12 (h : ℝ) : maternHalfCor 0 h = matern12Cor h := by
  have e : ((2 * 0 + 1 : ℕ) : ℝ) / ((2 : ℕ) : ℝ) = 0.5 := by norm_num
  simp only [maternHalfCor, matern12Cor, (maternHalfSum_small _).1, e, show fact 0 = 1 from rfl,
    Nat.cast_one, div_one, mul_one, exp_real]

theorem maternHalf_32 (h : ℝ) : maternHalfCor 1 h = matern32Cor h := by
  have e : ((2 * 1 + 1 : ℕ) : ℝ) / 2 = 1.5 := by norm_num
  simp only [maternHalfCor, matern32Cor, (maternHalfSum_small _).2.1, e, show fact 1 = 1 from rfl, show fact (2 * 1) = 2 from rfl,
    Nat.cast_one, Nat.cast_ofNat, exp_real]
  ring

theorem maternHalf_52 (h : ℝ) : maternHalfCor 2 h = matern52Cor h := by
  have e : ((2 * 2 + 1 : ℕ) : ℝ) / 2 = 2.5 := by norm_num
  simp only [maternHalfCor, matern52Cor, (maternHalfSum_small _).2.2, e, show fact 2 = 2 from rfl, show fact (2 * 2) = 24 from rfl,
    Nat.cast_ofNat, exp_real, npow_real]
  ring

theorem maternHalfSum_zero (p : ℕ) : maternHalfSum p (0:ℝ) = ((maternHalfCoef p p : ℕ) : ℝ) := by
  simp only [maternHalfSum, List.range_succ, List.foldl_append, List.foldl_cons, List.foldl_nil]
  simp

theorem maternHalfCoef_self (p : ℕ) : maternHalfCoef p p * fact p = fact (2 * p) := by
  rw [maternHalfCoef, Nat.sub_self, two_mul, show fact 0 = 1 from rfl, mul_one]
  refine Nat.div_mul_cancel ?_
  rw [fact_eq_factorial, fact_eq_factorial]
  exact Nat.factorial_dvd_factorial (Nat.le_add_right p p)

/-- correlation 1 at lag 0 for EVERY half-integer order -/
theorem maternHalf_zero_lag (p : ℕ) : maternHalfCor p (0:ℝ) = 1 := by
  have h2p : ((fact (2 * p) : ℕ) : ℝ) ≠ 0 := by
    rw [fact_eq_factorial]; exact_mod_cast (Nat.factorial_pos _).ne'
  simp only [maternHalfCor, fabs_real, exp_real, abs_zero, mul_zero, neg_zero, Real.exp_zero, one_mul, maternHalfSum_zero]
  rw [div_mul_eq_mul_div, mul_comm, ← Nat.cast_mul, maternHalfCoef_self, div_self h2p]

/-! ## lags of either sign

A class that supplies `cor` (all shipped classes but the TPL family) gets `correlation_from_cor(r) = cor(|r| / len_rescaled)`:
the sign of the lag is removed BEFORE `cor` is evaluated, so every derived function is even, whatever `cor` does with a
negative argument (several shipped `cor` are written for `h ≥ 0` only).  The per-axis and nugget variants take `|r|`
themselves (axis ≥ 1) or hand the lag to the even isotropic function (axis 0). -/

/-- the functions derived from `cor` take the same value at `r` and `-r` -/
theorem fromCor_even (p : Par ℝ) (c : ℝ → ℝ) (r : ℝ) :
    (fromCor p c).correlation (-r) = (fromCor p c).correlation r ∧
    (fromCor p c).covariance (-r) = (fromCor p c).covariance r ∧
    (fromCor p c).variogram (-r) = (fromCor p c).variogram r := by
  simp [fromCor, correlationFromCor, dCovariance, dVariogram, fabs_real]

/-- the value at a negative lag is `cor` of a NON-NEGATIVE argument: `cor` is never asked about a negative lag -/
theorem fromCor_neg_lag (p : Par ℝ) (c : ℝ → ℝ) (hl : 0 < p.lenScale) (hs : 0 < p.rescale) (r : ℝ) :
    ∃ h, 0 ≤ h ∧ (fromCor p c).correlation r = c h ∧ (fromCor p c).correlation (-r) = c h := by
  refine ⟨|r| / lenRescaled p, div_nonneg (abs_nonneg r) (lenRescaled_pos hl hs).le, ?_, ?_⟩ <;>
    simp [fromCor, correlationFromCor, fabs_real]

theorem nugget_variants_even (p : Par ℝ) (F : Fns ℝ) (r : ℝ) :
    covNugget p F (-r) = covNugget p F r ∧ varioNugget F (-r) = varioNugget F r := by
  simp [covNugget, varioNugget, fabs_real]

theorem axis_lag_even (anis : List ℝ) (k : ℕ) (r : ℝ) : axisLag anis (k + 1) (-r) = axisLag anis (k + 1) r := by
  simp [axisLag, fabs_real]

/-- a user class given through `correlation`, `covariance` or `variogram` written in terms of `|r|` is even as well -/
theorem userFns_even (route : Route) (K : ℝ → ℝ) (p : Par ℝ) (r : ℝ) :
    (userFns route K p).correlation (-r) = (userFns route K p).correlation r ∧
    (userFns route K p).covariance (-r) = (userFns route K p).covariance r ∧
    (userFns route K p).variogram (-r) = (userFns route K p).variogram r := by
  cases route <;>
    simp only [userFns, fromCor, fromCorrelation, fromCovariance, fromVariogram, correlationFromCor, dCovariance,
      dVariogram, dCorrelation, fabs_real, abs_neg, and_self]

example : (fromCor exPar exponentialCor).correlation (-2) = (fromCor exPar exponentialCor).correlation 2 :=
  (fromCor_even exPar exponentialCor 2).1

end GSV.Props.C03List
