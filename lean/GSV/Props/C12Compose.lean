/-
  C12 — the change of coordinates composed with the concrete computations of `GSV/Model/Pipe.lean`: the kriging system
  of C05, the randomization and Fourier fields of `GSV.Model.Gen`, the conditioning formula of C07.  `Model.Pipe` is
  written like the code: every object isometrizes its positions and then runs a computation that knows neither angles
  nor ratios.  Hence each statement "model with `(angles, anis)` at `x` = isotropic unrotated model at `isometrize x`"
  below only needs that isometrizing once more with no angles and no ratios is the identity.  What is proved about the
  anisotropic model itself: the covariance entries are `cov_spatial` of the raw lags (`krige_entries_are_cov_spatial`),
  the mode sums run over the wave vectors `Mᵀ k` at the raw positions (second conjuncts of the `srf_*` theorems), the
  ensemble covariance depends on the isometrized lag (`srf_randmeth_cov_isometrized_lag`), and `C12Drift`.
-/
import GSV.Model.Pipe
import GSV.Model.Cond
import GSV.Props.C12
import GSV.Props.C05
import GSV.Props.C01
namespace GSV.Props.C12
open GSV GSV.Model.Geo GSV.Lemmas.Geo GSV.Model.Pipe GSV.Model.Krige GSV.Model.Gen GSV.Model.Cond Matrix

/-- isometrizing with the isotropic unrotated model changes nothing (on the `dim` coordinates that exist) -/
theorem toV_isoPos_iso_model (d : Nat) (pos : Nat → Nat → ℝ) (i : Nat) :
    toV d (colOf (isoPos d ([] : List ℝ) [] pos) i) = toV d (colOf pos i) :=
  isometrize_iso_model d (colOf pos i)

/-- Euclidean distance reads only the first `dim` coordinates -/
theorem dist_congr {d : Nat} {u u' v v' : Nat → ℝ} (hu : toV d u = toV d u') (hv : toV d v = toV d v') :
    Model.Geo.dist d u v = Model.Geo.dist d u' v' := by
  have h : ∀ a b : Nat → ℝ, toV d (fun k => a k - b k) = toV d a - toV d b := fun _ _ => rfl
  rw [Model.Geo.dist, Model.Geo.dist, norm2_eq, norm2_eq, h, h, hu, hv]

/-- every covariance entry of the kriging matrix and of the right-hand sides is the model's spatial covariance
    (`cov_spatial`) of the raw lag between the two points -/
theorem krige_entries_are_cov_spatial (cov : ℝ → ℝ) (d : Nat) (angles anis : List ℝ) (cpos tpos : Nat → Nat → ℝ)
    (i j p : Nat) :
    covBlock cov d angles anis cpos i j = covSpatial cov d angles anis (fun k => cpos k i - cpos k j) ∧
    rhsBlock cov d angles anis cpos tpos i p = covSpatial cov d angles anis (fun k => cpos k i - tpos k p) :=
  ⟨pipeline_cov cov d angles anis (colOf cpos i) (colOf cpos j),
   pipeline_cov cov d angles anis (colOf cpos i) (colOf tpos p)⟩

/-- the assembled kriging matrix of the model with `(angles, anis)` on the conditioning positions `cpos` equals the
    matrix the isotropic unrotated model assembles on `isometrize cpos` — every variant (layout), any measurement errors
    and drift values.  `krigeMatAt` takes the distances of the isometrized positions on either side; the step proved
    is that isometrizing with no angles and no ratios is the identity. -/
theorem krige_mat_aniso_eq_iso (L : Layout) (cov : ℝ → ℝ) (d : Nat) (angles anis : List ℝ) (cpos : Nat → Nat → ℝ)
    (err : Nat → ℝ) (F E : Nat → Nat → ℝ) :
    krigeMatAt L cov d angles anis cpos err F E
      = krigeMatAt L cov d ([] : List ℝ) [] (isoPos d angles anis cpos) err F E := by
  have h : covBlock cov d angles anis cpos = covBlock cov d ([] : List ℝ) [] (isoPos d angles anis cpos) :=
    funext fun i => funext fun j => congrArg cov
      (dist_congr (toV_isoPos_iso_model d _ i) (toV_isoPos_iso_model d _ j)).symm
  unfold krigeMatAt; rw [h]

/-- the right-hand sides of all targets (`cf` = `covariance` or the nugget-aware `cov_nugget`) of the model with
    `(angles, anis)` equal those the isotropic unrotated model assembles on the isometrized conditioning and target
    positions; as for the matrix, the step proved is that isometrizing with no angles and no ratios is the identity. -/
theorem krige_rhs_aniso_eq_iso (L : Layout) (cf : ℝ → ℝ) (d : Nat) (angles anis : List ℝ) (cpos tpos : Nat → Nat → ℝ)
    (f e : Nat → Nat → ℝ) :
    krigeRhsAt L cf d angles anis cpos tpos f e
      = krigeRhsAt L cf d ([] : List ℝ) [] (isoPos d angles anis cpos) (isoPos d angles anis tpos) f e := by
  have h : rhsBlock cf d angles anis cpos tpos
      = rhsBlock cf d ([] : List ℝ) [] (isoPos d angles anis cpos) (isoPos d angles anis tpos) :=
    funext fun i => funext fun p => congrArg cf
      (dist_congr (toV_isoPos_iso_model d _ i) (toV_isoPos_iso_model d _ p)).symm
  unfold krigeRhsAt; rw [h]

/-- the Krige object of a model with `(angles, anis)` on conditioning positions
    `cpos` — stored inverse `M` of its assembled matrix, chunk size `cs`, schedule `sched` — evaluated at targets
    `tpos`, and the Krige object of the ISOTROPIC UNROTATED model on `isometrize cpos` — its own stored inverse `M'`,
    chunk size `cs'`, schedule `sched'` — evaluated at `isometrize tpos`, return the same raw estimate and the same
    kriging variance at every target.  Every dimension, every angle and anisotropy list, every kriging variant.
    (The two systems coincide by `krige_mat_aniso_eq_iso` / `krige_rhs_aniso_eq_iso`; the rest is that the result does
    not depend on which inverse is stored, on the chunk size or on the schedule.) -/
theorem krige_aniso_eq_iso (sched sched' : Sched) (hs : sched.Admissible) (hs' : sched'.Admissible)
    (L : Layout) (cov cf : ℝ → ℝ) (d : Nat) (angles anis : List ℝ) (cpos tpos : Nat → Nat → ℝ)
    (err : Nat → ℝ) (F E f e : Nat → Nat → ℝ) (M M' : Nat → Nat → ℝ)
    (hM : C05.toMat L.size M * C05.toMat L.size (krigeMatAt L cov d angles anis cpos err F E) = 1)
    (hM' : C05.toMat L.size M' *
      C05.toMat L.size (krigeMatAt L cov d ([] : List ℝ) [] (isoPos d angles anis cpos) err F E) = 1)
    (cond : Nat → ℝ) (sill : ℝ) (pnt cs cs' : Nat) (hcs : 0 < cs) (hcs' : 0 < cs') (p : Nat) (hp : p < pnt) :
    (krigeAt sched L cf d angles anis cpos tpos f e M cond sill pnt cs).1 p =
      (krigeAt sched' L cf d ([] : List ℝ) [] (isoPos d angles anis cpos) (isoPos d angles anis tpos) f e M' cond sill pnt cs').1 p ∧
    (krigeAt sched L cf d angles anis cpos tpos f e M cond sill pnt cs).2 p =
      (krigeAt sched' L cf d ([] : List ℝ) [] (isoPos d angles anis cpos) (isoPos d angles anis tpos) f e M' cond sill pnt cs').2 p := by
  rw [krige_mat_aniso_eq_iso] at hM
  -- two left inverses of the same matrix coincide
  have hMM : C05.toMat L.size M = C05.toMat L.size M' := left_inv_eq_right_inv hM (mul_eq_one_comm.mp hM')
  unfold krigeAt
  rw [C05.krigeCall_field sched hs _ _ _ _ _ _ _ _ hcs hp, C05.krigeCall_field sched' hs' _ _ _ _ _ _ _ _ hcs' hp,
    C05.krigeCall_var sched hs _ _ _ _ _ _ _ _ hcs hp, C05.krigeCall_var sched' hs' _ _ _ _ _ _ _ _ hcs' hp,
    C05.field_eq_bilinear, C05.field_eq_bilinear, C05.err_eq_quadratic, C05.err_eq_quadratic,
    krige_rhs_aniso_eq_iso, hMM]
  exact ⟨rfl, rfl⟩

/-- the raw estimate is `Σ wᵢ zᵢ` with `w` THE solution of the kriging system whose covariance entries are
    `cov_spatial` of the raw lags (composition with `C05.solves_system`) -/
theorem krige_aniso_solves_cov_spatial_system (sched : Sched) (hs : sched.Admissible)
    (L : Layout) (cov cf : ℝ → ℝ) (d : Nat) (angles anis : List ℝ) (cpos tpos : Nat → Nat → ℝ)
    (err : Nat → ℝ) (F E f e : Nat → Nat → ℝ) (M : Nat → Nat → ℝ)
    (hM : C05.toMat L.size M * C05.toMat L.size (krigeMatAt L cov d angles anis cpos err F E) = 1)
    (cond : Nat → ℝ) (sill : ℝ) (pnt cs : Nat) (hcs : 0 < cs) (p : Nat) (hp : p < pnt) :
    ∃ w : Fin L.size → ℝ,
      C05.toMat L.size (krigeMatAt L cov d angles anis cpos err F E) *ᵥ w
        = C05.col L.size (krigeRhsAt L cf d angles anis cpos tpos f e) p ∧
      (∀ w', C05.toMat L.size (krigeMatAt L cov d angles anis cpos err F E) *ᵥ w'
        = C05.col L.size (krigeRhsAt L cf d angles anis cpos tpos f e) p → w' = w) ∧
      (krigeAt sched L cf d angles anis cpos tpos f e M cond sill pnt cs).1 p = ∑ i, w i * C05.toVec L.size cond i := by
  obtain ⟨h1, h2, h3, _⟩ := C05.solves_system _ _ (C05.toVec L.size cond)
    (C05.col L.size (krigeRhsAt L cf d angles anis cpos tpos f e) p) hM
  refine ⟨_, h1, h2, ?_⟩
  unfold krigeAt
  rw [C05.krigeCall_field sched hs _ _ _ _ _ _ _ _ hcs hp, C05.field_eq_bilinear, h3]

/-- the fields see wave vectors and positions only through the phases `⟨k_j, x_i⟩` -/
theorem randmethField_congr_phase {z1 z2 : Nat → ℝ} {var : ℝ} {k k' x x' : Nat → Nat → ℝ} {dim N X i : Nat}
    (h : ∀ j, phaseOf k x dim j i = phaseOf k' x' dim j i) :
    randmethField var k z1 z2 x dim N X i = randmethField var k' z1 z2 x' dim N X i := by
  unfold randmethField
  rw [summate_spec _ sched_id_admissible, summate_spec _ sched_id_admissible]
  split
  · exact congrArg _ (forRange_congr _ _ _ _ (fun j _ _ acc => by rw [h j]) _)
  · rfl

theorem fourierField_congr_phase {z1 z2 : Nat → ℝ} {sf : Nat → ℝ} {k k' x x' : Nat → Nat → ℝ} {dim N X i : Nat}
    (h : ∀ j, phaseOf k x dim j i = phaseOf k' x' dim j i) :
    fourierField sf k z1 z2 x dim N X i = fourierField sf k' z1 z2 x' dim N X i := by
  unfold fourierField
  rw [summate_fourier_spec _ sched_id_admissible, summate_fourier_spec _ sched_id_admissible]
  split
  · exact forRange_congr _ _ _ _ (fun j _ _ acc => by rw [h j]) _
  · rfl

/-- the kernel's phases do not change when the positions are isometrized once more with no angles and no ratios
    (`phaseOf` of mode `j` at point `i` is the model's `phase` of the two vectors, definitionally) -/
theorem phaseOf_isoPos_iso_model (k pos : Nat → Nat → ℝ) (d j i : Nat) :
    phaseOf k (isoPos d ([] : List ℝ) [] pos) d j i = phaseOf k pos d j i := by
  show Model.Geo.phase d (fun e => k e j) (colOf (isoPos d ([] : List ℝ) [] pos) i)
    = Model.Geo.phase d (fun e => k e j) (colOf pos i)
  rw [phase_eq, phase_eq, toV_isoPos_iso_model]

/-- `k·(M x) = (Mᵀ k)·x` on the kernel's own accumulation -/
theorem phaseOf_isoPos_transformed (k pos : Nat → Nat → ℝ) (d : Nat) (angles anis : List ℝ) (j i : Nat) :
    phaseOf k (isoPos d angles anis pos) d j i = phaseOf (modesT d angles anis k) pos d j i :=
  pipeline_modes d angles anis (fun e => k e j) (colOf pos i)

/-- randomization method: the field `SRF(model(angles, anis))(x)` (wave vectors `k`, amplitudes `z1 z2`, i.e. any
    seed) equals the field of the isotropic unrotated model at `isometrize x` (`srfRandmeth` isometrizes first; proved is
    that isometrizing again with no angles and no ratios is the identity), and it equals the same mode sum at the raw
    positions with the wave vectors `Mᵀ k_j`, `M = matrix_isometrize` — every dimension, every point, every mode set. -/
theorem srf_randmeth_aniso_eq_iso (var : ℝ) (k : Nat → Nat → ℝ) (z1 z2 : Nat → ℝ) (d : Nat) (angles anis : List ℝ)
    (pos : Nat → Nat → ℝ) (N X i : Nat) :
    srfRandmeth var k z1 z2 d angles anis pos N X i
      = srfRandmeth var k z1 z2 d ([] : List ℝ) [] (isoPos d angles anis pos) N X i ∧
    srfRandmeth var k z1 z2 d angles anis pos N X i
      = randmethField var (modesT d angles anis k) z1 z2 pos d N X i := by
  unfold srfRandmeth
  exact ⟨(randmethField_congr_phase fun j => phaseOf_isoPos_iso_model k (isoPos d angles anis pos) d j i).symm,
    randmethField_congr_phase fun j => phaseOf_isoPos_transformed k pos d angles anis j i⟩

/-- Fourier method (spectrum factors `sf`, mode lattice `modes`): the field of the model with `(angles, anis)` at `x`
    equals the field of the isotropic unrotated model at `isometrize x` (again the identity of isometrizing with no
    angles and no ratios), and it equals the mode sum at the raw positions over the lattice points `Mᵀ k_j`. -/
theorem srf_fourier_aniso_eq_iso (sf : Nat → ℝ) (modes : Nat → Nat → ℝ) (z1 z2 : Nat → ℝ) (d : Nat) (angles anis : List ℝ)
    (pos : Nat → Nat → ℝ) (N X i : Nat) :
    srfFourier sf modes z1 z2 d angles anis pos N X i
      = srfFourier sf modes z1 z2 d ([] : List ℝ) [] (isoPos d angles anis pos) N X i ∧
    srfFourier sf modes z1 z2 d angles anis pos N X i
      = fourierField sf (modesT d angles anis modes) z1 z2 pos d N X i := by
  unfold srfFourier
  exact ⟨(fourierField_congr_phase fun j => phaseOf_isoPos_iso_model modes (isoPos d angles anis pos) d j i).symm,
    fourierField_congr_phase fun j => phaseOf_isoPos_transformed modes pos d angles anis j i⟩

/-- the ensemble covariance of the anisotropic rotated randomization field between two raw points depends on them
    through the isometrized lag only: `E[u(x_a) u(x_b)] = (var/N) Σ_j cos⟨k_j, M(x_a − x_b)⟩`
    (composition with `C01.cov_given_modes`; amplitudes with identity second moments, any wave vectors) -/
theorem srf_randmeth_cov_isometrized_lag {Ω : Type} [MeasurableSpace Ω] (μ : MeasureTheory.Measure Ω)
    (var : ℝ) (hv : 0 ≤ var) (k : Nat → Nat → ℝ) (d : Nat) (angles anis : List ℝ) (pos : Nat → Nat → ℝ)
    (N X a b : Nat) (ha : a < X) (hb : b < X) (z1 z2 : Nat → Ω → ℝ)
    (hint : ∀ i < N + N, ∀ j < N + N, MeasureTheory.Integrable (fun ω => C01.amp N z1 z2 i ω * C01.amp N z1 z2 j ω) μ)
    (horth : ∀ i < N + N, ∀ j < N + N, ∫ ω, C01.amp N z1 z2 i ω * C01.amp N z1 z2 j ω ∂μ = if i = j then 1 else 0) :
    ∫ ω, srfRandmeth var k (fun j => z1 j ω) (fun j => z2 j ω) d angles anis pos N X a *
         srfRandmeth var k (fun j => z1 j ω) (fun j => z2 j ω) d angles anis pos N X b ∂μ =
      var / N * ∑ j ∈ Finset.range N,
        Real.cos (Model.Geo.phase d (fun e => k e j) (isometrize d angles anis (fun e => pos e a - pos e b))) := by
  unfold srfRandmeth
  simp only [C01.randmeth_linear _ _ _ _ _ _ _ _ _ ha, C01.randmeth_linear _ _ _ _ _ _ _ _ _ hb]
  rw [C01.cov_given_modes μ var hv k d N _ _ z1 z2 hint horth]
  congr 1
  refine Finset.sum_congr rfl fun j _ => ?_
  -- the lag of the isometrized points is the isometrized lag, on the `d` coordinates the phase reads
  rw [phase_eq, isometrize_sub]
  exact congrArg Real.cos (Fin.sum_univ_eq_sum_range
    (fun e => k e j * (isoPos d angles anis pos e a - isoPos d angles anis pos e b)) d).symm

/-- CondSRF: the conditioned value (kriging estimate + scaled unconditional randomization
    field + scaled nugget noise) of the model with `(angles, anis)` at `x` equals the conditioned value computed with the
    isotropic unrotated model on the transformed conditioning and target positions (own inverse, chunk size, schedule);
    a combination of `krige_aniso_eq_iso` and the first part of `srf_randmeth_aniso_eq_iso`. -/
theorem condsrf_aniso_eq_iso (sched sched' : Sched) (hs : sched.Admissible) (hs' : sched'.Admissible)
    (L : Layout) (cov cf : ℝ → ℝ) (d : Nat) (angles anis : List ℝ) (cpos tpos : Nat → Nat → ℝ)
    (err : Nat → ℝ) (F E f e : Nat → Nat → ℝ) (M M' : Nat → Nat → ℝ)
    (hM : C05.toMat L.size M * C05.toMat L.size (krigeMatAt L cov d angles anis cpos err F E) = 1)
    (hM' : C05.toMat L.size M' *
      C05.toMat L.size (krigeMatAt L cov d ([] : List ℝ) [] (isoPos d angles anis cpos) err F E) = 1)
    (cond : Nat → ℝ) (sill : ℝ) (pnt cs cs' : Nat) (hcs : 0 < cs) (hcs' : 0 < cs') (p : Nat) (hp : p < pnt)
    (var nugget noise : ℝ) (k : Nat → Nat → ℝ) (z1 z2 : Nat → ℝ) (N : Nat) :
    condValue ((krigeAt sched L cf d angles anis cpos tpos f e M cond sill pnt cs).1 p)
        ((krigeAt sched L cf d angles anis cpos tpos f e M cond sill pnt cs).2 p)
        (srfRandmeth var k z1 z2 d angles anis tpos N pnt p) var nugget noise =
      condValue
        ((krigeAt sched' L cf d ([] : List ℝ) [] (isoPos d angles anis cpos) (isoPos d angles anis tpos) f e M' cond sill pnt cs').1 p)
        ((krigeAt sched' L cf d ([] : List ℝ) [] (isoPos d angles anis cpos) (isoPos d angles anis tpos) f e M' cond sill pnt cs').2 p)
        (srfRandmeth var k z1 z2 d ([] : List ℝ) [] (isoPos d angles anis tpos) N pnt p) var nugget noise := by
  obtain ⟨h1, h2⟩ := krige_aniso_eq_iso sched sched' hs hs' L cov cf d angles anis cpos tpos err F E f e M M' hM hM'
    cond sill pnt cs cs' hcs hcs' p hp
  rw [h1, h2, (srf_randmeth_aniso_eq_iso var k z1 z2 d angles anis tpos N pnt p).1]

/-- a 2-D model rotated by `0.3` with anisotropy `1/2`, one conditioning point, simple kriging, covariance `exp(−r)`:
    the assembled matrix is `[1]` for both objects, inverted by `M = M' = [1]` -/
example : ∃ (L : Layout) (cov : ℝ → ℝ) (angles anis : List ℝ) (cpos : Nat → Nat → ℝ) (M : Nat → Nat → ℝ),
    0 < L.n ∧ angles ≠ [] ∧ anis ≠ [] ∧
    C05.toMat L.size M * C05.toMat L.size (krigeMatAt L cov 2 angles anis cpos (fun _ => 0) (fun _ _ => 0) (fun _ _ => 0)) = 1 ∧
    C05.toMat L.size M *
      C05.toMat L.size (krigeMatAt L cov 2 ([] : List ℝ) [] (isoPos 2 angles anis cpos) (fun _ => 0) (fun _ _ => 0) (fun _ _ => 0)) = 1 := by
  refine ⟨⟨1, false, 0, 0⟩, fun r => Real.exp (-r), [0.3], [1/2], fun d _ => if d = 0 then 3 else 7, fun _ _ => 1,
    by decide, by simp, by simp, ?_⟩
  rw [← krige_mat_aniso_eq_iso, and_self]
  show C05.toMat 1 _ * C05.toMat 1 _ = 1
  ext i j
  fin_cases i; fin_cases j
  simp [C05.toMat, krigeMatAt, assembleK, covBlock, distCC, Model.Geo.dist, norm2_eq, Matrix.mul_apply]

end GSV.Props.C12
