/-
  C20 — Operations never modify caller arrays or previously stored results.

  Statements are about the heap model of GSV/Model/Heap.lean (buffers, views, in-place writes, the data flow of every
  public entry point that reaches an in-place operator).  They are law-free, so they hold verbatim for the definitions
  the driver executes.  The ownership analysis is sound for every program and every heap (straight-line: `safe_sound`;
  with branches and loops, the form the static scan applies to the data flow it extracts from the python source:
  `structured_safe_sound`), and it accepts every modelled entry point in every configuration; the statements about
  caller arrays, stored fields and histories of calls follow from these two facts.  The `*_old_*` theorems are witnesses:
  the data flow the code had before the repairs (D2 84a0bfc, D3 da1c68c, axis mask 7b774f4, anis 9340584) is rejected by
  the analysis and really writes a caller buffer.
-/
import GSV.Lemmas.Heap
namespace GSV.Props.C20
open GSV.Model.Heap

/-! ### the generic theorem -/

/-- Soundness.  For every program `p` the analysis accepts and every heap `σ`: each buffer id that
    existed before the run (`b < σ.next`) keeps its contents, no such id is added to the write log, and `next`
    does not decrease. -/
theorem safe_sound (p : List Op) (hp : safe p = true) (σ : St) :
    (∀ b, b < σ.next → (run σ p).ver b = σ.ver b) ∧
    (∀ b, b ∈ (run σ p).written → b ∈ σ.written ∨ σ.next ≤ b) ∧ σ.next ≤ (run σ p).next :=
  have h := safe_frame hp σ
  ⟨h.ver, h.written, h.next_le⟩

/-- whatever the heap, the id handed out by an allocation is different from every id that existed -/
theorem fresh_not_preexisting (σ : St) (x : Var) (m : Bool) (b : BufId)
    (hb : b ∈ (get (σ.alloc x m).env x).all) : σ.next ≤ b :=
  ((binds_alloc σ x m []).get_dst hb).elim (fun h => nomatch h) fun h => h.1

-- the hypothesis of `safe_sound` is satisfiable by a program that does write (into its own copy)
example : safe [.asarray V.f V.field, .copy V.f V.f, .setItem V.f, .ret V.f] = true := by decide
-- and is not satisfied by the same program without the copy
example : safe [.asarray V.f V.field, .setItem V.f, .ret V.f] = false := by decide

/-! ### structured programs (what the static scan extracts from the python source) -/

/-- Soundness with branches and loops.  If the ownership analysis accepts a structured program starting
    from no owned variable, then EVERY execution (any choice of branches, any number of loop iterations)
    from ANY heap leaves every pre-existing buffer unwritten and unchanged. -/
theorem structured_safe_sound (b : List Stmt) (hb : safeB [] b = true) (σ σ' : St) (he : ExecL b σ σ') :
    (∀ i, i < σ.next → σ'.ver i = σ.ver i) ∧ (∀ i, i ∈ σ'.written → i ∈ σ.written ∨ σ.next ≤ i) :=
  have h := safeB_sound hb (owned_nil σ) he
  ⟨h.ver, h.written⟩

/-- the conditional form used for internal helpers that write into a parameter (`Krige._summate`): accepted
    when the listed parameters are owned ⇒ harmless whenever the caller passes arrays it allocated itself -/
theorem structured_safe_sound_params (A0 : List Var) (b : List Stmt) (hb : safeB A0 b = true) (n0 : Nat) (σ σ' : St)
    (hn : n0 ≤ σ.next) (hA : ∀ x, x ∈ A0 → ∀ i, i ∈ (get σ.env x).all → n0 ≤ i) (he : ExecL b σ σ') :
    ∀ i, i < n0 → σ'.ver i = σ.ver i :=
  (safeB_sound hb ⟨hn, hA⟩ he).ver

-- a loop that keeps writing into its own accumulator is accepted; the same loop on an argument is not
example : safeB [] [.op (.fresh V.res), .loop [.op (.view V.tmp V.res true), .op (.setItem V.tmp)],
    .ite [.op (.ret V.res)] [.op (.asarray V.f V.field)]] = true := by decide
example : safeB [] [.op (.asarray V.res V.field), .loop [.op (.view V.tmp V.res true), .op (.setItem V.tmp)]] = false := by
  decide
-- a variable that is owned on one branch only is not owned after the join
example : safeB [] [.ite [.op (.fresh V.f)] [.op (.asarray V.f V.field)], .op (.setItem V.f)] = false := by decide
-- that program has an execution that writes the caller's buffer
example : ∃ σ σ' : St, ExecL [.ite [.op (.fresh V.f)] [.op (.asarray V.f V.field)], .op (.setItem V.f)] σ σ' ∧
    σ'.ver 0 ≠ σ.ver 0 ∧ 0 < σ.next :=
  ⟨{ next := 1, env := [(V.field, Obj.arr 0)], attrs := [], rets := [], written := [], ver := fun _ => 0 }, _,
   .cons (.iteR (.cons (.op _ _) .nil)) (.cons (.op _ _) .nil), by decide, by decide⟩

/-! ### every modelled entry point, every configuration -/

/-- the ownership analysis accepts every modelled entry point under every aliasing-enabling configuration -/
theorem all_entry_points_safe (ep : EP) (c : Cfg) : safe (prog ep c) = true := by
  -- each entry point is a fixed program in a few boolean flags: the kernel evaluates the analysis on all of them
  cases ep
  · exact (by decide +kernel : ∀ a b, safe (pApplyMNT a b) = true) _ _
  · exact (by decide +kernel : ∀ a b, safe (pRemoveTNM a b) = true) _ _
  · exact (by decide +kernel : safe pNormCall = true)
  · exact (by decide +kernel : safe pNormFit = true)
  · exact (by decide +kernel : ∀ a b c d, safe (pFieldCall a b c d) = true) _ _ _ _
  · exact (by decide +kernel : ∀ a b c d, safe (pSrfCall a b c d) = true) _ _ _ _
  · exact (by decide +kernel : ∀ a b c d e, safe (pCondSrf a b c d e) = true) _ _ _ _ _
  · exact (by decide +kernel : ∀ a b c d e, safe (pKrigeCall a b c d e) = true) _ _ _ _ _
  · exact (by decide +kernel : ∀ a b c d, safe (pKrigeSetCond a b c d) = true) _ _ _ _
  · have hv : ∀ b a c d e f g h i, safe (pVarioEstimate a b c d e f g h i) = true := by
      intro b
      cases b
      · decide +kernel
      · -- a fully masked field returns at once: the branch taken reads no flag but `binsGiven`
        intro a c d e f g h i
        unfold pVarioEstimate
        rw [if_pos rfl]
        revert a
        decide +kernel
    exact hv ..
  · exact (by decide +kernel : ∀ a b, safe (pVarioAxis a b) = true) _ _
  · exact (by decide +kernel : ∀ a b, safe (pStandardBins a b) = true) _ _
  · exact (by decide +kernel : ∀ a b c, safe (pFitVariogram a b c) = true) _ _ _
  · exact (by decide +kernel : ∀ a b c d, safe (pTransform a b c d) = true) _ _ _ _
  · exact (by decide +kernel : safe pPureFn = true)
  · exact (by decide +kernel : ∀ a b, safe (pCovModelInit a b) = true) _ _

/-- For every entry point, every configuration and every heap `σ`, no buffer id below `σ.next` is written or
    changed by the call.  In a well-formed heap (`WF`) these ids cover every array the caller passes (any
    dtype/layout flags, any aliasing between the arguments) and everything stored in attributes:
    `reachable_unchanged`. -/
theorem no_caller_write (ep : EP) (c : Cfg) (σ : St) :
    (∀ b, b < σ.next → (run σ (prog ep c)).ver b = σ.ver b) ∧
    (∀ b, b ∈ (run σ (prog ep c)).written → b ∈ σ.written ∨ σ.next ≤ b) :=
  have h := safe_sound _ (all_entry_points_safe ep c) σ
  ⟨h.1, h.2.1⟩

/-- an argument (or any other variable) the caller holds, all of whose buffers exist (ids below `σ.next`),
    has the same contents after the call, data and mask alike -/
theorem caller_object_unchanged (ep : EP) (c : Cfg) (σ : St) (x : Var)
    (hwf : ∀ b, b ∈ (get σ.env x).all → b < σ.next) :
    ∀ b, b ∈ (get σ.env x).all → (run σ (prog ep c)).ver b = σ.ver b :=
  fun b hb => (no_caller_write ep c σ).1 b (hwf b hb)

-- non-trivial instance: `field` and `pos` are the SAME float64 buffer, a stored field shares it too
example : let σ : St := { next := 3, env := [(V.field, Obj.arr 0), (V.pos, Obj.arr 0), (V.bins, Obj.arr 1)],
                          attrs := [(N.field, Obj.arr 0), (N.rawField, Obj.marr 1 2)], rets := [], written := [],
                          ver := fun _ => 0 }
    ((run σ (prog .fieldCall { fieldGiven := true, process := true, save := true })).written.filter (· < 3) = [])
    ∧ (run σ (prog .fieldCall { fieldGiven := true, process := true, save := true })).written ≠ [] := by
  decide +kernel

/-- what comes out of a call references only buffers that exist: the returned arrays, the stored fields and
    the variables are well formed again (everything reachable has an id below `next`) -/
theorem outputs_well_formed (ep : EP) (c : Cfg) (σ : St) (h : WF σ) : WF (run σ (prog ep c)) := run_wf _ h

/-- In a well-formed heap every array the caller can reach — through an argument,
    through an attribute (stored field, condition, …) or through an earlier return value — has the same
    contents after the call. -/
theorem reachable_unchanged (ep : EP) (c : Cfg) (σ : St) (h : WF σ) :
    (∀ x b, b ∈ (get σ.env x).all → (run σ (prog ep c)).ver b = σ.ver b) ∧
    (∀ n b, b ∈ (get σ.attrs n).all → (run σ (prog ep c)).ver b = σ.ver b) ∧
    (∀ o, o ∈ σ.rets → ∀ b, b ∈ o.all → (run σ (prog ep c)).ver b = σ.ver b) :=
  have hw := (no_caller_write ep c σ).1
  ⟨fun x b hb => hw b (h.env x b hb), fun n b hb => hw b (h.attrs n b hb), fun o ho b hb => hw b (h.rets o ho b hb)⟩

/-- `reachable_unchanged` is not vacuous: aliasing is real in the model.  `Field.__call__(pos, field=a, post_process=False)`
    hands the caller's own buffer back and stores it — and with `post_process=True` (mean, normalizer, trend)
    it does in-place arithmetic, in its own copy -/
theorem fieldCall_aliases_without_writing :
    ∃ σ : St, WF σ ∧ (get σ.env V.field).bufs = [0] ∧
      (let σ' := run σ (prog .fieldCall { fieldGiven := true, save := true })
       σ'.rets.map (·.bufs) = [[0]] ∧ (get σ'.attrs N.field).bufs = [0] ∧ σ'.written = []) ∧
      (let σ' := run σ (prog .fieldCall { fieldGiven := true, save := true, process := true })
       σ'.written ≠ [] ∧ (∀ b, b ∈ σ'.written → 2 ≤ b) ∧ σ'.rets.map (·.bufs) ≠ [[0]]) :=
  ⟨{ next := 2, env := [(V.field, Obj.arr 0), (V.pos, Obj.arr 1)], attrs := [], rets := [], written := [],
     ver := fun _ => 0 },
   wf_of_forall (by decide) (by decide) (by decide), rfl, by decide +kernel, by decide +kernel⟩

/-! ### stored results -/

/-- Running an entry point rebinds only the attribute names it stores under: any
    other name still refers to the same object, and that object's buffers have the same contents. -/
theorem store_new_name_keeps_old (ep : EP) (c : Cfg) (σ : St) (n : Name)
    (hn : n ∉ storesOf (prog ep c)) (hwf : ∀ b, b ∈ (get σ.attrs n).all → b < σ.next) :
    get (run σ (prog ep c)).attrs n = get σ.attrs n ∧
    ∀ b, b ∈ (get σ.attrs n).all → (run σ (prog ep c)).ver b = σ.ver b :=
  ⟨run_attrs_other _ σ n hn, fun b hb => (no_caller_write ep c σ).1 b (hwf b hb)⟩

/-- under any name `n`, also one the call stores under again (`store=True`): the array that was stored there
    before (and that the caller may still hold) keeps its contents -/
theorem restore_keeps_old_array (ep : EP) (c : Cfg) (σ : St) (n : Name)
    (hwf : ∀ b, b ∈ (get σ.attrs n).all → b < σ.next) :
    ∀ b, b ∈ (get σ.attrs n).all → (run σ (prog ep c)).ver b = σ.ver b :=
  fun b hb => (no_caller_write ep c σ).1 b (hwf b hb)

/-- `fld.transform(..., store="new")`, `fld(pos, field=…, store="new")`, `srf(pos, store="new")` do not
    store under "field", in any configuration -/
theorem new_name_does_not_touch_field (c : Cfg) (h : c.storeNew = true) :
    N.field ∉ storesOf (prog .transform c) ∧ N.field ∉ storesOf (prog .fieldCall c) ∧
    N.field ∉ storesOf (prog .srfCall c) := by
  have h1 : ∀ a b d, N.field ∉ storesOf (pTransform a b true d) := by decide +kernel
  have h2 : ∀ a b d, N.field ∉ storesOf (pFieldCall a true b d) := by decide +kernel
  have h3 : ∀ a b d, N.field ∉ storesOf (pSrfCall a true b d) := by decide +kernel
  simp only [prog, h]
  exact ⟨h1 _ _ _, h2 _ _ _, h3 _ _ _⟩

/-- the field stored under "field" survives a transform stored under a new name: same object, same contents -/
theorem transform_new_name_keeps_field (c : Cfg) (h : c.storeNew = true) (σ : St)
    (hwf : ∀ b, b ∈ (get σ.attrs N.field).all → b < σ.next) :
    get (run σ (prog .transform c)).attrs N.field = get σ.attrs N.field ∧
    ∀ b, b ∈ (get σ.attrs N.field).all → (run σ (prog .transform c)).ver b = σ.ver b :=
  store_new_name_keeps_old .transform c σ N.field (new_name_does_not_touch_field c h).1 hwf

-- the hypotheses are met by a heap holding a stored field; and the new name really is created
example : let σ : St := { next := 1, env := [], attrs := [(N.field, Obj.arr 0)], rets := [], written := [],
                          ver := fun _ => 7 }
    let σ' := run σ (prog .transform { storeNew := true, save := true, process := true })
    get σ'.attrs N.field = Obj.arr 0 ∧ (get σ'.attrs N.new).bufs ≠ [0] ∧ (get σ'.attrs N.new).bufs ≠ [] := by
  decide +kernel

/-! ### histories -/

/-- Any sequence of modelled entry points in any configurations, the caller re-binding the arguments to
    anything before each call: every buffer id below `σ.next` (in a well-formed heap: all caller arrays and
    earlier results) has the same contents at the end. -/
theorem history_no_write (args : St → List (Var × Obj)) (calls : List (EP × Cfg)) (σ : St) :
    (∀ b, b < σ.next → (runCalls args σ (calls.map fun ec => prog ec.1 ec.2)).ver b = σ.ver b) ∧
    (∀ b, b ∈ (runCalls args σ (calls.map fun ec => prog ec.1 ec.2)).written → b ∈ σ.written ∨ σ.next ≤ b) := by
  have h := runCalls_frame args (calls.map fun ec => prog ec.1 ec.2) σ
    (List.forall_mem_map.mpr fun ec _ => all_entry_points_safe ec.1 ec.2)
  exact ⟨h.ver, h.written⟩

/-- results produced (returned or stored) by an earlier part of a history are not altered by the rest -/
theorem earlier_results_survive (args : St → List (Var × Obj)) (before after : List (EP × Cfg)) (σ : St) :
    let σ₁ := runCalls args σ (before.map fun ec => prog ec.1 ec.2)
    ∀ b, b < σ₁.next →
      (runCalls args σ ((before ++ after).map fun ec => prog ec.1 ec.2)).ver b = σ₁.ver b := by
  intro σ₁ b hb
  rw [List.map_append, runCalls_append]
  exact (history_no_write args after σ₁).1 b hb

/-! ### regression witnesses: the data flow before the repairs -/

/-- D3 (before da1c68c): `Field.__call__(pos, field=a)` with a mean wrote into `a` -/
theorem fieldCall_old_writes_caller :
    safe (progOld .fieldCall { fieldGiven := true, process := true }) = false ∧
    ∃ σ : St, ∃ b, b < σ.next ∧ b ∈ (get σ.env V.field).all ∧
      (run σ (progOld .fieldCall { fieldGiven := true, process := true })).ver b ≠ σ.ver b :=
  ⟨by decide +kernel, ⟨{ next := 1, env := [(V.field, Obj.arr 0)], attrs := [], rets := [], written := [], ver := fun _ => 0 },
    0, by decide, by decide, by decide +kernel⟩⟩

/-- D3: `fld.transform(m, store="new", process=True)` rewrote the stored `field` -/
theorem transform_old_writes_stored_field :
    safe (progOld .transform { process := true, storeNew := true, save := true }) = false ∧
    ∃ σ : St, ∃ b, b < σ.next ∧ b ∈ (get σ.attrs N.field).all ∧
      (run σ (progOld .transform { process := true, storeNew := true, save := true })).ver b ≠ σ.ver b :=
  ⟨by decide +kernel, ⟨{ next := 1, env := [], attrs := [(N.field, Obj.arr 0)], rets := [], written := [], ver := fun _ => 0 },
    0, by decide, by decide, by decide +kernel⟩⟩

/-- D2 (before 84a0bfc): `vario_estimate(bin_edges=<float64>, latlon=True)` divided the caller's bin edges -/
theorem varioEstimate_old_writes_bins :
    safe (progOld .varioEstimate { binsGiven := true, latlon := true }) = false ∧
    ∃ σ : St, ∃ b, b < σ.next ∧ b ∈ (get σ.env V.bins).all ∧
      (run σ (progOld .varioEstimate { binsGiven := true, latlon := true })).ver b ≠ σ.ver b :=
  ⟨by decide +kernel,
   ⟨{ next := 3, env := [(V.bins, Obj.arr 0), (V.field, Obj.arr 1), (V.pos, Obj.arr 2)], attrs := [], rets := [],
      written := [], ver := fun _ => 0 },
    0, by decide, by decide, by decide +kernel⟩⟩

/-- before 7b774f4: `vario_estimate_axis(<float64 MaskedArray with NaN / no_data hits>)` extended the caller's mask -/
theorem varioAxis_old_writes_mask :
    safe (progOld .varioAxis { masked := true, missing := true }) = false ∧
    ∃ σ : St, ∃ b, b < σ.next ∧ b ∈ (get σ.env V.field).mask ∧
      (run σ (progOld .varioAxis { masked := true, missing := true })).ver b ≠ σ.ver b :=
  ⟨by decide +kernel, ⟨{ next := 2, env := [(V.field, Obj.marr 0 1)], attrs := [], rets := [], written := [], ver := fun _ => 0 },
    1, by decide, by decide, by decide +kernel⟩⟩

/-- before 9340584: `gs.Gaussian(latlon=True, temporal=True, anis=<float64 array, long enough>)` (and the `anis`
    setter) set the first two entries of the caller's `anis` array to 1 -/
theorem covModelInit_old_writes_anis :
    safe (progOld .covModelInit { latlon := true }) = false ∧
    ∃ σ : St, ∃ b, b < σ.next ∧ b ∈ (get σ.env V.anis).all ∧
      (run σ (progOld .covModelInit { latlon := true })).ver b ≠ σ.ver b :=
  ⟨by decide +kernel, ⟨{ next := 1, env := [(V.anis, Obj.arr 0)], attrs := [], rets := [], written := [], ver := fun _ => 0 },
    0, by decide, by decide, by decide +kernel⟩⟩

/-- the old data flow of `Field.__call__` was harmless where aliasing was impossible: an int / float32 / list
    input (not `f64`) is converted to a new array first -/
theorem fieldCall_old_harmless_without_alias (σ : St) (h : (get σ.env V.field).f64 = false) (b : Nat)
    (hb : b < σ.next) :
    (run σ (progOld .fieldCall { fieldGiven := true, process := true })).ver b = σ.ver b := by
  -- the conversion `np.asarray(field, dtype=double)` allocates here, so all later writes go to an owned array
  have hsplit : progOld .fieldCall { fieldGiven := true, process := true }
      = setPos ++ .asarray V.f V.field ::
          ([.reshape V.f V.f] ++ postField_old V.f N.field true false ++ [.ret V.f]) := rfl
  have hf1 : Frame σ.next σ (run σ setPos) := safe_frame (by decide) σ
  have hstep : step (run σ setPos) (.asarray V.f V.field) = (run σ setPos).alloc V.f := by
    apply if_neg
    rw [run_env_other setPos σ V.field (by decide), h]
    exact Bool.false_ne_true
  rw [hsplit, run_append, run_cons, hstep]
  exact (hf1.trans (alloc_run_frame hf1.next_le V.f false (by decide +kernel))).ver b hb

end GSV.Props.C20
