/-
  Tie A at `ℝ`, shared part: the vocabulary of `GSV/PyExpr.lean` in Mathlib's terms and the tactic `tie_real` that proves
  `generated definition = hand-written model function` over the reals in a way that SURVIVES real-equal rewrites of the
  source formula (regrouping `a * b / c`, `x ** 2` -> `x * x`, hoisting a prefactor, division -> multiplication by the
  reciprocal, `sqrt(2 * var)` -> `sqrt(2) * sqrt(var)`, `sqrt(b) ** n` -> `b ** (n / 2)` on `b ≥ 0` …) but not semantic ones.

  `tie_real [defs]`:
    1. unfolds the listed definitions (both sides); if the two texts are now the same, done;
    2. turns the scalar interface / numpy vocabulary into Mathlib's functions, casts of literals into numerals, the
       arguments of `min` / `max` into a canonical order (`tie_vocab`); if the two texts are now the same, done;
    3. splits the `if`s / `match`es of both sides (`tie_cases`) and closes every case (`tie_close`): the same text by
       `rfl`; a case whose branch conditions contradict each other by `contradiction | omega | linarith`; otherwise
       the normal form `tie_nf` (roots and powers, with side goals discharged by `positivity` / hypotheses in the
       context: `√(a b) = √a √b`, `(a b)^r = a^r b^r`, `(√b)^r = b^(r/2)`, `(b^r)^s = b^(r s)`,
       `exp a * exp b = exp (a + b)`; every commutative-ring subterm, also inside function arguments; the argument
       order of `min` / `max`) and `ring1 | field_simp; ring1` for what is left;
    4. if some case stays open (the branch conditions of the two sides are written differently), the whole goal,
       conditions included, is brought into the normal form first and step 3 is repeated.
  No step uses anything about the particular formula; a goal that is not an identity of commutative rings / fields
  modulo the listed root / power / exp laws stays open, i.e. a semantic edit still breaks the theorem.
-/
import GSV.RealInst
import GSV.PyExpr
import Mathlib.Tactic.Ring
import Mathlib.Tactic.FieldSimp
import Mathlib.Tactic.Positivity
import Mathlib.Tactic.Linarith
import Mathlib.Tactic.NormNum.OfScientific

namespace GSV.Props.GenTieReal
open GSV GSV.Transc GSV.PyExpr

theorem log1p_real (x : ℝ) : log1p x = Real.log (1 + x) := by simp [log1p]
theorem expm1_real (x : ℝ) : expm1 x = Real.exp x - 1 := by simp [expm1]
/-- the `if` forms of `min` / `max` (`np.minimum` / `np.maximum`; the model writes a clip as a nested `if`; a source
    may write `np.where`) -/
theorem ite_lt_min (a b : ℝ) [Decidable (a < b)] : (if a < b then a else b) = min a b := by
  split <;> rename_i h
  · exact (min_eq_left h.le).symm
  · exact (min_eq_right (not_lt.mp h)).symm
theorem ite_lt_max (a b : ℝ) [Decidable (a < b)] : (if a < b then b else a) = max a b := by
  split <;> rename_i h
  · exact (max_eq_right h.le).symm
  · exact (max_eq_left (not_lt.mp h)).symm
theorem minimum_real (a b : ℝ) : minimum a b = min a b := ite_lt_min a b
theorem maximum_real (a b : ℝ) : maximum a b = max a b := ite_lt_max a b
theorem tan_real (x : ℝ) : PyExpr.tan x = Real.sin x / Real.cos x := rfl
theorem arctan_real (x : ℝ) : PyExpr.arctan x = Complex.arg ⟨1, x⟩ := by simp [PyExpr.arctan]

theorem sqrt_rpow {b : ℝ} (hb : 0 ≤ b) (r : ℝ) : Real.sqrt b ^ r = b ^ (r / 2) := by
  rw [Real.sqrt_eq_rpow, ← Real.rpow_mul hb]; congr 1; ring
theorem sqrt_npow {b : ℝ} (hb : 0 ≤ b) (n : ℕ) : Real.sqrt b ^ n = b ^ ((n:ℝ) / 2) := by
  rw [← Real.rpow_natCast, sqrt_rpow hb]
theorem rpow_npow {b : ℝ} (hb : 0 ≤ b) (r : ℝ) (n : ℕ) : (b ^ r) ^ n = b ^ (r * n) := by
  rw [← Real.rpow_natCast, ← Real.rpow_mul hb]
theorem inv_rpow_neg {b : ℝ} (hb : 0 ≤ b) (r : ℝ) : (b ^ r)⁻¹ = b ^ (-r) := (Real.rpow_neg hb r).symm
theorem div_rpow_neg {b : ℝ} (hb : 0 ≤ b) (a r : ℝ) : a / b ^ r = a * b ^ (-r) := by
  rw [Real.rpow_neg hb, div_eq_mul_inv]
theorem div_exp_neg (a b : ℝ) : a / Real.exp b = a * Real.exp (-b) := by rw [Real.exp_neg, div_eq_mul_inv]
theorem sqrt_mul_pos' (a : ℝ) {b : ℝ} (hb : 0 ≤ b) : Real.sqrt (a * b) = Real.sqrt a * Real.sqrt b :=
  Real.sqrt_mul' a hb
theorem sqrt_div_pos' (a : ℝ) {b : ℝ} (hb : 0 ≤ b) : Real.sqrt (a / b) = Real.sqrt a / Real.sqrt b :=
  Real.sqrt_div' a hb

/-- `min_comm`, `max_comm` rewrite towards the smaller term only.  `norm_num1` turns the scientific literals (`2.0`,
    `0.5`, `1e-8`) into rational numerals before `ring1` sees them: the kernel rejects the proof term `ring` builds for
    an integer-valued scientific literal such as `1.0`. -/
macro "tie_vocab" : tactic => `(tactic|
  (try simp only [sqrt_real, exp_real, log_real, sin_real, cos_real, acos_real, rpow_real, npow_real, fabs_real,
      pi_real, atan2_real, log1p_real, expm1_real, minimum_real, maximum_real, tan_real, arctan_real,
      ite_lt_min, ite_lt_max, min_comm, max_comm, ge_iff_le, gt_iff_lt]
   try push_cast
   try norm_num1))

/-- powers and roots are distributed over products and quotients, a power of a root or of a power becomes one real
    power, a division by a real power a negative exponent, products of exponentials one exponential; then `ring_nf` and a
    canonical argument order for `min` / `max` (ordered rewriting with the commutativity lemmas) -/
macro "tie_nf" : tactic => `(tactic|
  (try simp (disch := first | positivity | assumption) only
      [Real.sqrt_mul, sqrt_mul_pos', Real.sqrt_div, sqrt_div_pos', Real.sqrt_inv, mul_pow, div_pow, inv_pow,
       Real.mul_rpow, Real.div_rpow, Real.inv_rpow, sqrt_rpow, sqrt_npow, ← Real.rpow_mul, rpow_npow,
       ← Real.sqrt_eq_rpow, inv_rpow_neg, div_rpow_neg, div_exp_neg, ← Real.exp_add, ← Real.exp_sub, ← Real.exp_neg]
   try push_cast
   try ring_nf
   try simp only [min_comm, max_comm]))

macro "tie_close" : tactic => `(tactic|
  first
  | with_reducible rfl
  | (exfalso; first | contradiction | omega | linarith)
  | (tie_nf; first | done | ring1 | (field_simp; ring1)))

macro "tie_cases" : tactic => `(tactic|
  ((repeat' split)
   all_goals tie_close))

syntax (name := tieReal) "tie_real" " [" Lean.Parser.Tactic.simpLemma,* "]" : tactic
macro_rules
  | `(tactic| tie_real [$ls,*]) =>
    `(tactic| (simp only [$ls,*]
               all_goals first
                 | with_reducible rfl
                 | (tie_vocab; first | with_reducible rfl | tie_cases | (tie_nf; tie_cases))))

/-- the same relative to a hypothesis `H` about an uninterpreted scipy function (`∀ x, sps.f … x = …`): if `H` does not
    rewrite the unfolded goal into the same text on both sides, it goes through the same normalisation as the goal (so
    that it still matches after a regrouping of the arguments of `sps.f`) and then rewrites it -/
syntax (name := tieRealUsing) "tie_real_using " ident " [" Lean.Parser.Tactic.simpLemma,* "]" : tactic
macro_rules
  | `(tactic| tie_real_using $H:ident [$ls,*]) =>
    `(tactic| first
               | (simp only [$ls,*, $H:ident]; all_goals with_reducible rfl)
               | (revert $H:ident
                  simp only [$ls,*]
                  all_goals (tie_vocab; tie_nf; (try intro $H:ident); (try simp only [$H:ident]))
                  all_goals tie_cases))

end GSV.Props.GenTieReal
