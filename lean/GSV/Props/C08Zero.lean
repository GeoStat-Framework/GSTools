/-
  C08 (direction test, closed form) — what `dir_test` of estimator.pyx decides (`dir_test_spec`), and two consequences.
  Zero-length pairs (finding D15): a pair with zero separation vector is at distance 0 and passes the direction test of
  EVERY direction; in a first bin that contains 0 it is credited to every listed direction without `separate_dirs` and to
  the first one only with it, so the hypothesis `0 < dist` of `C08Geo.separated_first_hit_eq_all` cannot be dropped.
  Unit directions: the kernel takes the direction as given and its test is NOT invariant under rescaling the direction;
  the glue's normalisation `d / ‖d‖` (`Model.Vario.normDir`) is what discharges the unit-direction hypothesis of
  `separate_dirs_geometric`, end to end from the model of `_separate_dirs_test` (`separateDirs_glue_sound`).
-/
import GSV.Props.C08Geo
namespace GSV.Props.C08Zero
open GSV GSV.Transc GSV.Estimator GSV.Props GSV.Props.C08 GSV.Props.C08Geo Finset

/-- the squared "band distance" accumulated by `dir_test`: `Σ_c (Δ_c − s·e_c)²` -/
noncomputable def bdist (dim : Nat) (pos : Nat → Nat → ℝ) (direction : Nat → Nat → ℝ) (i j d : Nat) : ℝ :=
  ∑ c ∈ range dim, ((pos c i - pos c j) - sprod dim pos direction i j d * direction d c) ^ 2

section stages
variable (dim : Nat) (pos : Nat → Nat → ℝ) (ds : ℝ) (direction : Nat → Nat → ℝ) (tol bw : ℝ) (i j d : Nat)

theorem stage1_b_dist : (stage1 dim pos direction i j d).b_dist = 0 := by
  unfold stage1
  exact (forRange_keep (fun (s : dir_test.St ℝ) => s.b_dist) _ (by intros; rfl) 0 dim _).trans Nat.cast_zero

theorem stage1_in_band : (stage1 dim pos direction i j d).in_band = true := by
  unfold stage1
  exact forRange_keep (fun (s : dir_test.St ℝ) => s.in_band) _ (by intros; rfl) 0 dim _

/-- the band loop computes `bdist` -/
theorem band_loop_b_dist :
    (forRange 0 dim (stage1 dim pos direction i j d) fun k (st : dir_test.St ℝ) =>
        let st : dir_test.St ℝ := { st with tmp := ((pos k i - pos k j) - (st.s_prod * direction d k)) }
        let st : dir_test.St ℝ := { st with b_dist := (st.b_dist + (st.tmp * st.tmp)) }
        st).b_dist = bdist dim pos direction i j d := by
  rw [forRange_acc_eq_sum (fun s : dir_test.St ℝ => s.s_prod) (fun s => s.b_dist) _
    (fun s k => ((pos k i - pos k j) - s * direction d k) * ((pos k i - pos k j) - s * direction d k)) ?_ ?_,
    stage1_s_prod, stage1_b_dist, zero_add, ← Finset.range_eq_Ico]
  · exact Finset.sum_congr rfl fun c _ => (sq _).symm
  · intros; rfl
  · intros; rfl

theorem stage2_in_band :
    (stage2 dim pos direction bw i j d).in_band = true ↔ (0 < bw → Real.sqrt (bdist dim pos direction i j d) < bw) := by
  unfold stage2
  simp only [gt_iff_lt, Nat.cast_zero]
  split_ifs with hbw
  · simp only [sqrt_real, decide_eq_true_eq]
    rw [band_loop_b_dist]
    exact ⟨fun h _ => h, fun h => h hbw⟩
  · exact iff_of_true (stage1_in_band dim pos direction i j d) fun h => absurd h hbw

end stages

/-- over ℝ the generated direction test accepts the pair `(i, j)` at distance `ds` for direction `d`
    iff the band distance is below the bandwidth (tested only for a positive bandwidth) and the angle
    `arccos(|s|/ds)` is below the tolerance (tested only for a positive distance and `|s|/ds < 1`). -/
theorem dir_test_spec (dim : Nat) (pos : Nat → Nat → ℝ) (p0 p1 : Nat) (ds : ℝ) (direction : Nat → Nat → ℝ)
    (d0 d1 : Nat) (tol bw : ℝ) (i j d : Nat) :
    dir_test dim pos p0 p1 ds direction d0 d1 tol bw i j d = true ↔
      (0 < bw → Real.sqrt (bdist dim pos direction i j d) < bw) ∧
      (0 < ds → |sprod dim pos direction i j d| / ds < 1 → Real.arccos (|sprod dim pos direction i j d| / ds) < tol) := by
  rw [dir_test_stages, decide_eq_true_eq, stage3_in_band, stage2_in_band,
    stage3_in_angle ds tol _ (stage2_in_angle dim pos direction bw i j d), stage2_s_prod]

theorem sprod_swap (dim : Nat) (pos direction : Nat → Nat → ℝ) (i j d : Nat) :
    sprod dim pos direction i j d = - sprod dim pos direction j i d := by
  unfold sprod
  rw [← Finset.sum_neg_distrib]
  exact Finset.sum_congr rfl fun c _ => by ring

/-- the scalar product is linear in the direction: the kernel's test sees the LENGTH of a listed direction -/
theorem sprod_smul (dim : Nat) (pos direction : Nat → Nat → ℝ) (a : ℝ) (i j d : Nat) :
    sprod dim pos (fun d c => a * direction d c) i j d = a * sprod dim pos direction i j d := by
  unfold sprod
  rw [Finset.mul_sum]
  exact Finset.sum_congr rfl fun c _ => by ring

theorem bdist_swap (dim : Nat) (pos direction : Nat → Nat → ℝ) (i j d : Nat) :
    bdist dim pos direction i j d = bdist dim pos direction j i d := by
  unfold bdist
  rw [sprod_swap dim pos direction i j d]
  exact Finset.sum_congr rfl fun c _ => by ring

/-- **the direction test does not see the orientation of the pair**: swapping its two points changes nothing
    (the scalar product enters through `|s|`, the band distance through squares) -/
theorem dir_test_swap (dim : Nat) (pos : Nat → Nat → ℝ) (p0 p1 : Nat) (ds : ℝ) (direction : Nat → Nat → ℝ)
    (d0 d1 : Nat) (tol bw : ℝ) (i j d : Nat) :
    dir_test dim pos p0 p1 ds direction d0 d1 tol bw i j d = dir_test dim pos p0 p1 ds direction d0 d1 tol bw j i d := by
  rw [Bool.eq_iff_iff, dir_test_spec, dir_test_spec, bdist_swap dim pos direction i j d,
    sprod_swap dim pos direction i j d, abs_neg]

/-! ### zero-length pairs (finding D15) -/

theorem sprod_zero_pair (dim : Nat) (pos direction : Nat → Nat → ℝ) (j k d : Nat)
    (hz : ∀ c, c < dim → pos c j = pos c k) : sprod dim pos direction k j d = 0 := by
  unfold sprod
  exact Finset.sum_eq_zero fun c hc => by rw [hz c (Finset.mem_range.1 hc)]; ring

theorem bdist_zero_pair (dim : Nat) (pos direction : Nat → Nat → ℝ) (j k d : Nat)
    (hz : ∀ c, c < dim → pos c j = pos c k) : bdist dim pos direction k j d = 0 := by
  unfold bdist
  rw [sprod_zero_pair dim pos direction j k d hz]
  exact Finset.sum_eq_zero fun c hc => by rw [hz c (Finset.mem_range.1 hc)]; ring

/-- the kernel distance of a pair is 0 exactly if the two points coincide -/
theorem dist_euclid_eq_zero_iff (dim : Nat) (pos : Nat → Nat → ℝ) (p0 p1 j k : Nat) :
    dist_euclid dim pos p0 p1 j k = 0 ↔ ∀ c, c < dim → pos c j = pos c k := by
  rw [C09.dist_euclid_real, Real.sqrt_eq_zero (Finset.sum_nonneg fun c _ => sq_nonneg _),
    Finset.sum_eq_zero_iff_of_nonneg fun c _ => sq_nonneg _]
  simp only [Finset.mem_range, sq_eq_zero_iff, sub_eq_zero]

/-- two points with equal coordinates are at kernel distance 0 (`dist_euclid`) -/
theorem dist_zero_pair (dim : Nat) (pos : Nat → Nat → ℝ) (p0 p1 j k : Nat)
    (hz : ∀ c, c < dim → pos c j = pos c k) : dist_euclid dim pos p0 p1 j k = 0 :=
  (dist_euclid_eq_zero_iff dim pos p0 p1 j k).2 hz

/-- kernel distance 0 (`dist_euclid`) means that the two points have equal coordinates -/
theorem zero_pair_of_dist_zero (dim : Nat) (pos : Nat → Nat → ℝ) (p0 p1 j k : Nat)
    (h : dist_euclid dim pos p0 p1 j k = 0) : ∀ c, c < dim → pos c j = pos c k :=
  (dist_euclid_eq_zero_iff dim pos p0 p1 j k).1 h

/-- **zero-length pairs pass every direction test** (D15): for every listed (or unlisted) direction, every tolerance and
    every bandwidth — the angle test is skipped at distance 0 and the band distance of the zero vector is 0 -/
theorem zero_pair_passes_every_direction (dim : Nat) (pos : Nat → Nat → ℝ) (np : Nat) (direction : Nat → Nat → ℝ)
    (nd dc : Nat) (tol bw : ℝ) (j k d : Nat) (hz : ∀ c, c < dim → pos c j = pos c k) :
    dirOK dim pos np direction nd dc tol bw (dist_euclid dim pos dim np j k) j k d := by
  unfold dirOK
  rw [dir_test_spec, dist_zero_pair dim pos dim np j k hz, bdist_zero_pair dim pos direction j k d hz, Real.sqrt_zero]
  exact ⟨fun h => h, fun h => absurd h (lt_irrefl 0)⟩

/-- **where the kernel puts a zero-length pair**: into bin `i` iff `bin_edges[i] ≤ 0 < bin_edges[i+1]`; there, without
    `separate_dirs` into every listed direction, with `separate_dirs` into the first listed direction only -/
theorem zero_pair_inDirBin (dim : Nat) (pos : Nat → Nat → ℝ) (np : Nat) (bins : Nat → ℝ) (direction : Nat → Nat → ℝ)
    (nd dc : Nat) (tol bw : ℝ) (sep : Bool) (d i : Nat) (p : Nat × Nat) (hz : ∀ c, c < dim → pos c p.1 = pos c p.2) :
    inDirBin dim pos np bins direction nd dc tol bw sep d i p =
      decide ((bins i ≤ 0 ∧ 0 < bins (i + 1)) ∧ d < nd ∧ (sep = true → d = 0)) := by
  have hall := fun d' => zero_pair_passes_every_direction dim pos np direction nd dc tol bw p.1 p.2 d' hz
  rw [Bool.eq_iff_iff, inDirBin_iff, decide_eq_true_eq]
  rw [dist_zero_pair dim pos dim np p.1 p.2 hz] at hall ⊢
  refine and_congr (by rw [not_or, not_lt, ge_iff_le, not_le]) (and_congr_right fun _ => ⟨?_, fun h => ⟨hall d, ?_⟩⟩)
  · -- direction 0 accepts, so a direction that no earlier one forestalls is direction 0
    rintro ⟨_, h⟩ hsep
    exact Nat.eq_zero_of_not_pos fun hpos => h hsep 0 hpos (hall 0)
  · intro hsep d' hd'
    rw [h hsep] at hd'
    exact absurd hd' (Nat.not_lt_zero d')

/-- **kernel-level statement for two coincident points** (the smallest D15 configuration): the whole data set is one
    zero-length pair, `nf` fields, any number of listed directions of any kind, any tolerance and bandwidth, any
    admissible schedule.  If the first bin contains 0 the pair count of cell `(d, 0)` is `nf` for every direction
    without `separate_dirs`, and with `separate_dirs` it is `nf` for the first listed direction and `0` for all others. -/
theorem directional_coincident_pair (sched : Sched) (hs : sched.Admissible)
    (f : Nat → Nat → ℝ) (nf f1 : Nat) (bins : Nat → ℝ) (nb : Nat) (pos : Nat → Nat → ℝ) (dim : Nat)
    (direction : Nat → Nat → ℝ) (nd dc : Nat) (tol bw : ℝ) (sep : Bool) (et : String) (d : Nat)
    (hnb : 0 < nb - 1) (hd : d < nd) (hz : ∀ c, c < dim → pos c 0 = pos c 1)
    (hb0 : bins 0 ≤ 0) (hb1 : 0 < bins 1) :
    (directional sched f nf f1 bins nb pos dim 2 direction nd dc tol bw sep et).2 d 0 =
      if sep = true ∧ d ≠ 0 then 0 else (nf : Int) := by
  -- the only pair is `(0, 1)`, and it is selected unless an earlier direction forestalls `d`
  have hsel : inDirBin dim pos 2 bins direction nd dc tol bw sep d 0 (0, 1) = decide (¬ (sep = true ∧ d ≠ 0)) := by
    rw [zero_pair_inDirBin dim pos 2 bins direction nd dc tol bw sep d 0 (0, 1) hz]
    exact decide_eq_decide.2 ⟨fun h hc => hc.2 (h.2.2 hc.1),
      fun h => ⟨⟨hb0, hb1⟩, hd, fun hsep => by_contra fun hne => h ⟨hsep, hne⟩⟩⟩
  rw [(directional_eq_definition sched hs f nf f1 bins nb pos dim 2 direction nd dc tol bw sep et d 0 hnb hd).1,
    triples, show pairs 2 = [(0, 1)] by decide, List.filter_singleton, hsel]
  by_cases hc : sep = true ∧ d ≠ 0
  · simp [hc]
  · simp [hc, validFields_real, idxRange]

/-- **the hypothesis `0 < dist` of `C08Geo.separated_first_hit_eq_all` is necessary**: two orthogonal unit directions in
    the plane pass the glue's separation test with `tol = π/8`, yet for a zero-length pair in a first bin that contains 0
    the run with `separate_dirs` does NOT select what the run without it selects (second direction, finding D15) -/
theorem first_hit_ne_all_at_zero_length :
    ∃ (dim np : Nat) (pos direction : Nat → Nat → ℝ) (bins : Nat → ℝ) (nd : Nat) (tol : ℝ) (d i : Nat) (p : Nat × Nat),
      0 < tol ∧ (∀ d, d < nd → ∑ c ∈ range dim, direction d c ^ 2 = 1) ∧
      (∀ a b, a < b → b < nd → 2 * tol ≤ Real.arccos (min |∑ c ∈ range dim, direction a c * direction b c| 1)) ∧
      p.1 < p.2 ∧ p.2 < np ∧ d < nd ∧
      ∀ (dc : Nat) (bw : ℝ),
        inDirBin dim pos np bins direction nd dc tol bw true d i p ≠ inDirBin dim pos np bins direction nd dc tol bw false d i p := by
  refine ⟨2, 2, fun _ _ => 0, fun d c => if d = c then 1 else 0, fun i => i, 2, Real.pi / 8, 1, 0, (0, 1),
    by positivity, ?_, ?_, Nat.zero_lt_one, Nat.one_lt_two, Nat.one_lt_two, ?_⟩
  · intro d hd
    simp only [ite_pow, one_pow, ne_eq, OfNat.ofNat_ne_zero, not_false_eq_true, zero_pow, Finset.sum_ite_eq,
      Finset.mem_range, hd, if_true]
  · intro a b hab hb
    obtain ⟨rfl, rfl⟩ : a = 0 ∧ b = 1 := by omega
    refine orthogonal_separated ?_ pi_div_eight_le
    simp only [ite_mul, one_mul, zero_mul, Finset.sum_ite_eq, Finset.mem_range, Nat.zero_lt_two, if_true, if_neg Nat.one_ne_zero]
  · intro dc bw
    rw [zero_pair_inDirBin _ _ _ _ _ _ _ _ _ _ _ _ _ (fun _ _ => rfl),
      zero_pair_inDirBin _ _ _ _ _ _ _ _ _ _ _ _ _ (fun _ _ => rfl),
      decide_eq_false fun h => Nat.one_ne_zero (h.2.2 rfl),
      decide_eq_true ⟨⟨Nat.cast_zero.le, Nat.cast_pos.2 Nat.one_pos⟩, Nat.one_lt_two, nofun⟩]
    exact Bool.false_ne_true

/-! ### unit directions: the glue's normalisation -/

/-- the squared length the glue divides by -/
noncomputable def sqLen (l : List ℝ) : ℝ := (l.map fun x => x * x).sum

theorem sqLen_nonneg (l : List ℝ) : 0 ≤ sqLen l :=
  List.sum_nonneg (List.forall_mem_map.2 fun x _ => mul_self_nonneg x)

theorem sqLen_pos (l : List ℝ) (hne : ∃ x ∈ l, x ≠ 0) : 0 < sqLen l := by
  obtain ⟨x, hx, hx0⟩ := hne
  exact (mul_self_pos.2 hx0).trans_le
    (List.single_le_sum (List.forall_mem_map.2 fun y _ => mul_self_nonneg y) _ (List.mem_map_of_mem (f := fun x => x * x) hx))

theorem normDir_eq (l : List ℝ) : GSV.Model.Vario.normDir l = l.map (· / Real.sqrt (sqLen l)) := by
  unfold GSV.Model.Vario.normDir sqLen
  simp only [sqrt_real, foldl_add_eq_sum, Nat.cast_zero, zero_add]

/-- a sum over the positions of a list is the sum of the list -/
theorem sum_range_getD (l : List ℝ) (g : ℝ → ℝ) :
    ∑ c ∈ range l.length, g (l.getD c 0) = (l.map g).sum := by
  induction l with
  | nil => simp
  | cons x l ih =>
    rw [List.length_cons, Finset.sum_range_succ', List.map_cons, List.sum_cons, add_comm]
    simp only [List.getD_cons_zero, List.getD_cons_succ, ih]

theorem getD_map_div (l : List ℝ) (n : ℝ) (c : Nat) : (l.map (· / n)).getD c 0 = l.getD c 0 / n := by
  rw [List.getD_eq_getElem?_getD, List.getD_eq_getElem?_getD, List.getElem?_map]
  cases l[c]?
  · exact (zero_div n).symm
  · rfl

/-- **the glue's normalisation yields unit vectors**: for every direction with a non-zero component, in any dimension,
    the coordinates of `d / ‖d‖` have squares summing to 1 — the hypothesis `hunit` of `separate_dirs_geometric` -/
theorem normDir_unit (l : List ℝ) (hne : ∃ x ∈ l, x ≠ 0) :
    ∑ c ∈ range l.length, ((GSV.Model.Vario.normDir l).getD c 0) ^ 2 = 1 := by
  have hpos := sqLen_pos l hne
  rw [normDir_eq]
  simp only [getD_map_div]
  rw [sum_range_getD l fun x => (x / Real.sqrt (sqLen l)) ^ 2,
    List.map_congr_left (g := fun x => x * x * (sqLen l)⁻¹) fun x _ => by
      rw [div_pow, Real.sq_sqrt hpos.le, sq, div_eq_mul_inv],
    List.sum_map_mul_right]
  exact mul_inv_cancel₀ hpos.ne'

theorem normDir_length (l : List ℝ) : (GSV.Model.Vario.normDir l).length = l.length := by
  rw [normDir_eq, List.length_map]

/-- **at the API the direction's length is irrelevant**: the normalised direction of `a • d`, `a > 0`, is that of `d` -/
theorem normDir_pos_scale (l : List ℝ) (a : ℝ) (ha : 0 < a) :
    GSV.Model.Vario.normDir (l.map (a * ·)) = GSV.Model.Vario.normDir l := by
  rw [normDir_eq, normDir_eq]
  have hs : sqLen (l.map (a * ·)) = a ^ 2 * sqLen l := by
    unfold sqLen
    rw [List.map_map, ← List.sum_map_mul_left]
    congr 1
    refine List.map_congr_left fun x _ => ?_
    simp only [Function.comp]; ring
  rw [hs, Real.sqrt_mul (sq_nonneg a), Real.sqrt_sq ha.le, List.map_map]
  refine List.map_congr_left fun x _ => ?_
  simp only [Function.comp]
  rw [mul_div_mul_left _ _ ha.ne']

/-- **the kernel takes the direction as given**: its direction test is NOT invariant under positive rescaling of the
    direction vector.  Witness: the pair `(0,0)–(1,0)` is accepted for the unit direction `(1,0)` (`|s|/dist = 1`, the
    angle test is skipped) and rejected for `(1/2,0)` (`arccos(1/2) = π/3 ≥ π/8`), with no bandwidth.  So the
    normalisation in the glue is essential. -/
theorem dir_test_not_scale_invariant :
    ∃ (pos direction : Nat → Nat → ℝ) (a : ℝ), 0 < a ∧
      dir_test 2 pos 2 2 (dist_euclid 2 pos 2 2 0 1) direction 1 2 (Real.pi / 8) (-1) 1 0 0 = true ∧
      dir_test 2 pos 2 2 (dist_euclid 2 pos 2 2 0 1) (fun d c => a * direction d c) 1 2 (Real.pi / 8) (-1) 1 0 0 = false := by
  -- the pair `(0,0)–(1,0)` against the direction `(1,0)`: distance 1, scalar product 1
  have hd : dist_euclid 2 (fun c p => if c = 0 ∧ p = 1 then (1:ℝ) else 0) 2 2 0 1 = 1 := by
    rw [C09.dist_euclid_real, Finset.sum_range_succ, Finset.sum_range_one]
    norm_num
  have hs : sprod 2 (fun c p => if c = 0 ∧ p = 1 then (1:ℝ) else 0) (fun _ c => if c = 0 then 1 else 0) 1 0 0 = 1 := by
    norm_num [sprod, Finset.sum_range_succ]
  refine ⟨fun c p => if c = 0 ∧ p = 1 then 1 else 0, fun _ c => if c = 0 then 1 else 0, 1 / 2, by norm_num, ?_, ?_⟩
  · rw [dir_test_spec, hd, hs]
    exact ⟨fun h => absurd h (by norm_num), fun _ h => absurd h (by norm_num)⟩
  · rw [Bool.eq_false_iff, Ne, dir_test_spec, hd, sprod_smul, hs]
    rintro ⟨_, h⟩
    have h2 := h one_pos (by norm_num)
    rw [show |(1:ℝ) / 2 * 1| / 1 = 1 / 2 by norm_num, ← Real.cos_pi_div_three,
      Real.arccos_cos (div_nonneg Real.pi_pos.le (by norm_num)) (div_le_self Real.pi_pos.le (by norm_num))] at h2
    exact absurd h2 (not_lt.2 (div_le_div_of_nonneg_left Real.pi_pos.le (by norm_num) (by norm_num)))

/-- `separate_dirs_geometric` with the glue's normalisation instead of the unit-direction hypothesis: the listed
    directions are ARBITRARY non-zero vectors `raw d` of length `dim`; what reaches the kernel is `normDir (raw d)`.
    If these pass the separation test, at most one direction accepts a pair of positive length. -/
theorem separate_dirs_geometric_normalised (dim : Nat) (pos : Nat → Nat → ℝ) (np : Nat) (raw : Nat → List ℝ)
    (nd dc : Nat) (tol bw : ℝ) (j k : Nat) (htol : 0 < tol)
    (hlenraw : ∀ d, d < nd → (raw d).length = dim)
    (hne : ∀ d, d < nd → ∃ x ∈ raw d, x ≠ 0)
    (hsep : ∀ a b, a < b → b < nd →
      2 * tol ≤ Real.arccos (min |∑ c ∈ range dim,
        (GSV.Model.Vario.normDir (raw a)).getD c 0 * (GSV.Model.Vario.normDir (raw b)).getD c 0| 1))
    (hlen : 0 < dist_euclid dim pos dim np j k) :
    ∀ d₁ d₂, d₁ < nd → d₂ < nd →
      dirOK dim pos np (fun d c => (GSV.Model.Vario.normDir (raw d)).getD c 0) nd dc tol bw (dist_euclid dim pos dim np j k) j k d₁ →
      dirOK dim pos np (fun d c => (GSV.Model.Vario.normDir (raw d)).getD c 0) nd dc tol bw (dist_euclid dim pos dim np j k) j k d₂ →
      d₁ = d₂ :=
  separate_dirs_geometric dim pos np (fun d c => (GSV.Model.Vario.normDir (raw d)).getD c 0) nd dc tol bw j k htol
    (fun d hd => by rw [← hlenraw d hd]; exact normDir_unit (raw d) (hne d hd)) hsep hlen

/-- **end to end from the glue's model**: `vario_estimate` normalises the listed directions (`normDir`) and runs
    `_separate_dirs_test` (`Model.Vario.separateDirs`) on the normalised ones; if that test says "separated", then for
    arbitrary non-zero listed directions of the right length and a positive tolerance the kernel's first-hit rule is
    harmless for every pair of positive length: the run with `separate_dirs` selects exactly what the run without selects. -/
theorem separateDirs_glue_sound (dim : Nat) (pos : Nat → Nat → ℝ) (np : Nat) (bins : Nat → ℝ) (dirs : List (List ℝ))
    (dc : Nat) (tol bw : ℝ) (d i : Nat) (p : Nat × Nat) (htol : 0 < tol)
    (hlenraw : ∀ l ∈ dirs, l.length = dim) (hne : ∀ l ∈ dirs, ∃ x ∈ l, x ≠ 0)
    (htest : GSV.Model.Vario.separateDirs (dirs.map GSV.Model.Vario.normDir) tol = true)
    (hlen : 0 < dist_euclid dim pos dim np p.1 p.2) :
    inDirBin dim pos np bins (fun d c => (GSV.Model.Vario.normDir (dirs.getD d [])).getD c 0) dirs.length dc tol bw true d i p =
      inDirBin dim pos np bins (fun d c => (GSV.Model.Vario.normDir (dirs.getD d [])).getD c 0) dirs.length dc tol bw false d i p := by
  have hget : ∀ d, d < dirs.length → dirs.getD d [] ∈ dirs := fun d hd => by
    rw [List.getD_eq_getElem?_getD, List.getElem?_eq_getElem hd]
    exact List.getElem_mem hd
  have hmap : ∀ d, d < dirs.length →
      (dirs.map GSV.Model.Vario.normDir).getD d [] = GSV.Model.Vario.normDir (dirs.getD d []) :=
    fun d hd => by simp [List.getD_eq_getElem?_getD, hd]
  refine separate_dirs_sound dim pos np bins _ dirs.length dc tol bw d i p ?_
  refine separate_dirs_geometric_normalised dim pos np (fun d => dirs.getD d []) dirs.length dc tol bw p.1 p.2 htol
    (fun d hd => hlenraw _ (hget d hd)) (fun d hd => hne _ (hget d hd)) (fun a b hab hb => ?_) hlen
  have ha := hab.trans hb
  have := (separateDirs_spec (dirs.map GSV.Model.Vario.normDir) tol).1 htest a b hab (by rwa [List.length_map])
  rwa [hmap a ha, hmap b hb, dotL_eq_sum _ _ (by
    rw [normDir_length, normDir_length, hlenraw _ (hget a ha), hlenraw _ (hget b hb)]),
    normDir_length, hlenraw _ (hget a ha)] at this

/-- a zero-length pair: two coincident points in the plane -/
example : ∀ c, c < 2 → (fun (_ : Nat) (_ : Nat) => (3:ℝ)) c 0 = (fun (_ : Nat) (_ : Nat) => (3:ℝ)) c 1 := fun _ _ => rfl

/-- a non-unit, non-zero direction: `(3, 4)` is normalised to a unit vector -/
example : ∑ c ∈ range 2, ((GSV.Model.Vario.normDir [(3:ℝ), 4]).getD c 0) ^ 2 = 1 :=
  normDir_unit [3, 4] ⟨3, by simp, by norm_num⟩

/-- the hypotheses of `separateDirs_glue_sound` are met by the un-normalised axes `(2,0)`, `(0,5)` with `tol = π/8` -/
example : GSV.Model.Vario.separateDirs ([[(2:ℝ), 0], [0, 5]].map GSV.Model.Vario.normDir) (Real.pi / 8) = true := by
  rw [separateDirs_spec]
  intro a b hab hb
  obtain ⟨rfl, rfl⟩ : a = 0 ∧ b = 1 := by simp at hb; omega
  exact orthogonal_separated (by simp [normDir_eq, GSV.Model.Vario.dotL]) pi_div_eight_le

end GSV.Props.C08Zero
