/-
  C12 — anisotropy and rotation act as a linear change of coordinates.  Everything is about the executable
  definitions of `GSV.Model.Geo` at `ℝ`, read through `toM d` (the `d × d` block of a model matrix) and `toV d`
  (the first `d` entries of a model vector), for every dimension and every angle / anisotropy list unless a
  theorem says `2`, `3` or `4`.
-/
import GSV.Lemmas.Geo
import Mathlib.LinearAlgebra.Matrix.Notation
import Mathlib.Tactic.FinCases
import Mathlib.Tactic.NormNum
namespace GSV.Props.C12
open GSV GSV.Model.Geo GSV.Lemmas.Geo Matrix

/-- `givens_rotation(dim, (p, q), a)` with `p ≠ q` inside the dimension is orthogonal with
    determinant one (any dimension, any angle). -/
theorem givens_orthogonal {d p q : Nat} (hp : p < d) (hq : q < d) (hpq : p ≠ q) (a : ℝ) :
    toM d (givens (p, q) a) * (toM d (givens (p, q) a))ᵀ = 1 ∧
    (toM d (givens (p, q) a))ᵀ * toM d (givens (p, q) a) = 1 ∧
    (toM d (givens (p, q) a)).det = 1 := by
  have hne : (⟨p, hp⟩ : Fin d) ≠ ⟨q, hq⟩ := Fin.ne_of_val_ne hpq
  rw [toM_givens hp hq hpq]
  exact ⟨givM_mul_transpose hne a, mul_eq_one_comm.mp (givM_mul_transpose hne a), givM_det hne a⟩

/-- the `d × d` block of `givens_rotation(dim, (p, q), a)` with `p ≠ q` inside the dimension lies in `SO(d)`. -/
theorem givens_special_orthogonal {d p q : Nat} (hp : p < d) (hq : q < d) (hpq : p ≠ q) (a : ℝ) :
    toM d (givens (p, q) a) ∈ Matrix.specialOrthogonalGroup (Fin d) ℝ :=
  have h := givens_orthogonal hp hq hpq a
  Matrix.mem_specialOrthogonalGroup_iff.2 ⟨(Matrix.mem_orthogonalGroup_iff _ _).2 h.1, h.2.2⟩

example : (0 : Nat) < 3 ∧ (2 : Nat) < 3 ∧ (0 : Nat) ≠ 2 := by decide

/-- rotations in one plane compose by adding their angles; angle `0` is the identity and the
    negative angle is the transpose — the facts `matrix_derotate` relies on. -/
theorem givens_add {d p q : Nat} (hp : p < d) (hq : q < d) (hpq : p ≠ q) (a b : ℝ) :
    toM d (givens (p, q) a) * toM d (givens (p, q) b) = toM d (givens (p, q) (a + b)) ∧
    toM d (givens (p, q) (0:ℝ)) = 1 ∧
    toM d (givens (p, q) (-a)) = (toM d (givens (p, q) a))ᵀ := by
  have hne : (⟨p, hp⟩ : Fin d) ≠ ⟨q, hq⟩ := Fin.ne_of_val_ne hpq
  simp only [toM_givens hp hq hpq]
  exact ⟨givM_mul hne a b, givM_zero _ _, (givM_transpose a).symm⟩

/-- `rotation_planes(dim)` lists every pair `i < j < dim` exactly once, `no_of_angles(dim)` of them. -/
theorem planes_spec (d : Nat) :
    (∀ p : Nat × Nat, p ∈ rotationPlanes d ↔ p.1 < p.2 ∧ p.2 < d) ∧
    (rotationPlanes d).Nodup ∧ (rotationPlanes d).length = noOfAngles d :=
  ⟨fun _ => mem_rotationPlanes, nodup_rotationPlanes d, length_rotationPlanes d⟩

/-- the composition order of `matrix_rotate`, every dimension: with `(plane_k, s_k a_k)` the
    `k`-th entry of `enumerate(zip(angles, planes))` (sign `s_k = (-1)^k`),
    `R = G_{n-1} ⋯ G_1 · G_0`. -/
theorem rotate_eq_prod (d : Nat) (angles : List ℝ) :
    toM d (matrixRotate d angles)
      = (((signedSeq d (setAngles d angles)).map fun p => toM d (givens p.1 p.2)).reverse).prod := by
  rw [matrixRotate, toM_foldl_rotate, toM_ofArr_tabArr, toM_eye, mul_one]

/-- the composition order of `matrix_derotate`, every dimension: with `(plane_k, s_k a_k)` the `k`-th entry of
    `enumerate(zip(angles, planes))` (sign `s_k = (-1)^k`), `D = G_0(-s_0 a_0) · G_1(-s_1 a_1) ⋯ G_{n-1}(-s_{n-1} a_{n-1})`. -/
theorem derotate_eq_prod (d : Nat) (angles : List ℝ) :
    toM d (matrixDerotate d angles)
      = ((signedSeq d (setAngles d angles)).map fun p => toM d (givens p.1 (-p.2))).prod := by
  rw [matrixDerotate, toM_foldl_derotate, toM_ofArr_tabArr, toM_eye, one_mul, signedSeq_neg, List.map_map]; rfl

/-- `matrix_rotate(dim, angles)` is a proper orthogonal matrix for every dimension and every
    angle vector (too short, too long or empty lists included). -/
theorem rotate_special_orthogonal (d : Nat) (angles : List ℝ) :
    toM d (matrixRotate d angles) ∈ Matrix.specialOrthogonalGroup (Fin d) ℝ := by
  rw [rotate_eq_prod]
  refine Submonoid.list_prod_mem _ fun m hm => ?_
  obtain ⟨p, hp, rfl⟩ := List.mem_map.1 (List.mem_reverse.1 hm)
  obtain ⟨h1, h2, h3⟩ := signedSeq_valid hp
  exact givens_special_orthogonal h1 h2 h3 p.2

/-- `R Rᵀ = 1`, `Rᵀ R = 1` and `det R = 1` for `R = matrix_rotate(dim, angles)`, every dimension and angle list. -/
theorem rotate_orthogonal (d : Nat) (angles : List ℝ) :
    toM d (matrixRotate d angles) * (toM d (matrixRotate d angles))ᵀ = 1 ∧
    (toM d (matrixRotate d angles))ᵀ * toM d (matrixRotate d angles) = 1 ∧
    (toM d (matrixRotate d angles)).det = 1 := by
  have h := Matrix.mem_specialOrthogonalGroup_iff.1 (rotate_special_orthogonal d angles)
  exact ⟨(Matrix.mem_orthogonalGroup_iff _ _).1 h.1, (Matrix.mem_orthogonalGroup_iff' _ _).1 h.1, h.2⟩

/-- `matrix_derotate(dim, angles)` is the transpose of `matrix_rotate(dim, angles)`. -/
theorem derotate_eq_transpose (d : Nat) (angles : List ℝ) :
    toM d (matrixDerotate d angles) = (toM d (matrixRotate d angles))ᵀ := by
  rw [derotate_eq_prod, rotate_eq_prod, Matrix.transpose_list_prod, List.map_reverse, List.reverse_reverse,
    List.map_map]
  congr 1
  refine List.map_congr_left fun p hp => ?_
  obtain ⟨h1, h2, h3⟩ := signedSeq_valid hp
  exact (givens_add h1 h2 h3 p.2 0).2.2

/-- `matrix_derotate(dim, angles)` is the two-sided inverse of `matrix_rotate(dim, angles)` (it is the transpose
    of an orthogonal matrix). -/
theorem derotate_is_inverse (d : Nat) (angles : List ℝ) :
    toM d (matrixDerotate d angles) * toM d (matrixRotate d angles) = 1 ∧
    toM d (matrixRotate d angles) * toM d (matrixDerotate d angles) = 1 := by
  rw [derotate_eq_transpose]
  exact ⟨(rotate_orthogonal d angles).2.1, (rotate_orthogonal d angles).1⟩

/-- the main axes (`rotated_main_axes`, rows of `Rᵀ`) are orthonormal -/
theorem main_axes_orthonormal (d : Nat) (angles : List ℝ) (i j : Fin d) :
    toV d (mainAxes d angles i) ⬝ᵥ toV d (mainAxes d angles j) = if i = j then 1 else 0 := by
  have h := congrFun (congrFun (rotate_orthogonal d angles).2.1 i) j
  rw [Matrix.mul_apply', Matrix.one_apply] at h
  exact h

/-- what the two transformation matrices are: `S⁻¹ Rᵀ` and `R S` with `S = diag(1, anis…)` -/
theorem iso_aniso_factor (d : Nat) (angles anis : List ℝ) :
    toM d (matrixIsometrize d angles anis)
      = Matrix.diagonal (fun i => 1 / stretch d anis i) * (toM d (matrixRotate d angles))ᵀ ∧
    toM d (matrixAnisometrize d angles anis)
      = toM d (matrixRotate d angles) * Matrix.diagonal (stretch d anis) := by
  rw [matrixIsometrize, toM_matmul, toM_isotropify, derotate_eq_transpose, matrixAnisometrize, toM_matmul,
    toM_anisotropify]
  exact ⟨rfl, rfl⟩

/-- transforming to isotropic coordinates and transforming forth are mutually inverse whenever all
    anisotropy ratios are positive (every dimension, every angle vector, every list length). -/
theorem iso_aniso_inverse (d : Nat) (angles anis : List ℝ) (h : ∀ a ∈ anis, 0 < a) :
    toM d (matrixIsometrize d angles anis) * toM d (matrixAnisometrize d angles anis) = 1 ∧
    toM d (matrixAnisometrize d angles anis) * toM d (matrixIsometrize d angles anis) = 1 := by
  obtain ⟨h1, h2⟩ := iso_aniso_factor d angles anis
  have hd : Matrix.diagonal (fun i => 1 / stretch d anis i) * Matrix.diagonal (stretch d anis) = 1 := by
    rw [Matrix.diagonal_mul_diagonal, ← Matrix.diagonal_one]
    exact congrArg _ (funext fun i => one_div_mul_cancel (stretch_pos h i).ne')
  have key : toM d (matrixIsometrize d angles anis) * toM d (matrixAnisometrize d angles anis) = 1 := by
    rw [h1, h2, Matrix.mul_assoc, ← Matrix.mul_assoc _ (toM d (matrixRotate d angles)),
      (rotate_orthogonal d angles).2.1, Matrix.one_mul, hd]
  exact ⟨key, mul_eq_one_comm.mp key⟩

example : ∀ a ∈ ([0.5, 2] : List ℝ), 0 < a := by
  rw [List.forall_mem_cons, List.forall_mem_singleton]
  norm_num

/-- on positions, for positive ratios: `CovModel.anisometrize ∘ isometrize = id = isometrize ∘ anisometrize` -/
theorem iso_aniso_roundtrip (d : Nat) (angles anis : List ℝ) (h : ∀ a ∈ anis, 0 < a) (x : Nat → ℝ) :
    toV d (anisometrize d angles anis (isometrize d angles anis x)) = toV d x ∧
    toV d (isometrize d angles anis (anisometrize d angles anis x)) = toV d x := by
  obtain ⟨h1, h2⟩ := iso_aniso_inverse d angles anis h
  simp only [anisometrize, isometrize, toV_applyMat, Matrix.mulVec_mulVec, h1, h2, Matrix.one_mulVec, and_self]

/-- `isometrize` is linear in the position. -/
theorem isometrize_linear (d : Nat) (angles anis : List ℝ) (a b : ℝ) (x y : Nat → ℝ) :
    toV d (isometrize d angles anis fun k => a * x k + b * y k)
      = a • toV d (isometrize d angles anis x) + b • toV d (isometrize d angles anis y) := by
  simp only [isometrize, toV_applyMat]
  have : toV d (fun k => a * x k + b * y k) = a • toV d x + b • toV d y := rfl
  rw [this, Matrix.mulVec_add, Matrix.mulVec_smul, Matrix.mulVec_smul]

theorem isometrize_sub (d : Nat) (angles anis : List ℝ) (x y : Nat → ℝ) :
    toV d (isometrize d angles anis fun k => x k - y k)
      = toV d (isometrize d angles anis x) - toV d (isometrize d angles anis y) := by
  simpa only [one_mul, neg_mul, one_smul, neg_smul, ← sub_eq_add_neg]
    using isometrize_linear d angles anis 1 (-1) x y

/-- `t` times the `i`-th main axis is mapped to `t / anis[i-1]` times the `i`-th unit vector -/
theorem isometrize_main_axis (d : Nat) (angles anis : List ℝ) (i : Fin d) (t : ℝ) :
    toV d (isometrize d angles anis fun k => t * mainAxes d angles i k)
      = Pi.single i (t / stretch d anis i) := by
  have hx : toV d (fun k => t * mainAxes d angles i k)
      = t • (toM d (matrixRotate d angles) *ᵥ Pi.single i 1) := by
    rw [Matrix.mulVec_single_one]; rfl
  rw [isometrize, toV_applyMat, (iso_aniso_factor d angles anis).1, hx, Matrix.mulVec_smul,
    ← Matrix.mulVec_mulVec, Matrix.mulVec_mulVec _ (toM d (matrixRotate d angles))ᵀ, (rotate_orthogonal d angles).2.1,
    Matrix.one_mulVec]
  rw [Matrix.diagonal_mulVec_single, mul_one, ← Pi.single_smul', smul_eq_mul, mul_one_div]

/-- the isotropic radius of `t` times the `i`-th main axis is `|t| / s_i` with `s = [1] ++ set_anis(dim, anis)`
    (positive ratios): lengths along that axis are divided by `anis[i-1]` (by `1` along the first). -/
theorem main_axis_scale (d : Nat) (angles anis : List ℝ) (h : ∀ a ∈ anis, 0 < a) (i : Fin d) (t : ℝ) :
    isoRad d angles anis (fun k => t * mainAxes d angles i k)
      = |t| / (1 :: setAnis d anis)[(i : Nat)]'(by
          have := i.2; simp only [List.length_cons, length_setAnis]; omega) := by
  rw [← stretch_eq_getElem, isoRad, norm2_eq, isometrize_main_axis]
  simp only [dotProduct_single, Pi.single_eq_same]
  rw [← pow_two, Real.sqrt_sq_eq_abs, abs_div, abs_of_pos (stretch_pos h i)]

/-! ## explicit dimensions: 2-D, 3-D (yaw, pitch, roll), 4-D -/

theorem rotationPlanes_two : rotationPlanes 2 = [(0, 1)] := by decide
theorem rotationPlanes_three : rotationPlanes 3 = [(0, 1), (0, 2), (1, 2)] := by decide
theorem rotationPlanes_four : rotationPlanes 4 = [(0, 1), (0, 2), (1, 2), (0, 3), (1, 3), (2, 3)] := by decide

/-! what the two loops run over for explicit angle lists: the planes in order, the signs alternating, surplus
    angles dropped -/

theorem signedSeq_two (a : ℝ) (rest : List ℝ) : signedSeq 2 (setAngles 2 (a :: rest)) = [((0, 1), a)] := by
  rw [show setAngles 2 (a :: rest) = [a] from rfl, signedSeq, rotationPlanes_two]
  simp only [List.zip_cons_cons, List.zip_nil_right, List.zipIdx_cons, List.zipIdx_nil, List.map_cons, List.map_nil]
  norm_num

theorem signedSeq_three (a0 a1 a2 : ℝ) (rest : List ℝ) :
    signedSeq 3 (setAngles 3 (a0 :: a1 :: a2 :: rest)) = [((0, 1), a0), ((0, 2), -a1), ((1, 2), a2)] := by
  rw [show setAngles 3 (a0 :: a1 :: a2 :: rest) = [a0, a1, a2] from rfl, signedSeq, rotationPlanes_three]
  simp only [List.zip_cons_cons, List.zip_nil_right, List.zipIdx_cons, List.zipIdx_nil, List.map_cons, List.map_nil,
    zero_add]
  norm_num

theorem signedSeq_four (a0 a1 a2 a3 a4 a5 : ℝ) (rest : List ℝ) :
    signedSeq 4 (setAngles 4 (a0 :: a1 :: a2 :: a3 :: a4 :: a5 :: rest))
      = [((0, 1), a0), ((0, 2), -a1), ((1, 2), a2), ((0, 3), -a3), ((1, 3), a4), ((2, 3), -a5)] := by
  rw [show setAngles 4 (a0 :: a1 :: a2 :: a3 :: a4 :: a5 :: rest) = [a0, a1, a2, a3, a4, a5] from rfl, signedSeq,
    rotationPlanes_four]
  simp only [List.zip_cons_cons, List.zip_nil_right, List.zipIdx_cons, List.zipIdx_nil, List.map_cons, List.map_nil,
    zero_add]
  norm_num

/-- entries of a Givens rotation with `p ≠ q` (the four writes do not overlap) -/
theorem givens_entries {p q : Nat} (hpq : p ≠ q) (a : ℝ) (i j : Nat) :
    givens (p, q) a i j =
      if i = p ∧ j = p then Real.cos a else if i = q ∧ j = q then Real.cos a
      else if i = p ∧ j = q then -Real.sin a else if i = q ∧ j = p then Real.sin a
      else if i = j then 1 else 0 :=
  givens_apply hpq a i j

theorem givens_2d (a : ℝ) :
    toM 2 (givens (0, 1) a) = !![Real.cos a, -Real.sin a; Real.sin a, Real.cos a] := by
  rw [toM_two]
  simp [givens_entries]

/-- 2-D: the first angle turns counter-clockwise, `R = [[c, -s], [s, c]]`; surplus angles are ignored. -/
theorem rot2d_ccw (a : ℝ) (rest : List ℝ) :
    toM 2 (matrixRotate 2 (a :: rest)) = !![Real.cos a, -Real.sin a; Real.sin a, Real.cos a] := by
  rw [rotate_eq_prod, signedSeq_two]
  simp only [List.map_cons, List.map_nil, List.reverse_cons, List.reverse_nil, List.nil_append,
    List.prod_cons, List.prod_nil, mul_one, givens_2d]

noncomputable def Rz (a : ℝ) : Matrix (Fin 3) (Fin 3) ℝ :=
  !![Real.cos a, -Real.sin a, 0; Real.sin a, Real.cos a, 0; 0, 0, 1]
noncomputable def Ry (a : ℝ) : Matrix (Fin 3) (Fin 3) ℝ :=
  !![Real.cos a, 0, Real.sin a; 0, 1, 0; -Real.sin a, 0, Real.cos a]
noncomputable def Rx (a : ℝ) : Matrix (Fin 3) (Fin 3) ℝ :=
  !![1, 0, 0; 0, Real.cos a, -Real.sin a; 0, Real.sin a, Real.cos a]

theorem givens_Rz (a : ℝ) : toM 3 (givens (0, 1) a) = Rz a := by
  rw [toM_three, Rz]
  simp [givens_entries]

/-- the Givens rotation in the `(0,2)` plane turns the other way round than the right-handed `R_y` -/
theorem givens_Ry (a : ℝ) : toM 3 (givens (0, 2) (-a)) = Ry a := by
  rw [toM_three, Ry]
  simp [givens_entries]

theorem givens_Rx (a : ℝ) : toM 3 (givens (1, 2) a) = Rx a := by
  rw [toM_three, Rx]
  simp [givens_entries]

/-- 3-D: the code produces `R = R_x(roll) · R_y(pitch) · R_z(yaw)` with the standard
    right-handed elemental rotations (the alternating sign turns the `(0,2)`-plane Givens rotation
    into the right-handed `R_y`): yaw about `z` is applied first, then pitch about the fixed `y`,
    then roll about the fixed `x` axis. -/
theorem rot3d_tait_bryan (yaw pitch roll : ℝ) (rest : List ℝ) :
    toM 3 (matrixRotate 3 (yaw :: pitch :: roll :: rest)) = Rx roll * Ry pitch * Rz yaw := by
  rw [rotate_eq_prod, signedSeq_three]
  simp only [List.map_cons, List.map_nil, List.reverse_cons, List.reverse_nil, List.nil_append,
    List.cons_append, List.prod_cons, List.prod_nil, mul_one, givens_Rx, givens_Ry, givens_Rz, Matrix.mul_assoc]

/-- the nine entries of the 3-D rotation matrix in terms of yaw `y`, pitch `p` and roll `r`. -/
theorem rot3d_entries (y p r : ℝ) :
    toM 3 (matrixRotate 3 [y, p, r]) =
      !![Real.cos p * Real.cos y, -(Real.cos p * Real.sin y), Real.sin p;
         Real.cos r * Real.sin y + Real.sin r * Real.sin p * Real.cos y,
           Real.cos r * Real.cos y - Real.sin r * Real.sin p * Real.sin y, -(Real.sin r * Real.cos p);
         Real.sin r * Real.sin y - Real.cos r * Real.sin p * Real.cos y,
           Real.sin r * Real.cos y + Real.cos r * Real.sin p * Real.sin y, Real.cos r * Real.cos p] := by
  rw [rot3d_tait_bryan, Rx, Ry, Rz, Matrix.mul_fin_three, Matrix.mul_fin_three]
  congr 1
  refine Matrix.vec3_eq (Matrix.vec3_eq ?_ ?_ ?_) (Matrix.vec3_eq ?_ ?_ ?_) (Matrix.vec3_eq ?_ ?_ ?_) <;> ring

/-- a single angle in 3-D is a pure yaw: the missing pitch and roll count as `0` -/
theorem rot3d_yaw (y : ℝ) : toM 3 (matrixRotate 3 [y]) = Rz y := by
  have hpad : matrixRotate 3 [y] = matrixRotate 3 [y, 0, 0] := by
    simp [matrixRotate, setAngles, noOfAngles]
  rw [hpad, rot3d_tait_bryan, Rx, Ry, Real.cos_zero, Real.sin_zero, neg_zero, ← Matrix.one_fin_three,
    one_mul, one_mul]

/-- 4-D: six Givens rotations in the planes `(0,1),(0,2),(1,2),(0,3),(1,3),(2,3)`, signs
    `+ − + − + −`, later planes applied later (further left). -/
theorem rot4d_order (a0 a1 a2 a3 a4 a5 : ℝ) (rest : List ℝ) :
    toM 4 (matrixRotate 4 (a0 :: a1 :: a2 :: a3 :: a4 :: a5 :: rest)) =
      toM 4 (givens (2, 3) (-a5)) * (toM 4 (givens (1, 3) a4) * (toM 4 (givens (0, 3) (-a3)) *
        (toM 4 (givens (1, 2) a2) * (toM 4 (givens (0, 2) (-a1)) * toM 4 (givens (0, 1) a0))))) := by
  rw [rotate_eq_prod, signedSeq_four]
  simp only [List.map_cons, List.map_nil, List.reverse_cons, List.reverse_nil, List.nil_append,
    List.cons_append, List.prod_cons, List.prod_nil, mul_one]

/-- in 2-D the main axes are the coordinate axes turned counter-clockwise by the angle -/
theorem main_axes_2d (a : ℝ) :
    toV 2 (mainAxes 2 [a] 0) = ![Real.cos a, Real.sin a] ∧
    toV 2 (mainAxes 2 [a] 1) = ![-Real.sin a, Real.cos a] :=
  ⟨(toV_mainAxes (rot2d_ccw a []) 0).trans (FinVec.etaExpand_eq _).symm,
    (toV_mainAxes (rot2d_ccw a []) 1).trans (FinVec.etaExpand_eq _).symm⟩

/-- in 3-D a pure yaw turns the first two main axes counter-clockwise about `z` and keeps `z` -/
theorem main_axes_3d_yaw (y : ℝ) :
    toV 3 (mainAxes 3 [y] 0) = ![Real.cos y, Real.sin y, 0] ∧
    toV 3 (mainAxes 3 [y] 1) = ![-Real.sin y, Real.cos y, 0] ∧
    toV 3 (mainAxes 3 [y] 2) = ![0, 0, 1] :=
  ⟨(toV_mainAxes (rot3d_yaw y) 0).trans (FinVec.etaExpand_eq _).symm,
    (toV_mainAxes (rot3d_yaw y) 1).trans (FinVec.etaExpand_eq _).symm,
    (toV_mainAxes (rot3d_yaw y) 2).trans (FinVec.etaExpand_eq _).symm⟩

/-- missing angles count as `0`: no angles at all give the identity, in every dimension -/
theorem rotate_nil (d : Nat) : toM d (matrixRotate d ([] : List ℝ)) = 1 := by
  rw [rotate_eq_prod]
  refine List.prod_eq_one fun m hm => ?_
  obtain ⟨p, hp, rfl⟩ := List.mem_map.1 (List.mem_reverse.1 hm)
  obtain ⟨-, a, ha, k, hk⟩ := mem_signedSeq hp
  rw [setAngles_of_length_le (Nat.zero_le _), List.nil_append] at ha
  rw [(List.mem_replicate.1 ha).2, Nat.cast_zero, mul_zero] at hk
  obtain ⟨h1, h2, h3⟩ := signedSeq_valid hp
  rw [hk]
  exact (givens_add h1 h2 h3 0 0).2.1

/-! ## padding rules, `set_len_anis` -/

/-- `set_anis`: always `dim - 1` ratios; too few are padded in front with `1`, too many are cut
    at the end. -/
theorem pad_rules_anis (d : Nat) (an : List ℝ) :
    (setAnis d an).length = d - 1 ∧
    (an.length ≤ d - 1 → setAnis d an = List.replicate (d - 1 - an.length) 1 ++ an) ∧
    (d - 1 ≤ an.length → setAnis d an = an.take (d - 1)) :=
  ⟨length_setAnis d an, fun h => by rw [setAnis_of_length_le h, Nat.cast_one], setAnis_of_le_length⟩

/-- `set_angles`: always `no_of_angles(dim)` angles; too few are padded behind with `0`, too
    many are cut at the end. -/
theorem pad_rules_angles (d : Nat) (as : List ℝ) :
    (setAngles d as).length = noOfAngles d ∧
    (as.length ≤ noOfAngles d → setAngles d as = as ++ List.replicate (noOfAngles d - as.length) 0) ∧
    (noOfAngles d ≤ as.length → setAngles d as = as.take (noOfAngles d)) :=
  ⟨length_setAngles d as, fun h => by rw [setAngles_of_length_le h, Nat.cast_zero], setAngles_of_le_length⟩

/-- the padding rules need no arithmetic laws: they hold verbatim for IEEE doubles -/
theorem pad_rules_any {α : Type} [Arith α] (d : Nat) (an as : List α) :
    (setAnis d an).length = d - 1 ∧ (setAngles d as).length = noOfAngles d ∧
    (an.length ≤ d - 1 → setAnis d an = List.replicate (d - 1 - an.length) ((1:Nat):α) ++ an) ∧
    (d - 1 ≤ an.length → setAnis d an = an.take (d - 1)) ∧
    (as.length ≤ noOfAngles d → setAngles d as = as ++ List.replicate (noOfAngles d - as.length) ((0:Nat):α)) ∧
    (noOfAngles d ≤ as.length → setAngles d as = as.take (noOfAngles d)) :=
  ⟨length_setAnis d an, length_setAngles d as, setAnis_of_length_le, setAnis_of_le_length,
    setAngles_of_length_le, setAngles_of_le_length⟩

/-- the sanity check of `set_len_anis` -/
theorem all_gt_zero_iff {l : List ℝ} : (l.all fun a => decide (a > ((0:Nat):ℝ))) = true ↔ ∀ a ∈ l, 0 < a := by
  simp only [List.all_eq_true, decide_eq_true_eq, Nat.cast_zero, gt_iff_lt]

/-- `set_len_anis` with one length scale keeps the (padded) ratios, provided they are positive -/
theorem len_scale_single (d : Nat) (hd : 1 ≤ d) (l : ℝ) (anis : List ℝ) (h : ∀ a ∈ anis, 0 < a) :
    setLenAnis d [l] anis = .ok (l, setAnis d anis) := by
  have ht : List.take d [l] = [l] := List.take_of_length_le hd
  simp only [setLenAnis, ht, List.length_nil, if_true]
  rw [if_pos (all_gt_zero_iff.2 (setAnis_pos h))]

/-- `set_len_anis` with one length scale per axis: the main length scale is the first entry and the
    ratios are `len_scale[i] / len_scale[0]`, so `len_scale · anis[i-1] = len_scale[i]`. -/
theorem len_scale_list (l0 l1 : ℝ) (ls anis : List ℝ) (h0 : 0 < l0) (h : ∀ l ∈ l1 :: ls, 0 < l) :
    setLenAnis (ls.length + 2) (l0 :: l1 :: ls) anis = .ok (l0, (l1 :: ls).map fun l => l / l0) := by
  have ht : List.take (ls.length + 2) (l0 :: l1 :: ls) = l0 :: l1 :: ls := List.take_of_length_le (Nat.le_refl _)
  -- no padding is needed, and index `i ≥ 1` of `l0 :: l1 :: ls` is index `i - 1` of `l1 :: ls`
  have hidx : (idxRange 1 (ls.length + 2)).map (fun i => (padEdge (ls.length + 2) (l0 :: l1 :: ls)
        ((l0 :: l1 :: ls).getLast?.getD l0))[i]?.getD l0 / l0) = (l1 :: ls).map fun l => l / l0 := by
    rw [padEdge, List.length_cons, List.length_cons, Nat.sub_self, List.replicate_zero, List.append_nil, idxRange]
    apply List.ext_getElem
    · rw [List.length_map, List.length_map, List.length_range', List.length_cons]; rfl
    · intro n h1 h2
      rw [List.length_map] at h2
      rw [List.getElem_map, List.getElem_map, List.getElem_range', Nat.one_mul, Nat.add_comm 1 n,
        List.getElem?_cons_succ, List.getElem?_eq_getElem h2, Option.getD_some]
  simp only [setLenAnis, ht, List.length_cons, Nat.add_one_ne_zero, if_false]
  rw [hidx, if_pos]
  simp only [all_gt_zero_iff, List.mem_map]
  rintro a ⟨l, hl, rfl⟩
  exact div_pos (h l hl) h0
example : ∀ l ∈ ([3, 0.5] : List ℝ), 0 < l := by
  rw [List.forall_mem_cons, List.forall_mem_singleton]
  norm_num

/-- `set_len_anis` with one length scale does not accept a non-positive (padded) ratio: the result is
    `ValueError` (`IndexError` for `dim = 0`). -/
theorem len_scale_rejects (d : Nat) (l : ℝ) (anis : List ℝ) (a : ℝ) (ha : a ∈ setAnis d anis) (hneg : a ≤ 0) :
    setLenAnis d [l] anis = .error "ValueError" ∨ setLenAnis d [l] anis = .error "IndexError" := by
  cases d with
  | zero => right; simp [setLenAnis]
  | succ e =>
    left
    simp only [setLenAnis, List.take_succ_cons, List.take_nil, List.length_nil, if_true]
    rw [if_neg fun hall => not_lt.2 hneg (all_gt_zero_iff.1 hall a ha)]

/-- whatever `set_len_anis` accepts: `dim - 1` positive ratios -/
theorem setLenAnis_ok {d : Nat} {ls anis : List ℝ} {l0 : ℝ} {an : List ℝ} (h : setLenAnis d ls anis = .ok (l0, an)) :
    an.length = d - 1 ∧ ∀ a ∈ an, 0 < a := by
  unfold setLenAnis at h
  split at h
  · cases h
  rename_i l0' rest _
  -- either way of computing the ratios gives `d - 1` of them, and the test that follows is the same
  generalize hout : (if rest.length = 0 then setAnis d anis else _) = out at h
  have hlen : out.length = d - 1 := by
    rw [← hout]
    split
    · exact length_setAnis d anis
    · simp [idxRange]
  dsimp only at h
  split at h
  · rename_i hall
    cases h
    exact ⟨hlen, all_gt_zero_iff.1 hall⟩
  · cases h

/-! ## isotropic radius, distances and phases under the change of coordinates -/

/-- derotating (and rotating) a position does not change its Euclidean norm. -/
theorem rotation_preserves_norm (d : Nat) (angles : List ℝ) (x : Nat → ℝ) :
    norm2 d (applyMat d (matrixDerotate d angles) x) = norm2 d x ∧
    norm2 d (applyMat d (matrixRotate d angles) x) = norm2 d x := by
  obtain ⟨o1, o2, _⟩ := rotate_orthogonal d angles
  have key : ∀ A : Matrix (Fin d) (Fin d) ℝ, Aᵀ * A = 1 → ∀ v : Fin d → ℝ, (A *ᵥ v) ⬝ᵥ (A *ᵥ v) = v ⬝ᵥ v := by
    intro A hA v
    rw [Matrix.dotProduct_mulVec, ← Matrix.mulVec_transpose, Matrix.mulVec_mulVec, hA, Matrix.one_mulVec]
  constructor
  · rw [norm2_eq, norm2_eq, toV_applyMat, derotate_eq_transpose, key _ (by rw [Matrix.transpose_transpose]; exact o1)]
  · rw [norm2_eq, norm2_eq, toV_applyMat, key _ o2]

/-- with all ratios `1` (in particular without any) `matrix_isometrize` is the derotation alone -/
theorem isometrize_of_ratios_one (d : Nat) (angles : List ℝ) {anis : List ℝ} (h : ∀ a ∈ anis, a = 1) :
    toM d (matrixIsometrize d angles anis) = (toM d (matrixRotate d angles))ᵀ := by
  have hs : ∀ i, stretch d anis i = 1 := fun i => (stretch_mem d anis i).elim id (h _)
  rw [(iso_aniso_factor d angles anis).1]
  simp only [hs, div_one, Matrix.diagonal_one, Matrix.one_mul]

theorem isometrize_without_anis (d : Nat) (angles : List ℝ) :
    toM d (matrixIsometrize d angles []) = (toM d (matrixRotate d angles))ᵀ :=
  isometrize_of_ratios_one d angles (by simp)

/-- a model whose ratios are all `1` is rotation invariant: its isotropic radius is the plain norm whatever the
    angles are. -/
theorem iso_rad_of_ratios_one (d : Nat) (angles : List ℝ) {anis : List ℝ} (h : ∀ a ∈ anis, a = 1) (x : Nat → ℝ) :
    isoRad d angles anis x = norm2 d x := by
  have h1 : toV d (isometrize d angles anis x) = toV d (applyMat d (matrixDerotate d angles) x) := by
    rw [isometrize, toV_applyMat, toV_applyMat, isometrize_of_ratios_one d angles h, derotate_eq_transpose]
  rw [isoRad, norm2_eq, h1, ← norm2_eq, (rotation_preserves_norm d angles x).1]

/-- without ratios (`anis = []`) the isotropic radius is the plain norm, whatever the angles are. -/
theorem iso_rad_without_anis (d : Nat) (angles : List ℝ) (x : Nat → ℝ) :
    isoRad d angles [] x = norm2 d x :=
  iso_rad_of_ratios_one d angles (by simp) x

/-- distances between isometrized positions are the model's isotropic radius of the raw lag:
    the entries `cov(‖iso x_i − iso x_j‖)` of the kriging system are `cov_spatial(x_i − x_j)`. -/
theorem pipeline_dist (d : Nat) (angles anis : List ℝ) (x y : Nat → ℝ) :
    dist d (isometrize d angles anis x) (isometrize d angles anis y)
      = isoRad d angles anis (fun k => x k - y k) := by
  rw [Model.Geo.dist, isoRad, norm2_eq, norm2_eq, isometrize_sub]
  rfl

/-- a radial function `f` of the distance between two isometrized positions is `cov_spatial` (built on `f`) of
    the raw lag. -/
theorem pipeline_cov (f : ℝ → ℝ) (d : Nat) (angles anis : List ℝ) (x y : Nat → ℝ) :
    f (dist d (isometrize d angles anis x) (isometrize d angles anis y))
      = covSpatial f d angles anis (fun k => x k - y k) := by
  rw [pipeline_dist]; rfl

/-- the isotropic, unrotated model (no `anis`, no `angles`) leaves positions unchanged -/
theorem isometrize_iso_model (d : Nat) (x : Nat → ℝ) :
    toV d (isometrize d ([] : List ℝ) [] x) = toV d x := by
  rw [isometrize, toV_applyMat, isometrize_without_anis, rotate_nil, Matrix.transpose_one, Matrix.one_mulVec]

/-- `pre_pos` of the isotropic, unrotated model (`angles = []`, `anis = []`) changes nothing: whatever `F` is
    computed from the positions `pre_pos` returned for the anisotropic model, the isotropic model fed those
    positions computes the same.  That a computation of the anisotropic model is some `F` of
    `prePos d angles anis xs` is not part of the statement (it is how `GSV.Model.Pipe` composes the objects); the
    change of coordinates itself is `pipeline_dist`, `pipeline_modes` and `cov_spatial_change_of_coords`. -/
theorem pipeline {β : Type} {d : Nat} (F : List (Fin d → ℝ) → β) (angles anis : List ℝ) (xs : List (Nat → ℝ)) :
    F ((prePos d angles anis xs).map (toV d))
      = F ((prePos d ([] : List ℝ) [] (prePos d angles anis xs)).map (toV d)) := by
  refine congrArg F ?_
  simp only [prePos, List.map_map]
  exact (List.map_congr_left fun x _ => isometrize_iso_model d _).symm

/-- randomization method: the phase of an isotropic mode `k` at the isometrized position is the
    phase of the transformed mode `Mᵀ k` at the raw position (`M = matrix_isometrize`) -/
theorem pipeline_modes (d : Nat) (angles anis : List ℝ) (k x : Nat → ℝ) :
    phase d k (isometrize d angles anis x)
      = phase d (applyMat d (Model.Geo.transpose (matrixIsometrize d angles anis)) k) x := by
  rw [phase_eq, phase_eq, isometrize, toV_applyMat, toV_applyMat, toM_transpose,
    Matrix.dotProduct_mulVec, Matrix.mulVec_transpose]

/-- the model's spatial covariance of a lag `h` is the isotropic model's at the transformed lag -/
theorem cov_spatial_change_of_coords (f : ℝ → ℝ) (d : Nat) (angles anis : List ℝ) (h : Nat → ℝ) :
    covSpatial f d angles anis h = covSpatial f d ([] : List ℝ) [] (isometrize d angles anis h) := by
  simp only [covSpatial, isoRad, norm2_eq, isometrize_iso_model]

/-! ## `ang2dir` -/

/-- a single direction through `ang2dir` is the row function `dirVec` -/
theorem ang2dir_eq_dirVec (angles : List ℝ) (h : angles ≠ []) : ang2dir angles = .ok (dirVec angles) := by
  have hl : angles.length ≠ 0 := by simpa using h
  unfold ang2dir dirVec
  simp only [hl, if_false]
  split
  · split <;> rfl
  · rfl

/-- `ang2dir` returns a unit vector of dimension `len(angles) + 1` for every angle vector
    (spherical coordinates in any dimension; the 2-D/3-D component swap does not matter). -/
theorem ang2dir_unit (angles v : List ℝ) (h : ang2dir angles = .ok v) :
    v.length = angles.length + 1 ∧ (v.map fun x => x * x).sum = 1 := by
  rcases eq_or_ne angles [] with rfl | hne
  · cases h
  · rw [ang2dir_eq_dirVec angles hne, Except.ok.injEq] at h
    subst h
    have hp := dirVec_perm angles
    exact ⟨by rw [hp.length_eq, List.length_cons, length_dirRest], by rw [(hp.map _).sum_eq, sqSum_dir]⟩

/-- the row function `dirVec` returns a unit vector with `len(angles) + 1` components for every non-empty row. -/
theorem dirVec_unit (angles : List ℝ) (h : angles ≠ []) :
    (dirVec angles).length = angles.length + 1 ∧ ((dirVec angles).map fun x => x * x).sum = 1 :=
  ang2dir_unit angles _ (ang2dir_eq_dirVec angles h)

/-- 2-D: one angle is the azimuth, counter-clockwise from the x axis -/
theorem dirVec_2d (az : ℝ) : dirVec [az] = [Real.cos az, Real.sin az] := by
  unfold dirVec
  simp only []
  rw [dirRest_eq, prodL_eq]
  simp [dirRest]

/-- 3-D: (azimuth, inclination from the z axis), ISO 80000-2 -/
theorem dirVec_3d (az inc : ℝ) :
    dirVec [az, inc] = [Real.sin inc * Real.cos az, Real.sin inc * Real.sin az, Real.cos inc] := by
  unfold dirVec
  simp only []
  rw [dirRest_eq, prodL_eq]
  simp [dirRest, mul_comm]

/-- 4-D: hyperspherical coordinates, no component swap -/
theorem dirVec_4d (a b c : ℝ) :
    dirVec [a, b, c] = [Real.sin a * Real.sin b * Real.sin c, Real.sin b * Real.sin c * Real.cos a,
      Real.sin c * Real.cos b, Real.cos c] := by
  unfold dirVec
  simp only []
  rw [dirRest_eq, prodL_eq]
  simp [dirRest, mul_assoc]

example : ang2dir ([0, 0] : List ℝ) = .ok [0, 0, 1] := by
  rw [ang2dir_eq_dirVec _ (by simp), dirVec_3d]
  simp

/-- several directions in one call: a successful call returns, for some row list `rows'` — the given rows, or the
    single flat row transposed when `dim = 2` — exactly `dirVec` of every row: direction `r` is a function of row `r`
    alone, every row has `dim - 1` angles and `dim ≥ 2`. -/
theorem ang2dir_call_rowwise (preDim n : Nat) (rows : List (List ℝ)) (dim : Option Nat) (out : List (List ℝ))
    (h : ang2dirCall preDim n rows dim = .ok out) :
    ∃ rows' : List (List ℝ), out = rows'.map dirVec ∧ (∀ r ∈ rows', r.length + 1 = dim.getD (n + 1)) ∧ 2 ≤ dim.getD (n + 1) ∧
      (rows' = rows ∨ (rows' = (rows.headD []).map (fun a => [a]) ∧ dim.getD (n + 1) = 2 ∧ rows.length = 1 ∧ preDim < 2)) := by
  unfold ang2dirCall at h
  split at h
  · cases h
  rename_i hg
  dsimp only at h
  split at h
  · -- the single flat row, one angle per direction
    rename_i htr
    simp only [Bool.and_eq_true, decide_eq_true_eq] at htr
    split at h
    · cases h
    cases h
    refine ⟨_, rfl, fun r hr => ?_, htr.1.1.ge, Or.inr ⟨rfl, htr.1.1, htr.1.2, htr.2⟩⟩
    obtain ⟨a, _, rfl⟩ := List.mem_map.1 hr
    exact htr.1.1.symm
  · -- the rows as given, each of length `n`
    have hrag : ∀ r ∈ rows, r.length = n := fun r hr =>
      by_contra fun hne => hg (Or.inr (List.any_eq_true.2 ⟨r, hr, bne_iff_ne.2 hne⟩))
    split at h
    · cases h
    cases h
    refine ⟨rows, rfl, fun r hr => ?_, by omega, Or.inl rfl⟩
    rw [hrag r hr]
    omega

/-- nested input (one row per direction) without `dim`: row `i` of the result is the single-direction conversion of
    row `i` — the other rows do not matter — and it is a unit vector with `n + 1` components -/
theorem ang2dir_call_nested (n : Nat) (hn : 1 ≤ n) (rows : List (List ℝ)) (hr : ∀ r ∈ rows, r.length = n) :
    ang2dirCall 2 n rows none = .ok (rows.map dirVec) ∧
    ∀ r ∈ rows, ang2dir r = .ok (dirVec r) ∧ (dirVec r).length = n + 1 ∧ ((dirVec r).map fun x => x * x).sum = 1 := by
  constructor
  · unfold ang2dirCall
    rw [if_neg (by simpa using hr)]
    simp only [Option.getD_none, Nat.lt_irrefl, decide_false, Bool.and_false, Bool.false_eq_true, if_false]
    rw [if_neg (by omega)]
  · intro r hr'
    have hne : r ≠ [] := List.ne_nil_of_length_pos (by rw [hr r hr']; exact hn)
    have := dirVec_unit r hne
    exact ⟨ang2dir_eq_dirVec r hne, by rw [this.1, hr r hr'], this.2⟩

/-- flat input of `k` angles with `dim = 2`: `k` two-dimensional directions `(cos a, sin a)` -/
theorem ang2dir_call_2d_flat (as : List ℝ) :
    ang2dirCall 1 as.length [as] (some 2) = .ok (as.map fun a => [Real.cos a, Real.sin a]) := by
  unfold ang2dirCall
  rw [if_neg (by simp)]
  simp [dirVec_2d]

example : ang2dirCall 2 2 ([[0, Real.pi / 2], [Real.pi / 2, Real.pi / 2]] : List (List ℝ)) none
    = .ok [[1, 0, 0], [0, 1, 0]] := by
  rw [(ang2dir_call_nested 2 (by decide) _ (by simp)).1]
  simp [dirVec_3d]

/-! ## histories of assignments to one model object -/

/-- what a constructed model guarantees about the parameters the geometry depends on -/
def MValid (s : MState ℝ) : Prop :=
  1 ≤ s.dim ∧ s.anis.length = s.dim - 1 ∧ s.angles.length = noOfAngles s.dim ∧ ∀ a ∈ s.anis, 0 < a

/-- a model the constructor accepts has `dim ≥ 1`, `dim - 1` positive ratios and `no_of_angles(dim)` angles. -/
theorem mInit_valid {d : Nat} {ls an ag : List ℝ} {s : MState ℝ} (h : mInit d ls an ag = .ok s) : MValid s := by
  unfold mInit at h
  split at h
  · cases h
  split at h
  · cases h
  · rename_i hd _ _ _ hok
    cases h
    exact ⟨Nat.le_of_not_lt hd, (setLenAnis_ok hok).1, length_setAngles d ag, (setLenAnis_ok hok).2⟩

/-- every setter keeps the guarantees (a rejected assignment does not produce a state at all) -/
theorem mStep_valid {s s' : MState ℝ} (hs : MValid s) (op : MOp ℝ) (h : mStep s op = .ok s') : MValid s' := by
  obtain ⟨h1, h2, h3, h4⟩ := hs
  cases op with
  | setAnis v | setLenScale v =>
    simp only [mStep] at h
    split at h
    · cases h
    · rename_i l0 an hok
      cases h
      have := setLenAnis_ok hok
      exact ⟨h1, this.1, h3, this.2⟩
  | setAngles v =>
    cases h
    exact ⟨h1, h2, length_setAngles _ _, h4⟩
  | setDim d =>
    -- `model.dim = d` runs the constructor on the current public values
    exact mInit_valid (show mInit d [s.lenScale] s.anis s.angles = .ok s' from h)

theorem mStepKeep_valid {s : MState ℝ} (hs : MValid s) (op : MOp ℝ) : MValid (mStepKeep s op).1 := by
  unfold mStepKeep
  split
  · rename_i s' h; exact mStep_valid hs op h
  · exact hs

/-- every state of a history (after the constructor, after every setter, accepted or rejected) is valid -/
theorem mRun_valid {s : MState ℝ} (hs : MValid s) (ops : List (MOp ℝ)) : ∀ r ∈ mRun s ops, MValid r.1 := by
  induction ops generalizing s with
  | nil => intro r hr; cases hr
  | cons op rest ih =>
    intro r hr
    simp only [mRun, List.mem_cons] at hr
    rcases hr with rfl | hr
    · exact mStepKeep_valid hs op
    · exact ih (mStepKeep_valid hs op) r hr

/-- the state after any sequence of assignments (accepted or rejected) to a valid state is valid. -/
theorem mFinal_valid {s : MState ℝ} (hs : MValid s) (ops : List (MOp ℝ)) : MValid (mFinal s ops) := by
  induction ops generalizing s with
  | nil => exact hs
  | cons op rest ih => exact ih (mStepKeep_valid hs op)

/-- a valid state is what the constructor makes of its own public values -/
theorem valid_fresh {s : MState ℝ} (hs : MValid s) : mInit s.dim [s.lenScale] s.anis s.angles = .ok s := by
  obtain ⟨h1, h2, h3, h4⟩ := hs
  unfold mInit
  rw [if_neg (Nat.not_lt.2 h1), len_scale_single s.dim h1 s.lenScale s.anis h4]
  rw [setAnis_of_le_length h2.ge, List.take_of_length_le h2.le, setAngles_of_le_length h3.ge,
    List.take_of_length_le h3.le]

/-- history independence of the state: after the constructor and any sequence of `dim` / `len_scale` / `anis` /
    `angles` assignments (accepted or rejected), the state is exactly the one a fresh constructor call builds from
    its current public values, and it is valid.  (The model's `isometrize`, `anisometrize`, `main_axes`,
    `_get_iso_rad`, `cov_spatial` take `dim`, `angles`, `anis` of the state as arguments.) -/
theorem hist_geometry_is_fresh {d : Nat} {ls an ag : List ℝ} {s0 : MState ℝ} (h0 : mInit d ls an ag = .ok s0)
    (ops : List (MOp ℝ)) :
    let s := mFinal s0 ops
    mInit s.dim [s.lenScale] s.anis s.angles = .ok s ∧ MValid s :=
  ⟨valid_fresh (mFinal_valid (mInit_valid h0) ops), mFinal_valid (mInit_valid h0) ops⟩

/-- after the constructor and any sequence of assignments, `anisometrize (isometrize x) = x` with the final
    `dim`, `angles`, `anis`. -/
theorem hist_roundtrip {d : Nat} {ls an ag : List ℝ} {s0 : MState ℝ} (h0 : mInit d ls an ag = .ok s0)
    (ops : List (MOp ℝ)) (x : Nat → ℝ) :
    let s := mFinal s0 ops
    toV s.dim (anisometrize s.dim s.angles s.anis (isometrize s.dim s.angles s.anis x)) = toV s.dim x :=
  (iso_aniso_roundtrip _ _ _ (mFinal_valid (mInit_valid h0) ops).2.2.2 x).1

/-- assigning one length scale per axis redefines the ratios from the list alone: the previous ratios are
    forgotten, the main length scale is the first entry, the angles stay -/
theorem setLenScale_list (s : MState ℝ) (l0 l1 : ℝ) (ls : List ℝ) (hd : s.dim = ls.length + 2)
    (h0 : 0 < l0) (h : ∀ l ∈ l1 :: ls, 0 < l) :
    mStep s (.setLenScale (l0 :: l1 :: ls)) = .ok { s with lenScale := l0, anis := (l1 :: ls).map fun l => l / l0 } := by
  simp only [mStep, hd, len_scale_list l0 l1 ls s.anis h0 h]

/-- equal length scales make the model isotropic whatever the ratios were before: the isotropic radius is the
    plain norm for every rotation -/
theorem setLenScale_equal_isotropic (s s' : MState ℝ) (l : ℝ) (hl : 0 < l) (k : Nat) (hd : s.dim = k + 2)
    (h : mStep s (.setLenScale (List.replicate (k + 2) l)) = .ok s') (x : Nat → ℝ) :
    s'.anis = List.replicate (k + 1) 1 ∧ isoRad s'.dim s'.angles s'.anis x = norm2 s'.dim x := by
  have hpos : ∀ y ∈ List.replicate (k + 1) l, 0 < y := fun y hy => List.eq_of_mem_replicate hy ▸ hl
  rw [show List.replicate (k + 2) l = l :: l :: List.replicate k l from rfl,
    setLenScale_list s l l (List.replicate k l) (by rw [List.length_replicate]; exact hd) hl hpos] at h
  cases h
  have han : (l :: List.replicate k l).map (fun y => y / l) = List.replicate (k + 1) 1 := by
    rw [← List.replicate_succ, List.map_replicate, div_self hl.ne']
  exact ⟨han, iso_rad_of_ratios_one _ _ (fun a ha => List.eq_of_mem_replicate (han ▸ ha)) x⟩

example : mInit 2 ([2, 1] : List ℝ) [] [0.3] = .ok ⟨2, 2, [1 / 2], [0.3]⟩ := by
  have h : setLenAnis 2 ([2, 1] : List ℝ) [] = _ :=
    len_scale_list (2:ℝ) 1 [] [] two_pos (List.forall_mem_singleton.2 one_pos)
  rw [mInit, if_neg (by decide), h]
  rfl

/-! ## the tables the driver keeps -/

/-- the matrix the driver tabulates for `isometrize` is `matrix_isometrize` (on the `d × d` block). -/
theorem isoTab_eq (d : Nat) (angles anis : List ℝ) :
    toM d (ofArr d (isoTab d angles anis)) = toM d (matrixIsometrize d angles anis) := by
  simp only [isoTab, matrixIsometrize, toM_ofArr_tabArr, toM_matmul]

/-- the matrix the driver tabulates for `anisometrize` is `matrix_anisometrize` (on the `d × d` block). -/
theorem anisoTab_eq (d : Nat) (angles anis : List ℝ) :
    toM d (ofArr d (anisoTab d angles anis)) = toM d (matrixAnisometrize d angles anis) := by
  simp only [anisoTab, matrixAnisometrize, toM_ofArr_tabArr, toM_matmul]

/-- what the driver evaluates for `isometrize` / `anisometrize` / `_get_iso_rad` of a state is the model's value -/
theorem tab_geometry_eq (d : Nat) (angles anis : List ℝ) (x : Nat → ℝ) :
    toV d (applyMat d (ofArr d (isoTab d angles anis)) x) = toV d (isometrize d angles anis x) ∧
    toV d (applyMat d (ofArr d (anisoTab d angles anis)) x) = toV d (anisometrize d angles anis x) ∧
    norm2 d (applyMat d (ofArr d (isoTab d angles anis)) x) = isoRad d angles anis x := by
  refine ⟨?_, ?_, ?_⟩
  · rw [isometrize, toV_applyMat, toV_applyMat, isoTab_eq]
  · rw [anisometrize, toV_applyMat, toV_applyMat, anisoTab_eq]
  · rw [isoRad, norm2_eq, norm2_eq, isometrize, toV_applyMat, toV_applyMat, isoTab_eq]

end GSV.Props.C12
