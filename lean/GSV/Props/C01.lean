/-
  C01 — generated random fields reproduce the model covariance (algebraic skeleton, partial).

  On the kernels regenerated from summator.pyx and the generator glue of Model/Gen.lean, over ℝ:
  the field is an explicit linear combination of the amplitudes (`randmeth_linear`, `fourier_linear`); for ANY mode set
  the amplitude-ensemble covariance of that combination is `(var/N) Σ_j cos⟨k_j, x−y⟩` (randomization; `cov_given_modes`
  is stated for the combination) resp. `Σ_j S(k_j) ΠΔk cos⟨k_j, x−y⟩` (Fourier; `fourier_cov_given_modes` is stated for
  the field function `fourierField` itself), the pointwise variance is EXACTLY `var` (plus nugget), the mean is zero;
  averaging over wave vectors whose characteristic function is the correlation gives `var·ρ(x−y)`; the sphere sampler returns unit vectors.
  Not proved: distributional correctness of numpy's variates, uniformity of directions, MCMC convergence,
  and `ρ = FT(S)` beyond the Gaussian (C04).  The 1/√N rate is in `C01Rate`.
-/
import GSV.Model.Gen
import GSV.Props.KernelSummate
import GSV.Lemmas.Sum
import GSV.RealInst
import Mathlib.Analysis.SpecialFunctions.Trigonometric.Basic
import Mathlib.MeasureTheory.Integral.Bochner.Basic
import Mathlib.Algebra.BigOperators.Field
import Mathlib.Tactic.Ring
namespace GSV.Props.C01
open GSV GSV.Props GSV.Summator GSV.Model.Gen Finset MeasureTheory

/-- `⟨k_j, x⟩` -/
def phase (k : Nat → Nat → ℝ) (x : Nat → ℝ) (dim j : Nat) : ℝ := ∑ d ∈ range dim, k d j * x d

theorem phaseOf_eq (k pos : Nat → Nat → ℝ) (dim j i : Nat) :
    phaseOf k pos dim j i = phase k (fun d => pos d i) dim j :=
  forRange_cast_zero_add_eq_sum dim (fun d => k d j * pos d i)

theorem phase_sub (k : Nat → Nat → ℝ) (x y : Nat → ℝ) (dim j : Nat) :
    phase k x dim j - phase k y dim j = phase k (fun d => x d - y d) dim j := by
  simp only [phase, mul_sub, sum_sub_distrib]

theorem phase_sub_self (k : Nat → Nat → ℝ) (x : Nat → ℝ) (dim j : Nat) : phase k (fun d => x d - x d) dim j = 0 := by
  rw [← phase_sub, sub_self]

/-- the randomization field at point `i` is linear in the amplitudes, with explicit weights -/
theorem randmeth_linear (var : ℝ) (k : Nat → Nat → ℝ) (z1 z2 : Nat → ℝ) (pos : Nat → Nat → ℝ) (dim N X i : Nat) (hi : i < X) :
    randmethField var k z1 z2 pos dim N X i =
      ∑ j ∈ range N, ((Real.sqrt (var / N) * Real.cos (phase k (fun d => pos d i) dim j)) * z1 j +
                      (Real.sqrt (var / N) * Real.sin (phase k (fun d => pos d i) dim j)) * z2 j) := by
  unfold randmethField
  rw [summate_spec _ sched_id_admissible, if_pos hi, summateCell, forRange_cast_zero_add_eq_sum, sqrt_real, mul_sum]
  refine sum_congr rfl (fun j _ => ?_)
  rw [phaseOf_eq, cos_real, sin_real]
  ring

/-- inner product of the weight vectors at two points: `Σ_j cos⟨k_j, x − y⟩` -/
theorem weight_inner (k : Nat → Nat → ℝ) (x y : Nat → ℝ) (dim N : Nat) :
    ∑ j ∈ range N, (Real.cos (phase k x dim j) * Real.cos (phase k y dim j) +
                    Real.sin (phase k x dim j) * Real.sin (phase k y dim j)) =
    ∑ j ∈ range N, Real.cos (phase k (fun d => x d - y d) dim j) := by
  refine sum_congr rfl (fun j _ => ?_)
  rw [← phase_sub, Real.cos_sub]

/-- at coinciding points the weight vector has squared norm `N`, for every mode set (`variance_given_modes` reads the same
    off `cov_given_modes` at lag 0) -/
theorem weight_norm (k : Nat → Nat → ℝ) (x : Nat → ℝ) (dim N : Nat) :
    ∑ j ∈ range N, (Real.cos (phase k x dim j) ^ 2 + Real.sin (phase k x dim j) ^ 2) = N := by
  simp only [Real.cos_sq_add_sin_sq, sum_const, card_range, nsmul_eq_mul, mul_one]

theorem integral_sum_mul_sum {Ω : Type} [MeasurableSpace Ω] (μ : Measure Ω) (N : Nat) (f g : Nat → Ω → ℝ)
    (hint : ∀ i < N, ∀ j < N, Integrable (fun ω => f i ω * g j ω) μ) :
    ∫ ω, (∑ i ∈ range N, f i ω) * (∑ j ∈ range N, g j ω) ∂μ = ∑ i ∈ range N, ∑ j ∈ range N, ∫ ω, f i ω * g j ω ∂μ := by
  have h : ∀ i ∈ range N, Integrable (fun ω => ∑ j ∈ range N, f i ω * g j ω) μ := fun i hi =>
    integrable_finsetSum _ fun j hj => hint i (mem_range.mp hi) j (mem_range.mp hj)
  calc ∫ ω, (∑ i ∈ range N, f i ω) * (∑ j ∈ range N, g j ω) ∂μ
      = ∫ ω, ∑ i ∈ range N, ∑ j ∈ range N, f i ω * g j ω ∂μ := by simp only [sum_mul_sum]
    _ = ∑ i ∈ range N, ∫ ω, ∑ j ∈ range N, f i ω * g j ω ∂μ := integral_finsetSum _ h
    _ = _ := sum_congr rfl fun i hi => integral_finsetSum _ fun j hj => hint i (mem_range.mp hi) j (mem_range.mp hj)

/-- product second moment of two linear combinations of orthonormal random variables -/
theorem integral_mul_sum_orthonormal {Ω : Type} [MeasurableSpace Ω] (μ : Measure Ω) (N : Nat)
    (a b : Nat → ℝ) (ξ : Nat → Ω → ℝ)
    (hint : ∀ i < N, ∀ j < N, Integrable (fun ω => ξ i ω * ξ j ω) μ)
    (horth : ∀ i < N, ∀ j < N, ∫ ω, ξ i ω * ξ j ω ∂μ = if i = j then 1 else 0) :
    ∫ ω, (∑ j ∈ range N, a j * ξ j ω) * (∑ j ∈ range N, b j * ξ j ω) ∂μ = ∑ j ∈ range N, a j * b j := by
  have e : ∀ i j ω, (a i * ξ i ω) * (b j * ξ j ω) = (a i * b j) * (ξ i ω * ξ j ω) := fun i j ω => mul_mul_mul_comm ..
  rw [integral_sum_mul_sum μ N _ _ fun i hi j hj => by simp only [e]; exact (hint i hi j hj).const_mul _]
  refine sum_congr rfl fun i hi => ?_
  -- only the diagonal term `j = i` survives
  rw [sum_eq_single_of_mem i hi fun j hj hji => by
    rw [funext (e i j), integral_const_mul, horth i (mem_range.mp hi) j (mem_range.mp hj), if_neg (Ne.symm hji), mul_zero]]
  rw [funext (e i i), integral_const_mul, horth i (mem_range.mp hi) i (mem_range.mp hi), if_pos rfl, mul_one]

/-- the `2N` amplitudes `(z1, z2)` as one family, and the matching weights of a point -/
def amp {Ω : Type} (N : Nat) (z1 z2 : Nat → Ω → ℝ) (j : Nat) (ω : Ω) : ℝ := if j < N then z1 j ω else z2 (j - N) ω
noncomputable def wgtW (s : Nat → ℝ) (k : Nat → Nat → ℝ) (x : Nat → ℝ) (dim N : Nat) (j : Nat) : ℝ :=
  if j < N then s j * Real.cos (phase k x dim j) else s (j - N) * Real.sin (phase k x dim (j - N))

theorem sum_two_blocks (N : Nat) (f g : Nat → ℝ) :
    ∑ j ∈ range (N + N), (if j < N then f j else g (j - N)) = ∑ j ∈ range N, (f j + g j) := by
  rw [sum_range_add, sum_add_distrib]
  congr 1
  · exact sum_congr rfl fun j hj => if_pos (mem_range.mp hj)
  · exact sum_congr rfl fun j _ => by rw [if_neg (Nat.not_lt.2 (Nat.le_add_right N j)), Nat.add_sub_cancel_left]

/-- a linear field `Σ_j s_j (z1_j cos φ_j(x) + z2_j sin φ_j(x))` as a combination of the `2N` amplitudes -/
theorem field_as_combination_weighted {Ω : Type} (s : Nat → ℝ) (k : Nat → Nat → ℝ) (x : Nat → ℝ) (dim N : Nat)
    (z1 z2 : Nat → Ω → ℝ) (ω : Ω) :
    ∑ j ∈ range N, ((s j * Real.cos (phase k x dim j)) * z1 j ω + (s j * Real.sin (phase k x dim j)) * z2 j ω) =
    ∑ j ∈ range (N + N), wgtW s k x dim N j * amp N z1 z2 j ω := by
  rw [← sum_two_blocks]
  exact sum_congr rfl fun j _ => by unfold wgtW amp; split <;> rfl

/-- weights of the Fourier method: `Σ_j sf_j² cos⟨k_j, x − y⟩`, the Riemann sum of the spectral integral -/
theorem fourier_weight_inner (sf : Nat → ℝ) (k : Nat → Nat → ℝ) (x y : Nat → ℝ) (dim N : Nat) :
    ∑ j ∈ range N, ((sf j * Real.cos (phase k x dim j)) * (sf j * Real.cos (phase k y dim j)) +
                    (sf j * Real.sin (phase k x dim j)) * (sf j * Real.sin (phase k y dim j))) =
    ∑ j ∈ range N, sf j ^ 2 * Real.cos (phase k (fun d => x d - y d) dim j) := by
  refine sum_congr rfl (fun j _ => ?_)
  rw [← phase_sub, Real.cos_sub]; ring

/-- **covariance given the modes, arbitrary per-mode weights `s_j`**: for any probability space on which the `2N`
    amplitudes have identity second moments and for ANY wave vectors / mode lattice,
    `E[u(x) u(y)] = Σ_j s_j² cos⟨k_j, x − y⟩`. -/
theorem cov_given_modes_weighted {Ω : Type} [MeasurableSpace Ω] (μ : Measure Ω)
    (s : Nat → ℝ) (k : Nat → Nat → ℝ) (dim N : Nat) (x y : Nat → ℝ) (z1 z2 : Nat → Ω → ℝ)
    (hint : ∀ i < N + N, ∀ j < N + N, Integrable (fun ω => amp N z1 z2 i ω * amp N z1 z2 j ω) μ)
    (horth : ∀ i < N + N, ∀ j < N + N, ∫ ω, amp N z1 z2 i ω * amp N z1 z2 j ω ∂μ = if i = j then 1 else 0) :
    ∫ ω, (∑ j ∈ range N, ((s j * Real.cos (phase k x dim j)) * z1 j ω + (s j * Real.sin (phase k x dim j)) * z2 j ω)) *
          (∑ j ∈ range N, ((s j * Real.cos (phase k y dim j)) * z1 j ω + (s j * Real.sin (phase k y dim j)) * z2 j ω)) ∂μ =
      ∑ j ∈ range N, s j ^ 2 * Real.cos (phase k (fun d => x d - y d) dim j) := by
  simp only [field_as_combination_weighted]
  rw [integral_mul_sum_orthonormal μ (N + N) _ _ _ hint horth, ← fourier_weight_inner, ← sum_two_blocks]
  exact sum_congr rfl fun j _ => by unfold wgtW; split <;> rfl

/-- **covariance given the modes (randomization method)**: for any probability space on which the `2N`
    amplitudes have identity second moments, and for ANY wave vectors,
    `E[u(x) u(y)] = (var / N) Σ_j cos⟨k_j, x − y⟩`. -/
theorem cov_given_modes {Ω : Type} [MeasurableSpace Ω] (μ : Measure Ω)
    (var : ℝ) (hv : 0 ≤ var) (k : Nat → Nat → ℝ) (dim N : Nat) (x y : Nat → ℝ)
    (z1 z2 : Nat → Ω → ℝ)
    (hint : ∀ i < N + N, ∀ j < N + N, Integrable (fun ω => amp N z1 z2 i ω * amp N z1 z2 j ω) μ)
    (horth : ∀ i < N + N, ∀ j < N + N, ∫ ω, amp N z1 z2 i ω * amp N z1 z2 j ω ∂μ = if i = j then 1 else 0) :
    ∫ ω, (∑ j ∈ range N, ((Real.sqrt (var / N) * Real.cos (phase k x dim j)) * z1 j ω +
                           (Real.sqrt (var / N) * Real.sin (phase k x dim j)) * z2 j ω)) *
          (∑ j ∈ range N, ((Real.sqrt (var / N) * Real.cos (phase k y dim j)) * z1 j ω +
                           (Real.sqrt (var / N) * Real.sin (phase k y dim j)) * z2 j ω)) ∂μ =
      var / N * ∑ j ∈ range N, Real.cos (phase k (fun d => x d - y d) dim j) := by
  -- every mode carries the weight `sqrt (var / N)`
  refine (cov_given_modes_weighted μ (fun _ => Real.sqrt (var / N)) k dim N x y z1 z2 hint horth).trans ?_
  simp only [Real.sq_sqrt (div_nonneg hv (Nat.cast_nonneg N)), mul_sum]

/-- **the pointwise variance is exactly the model variance**, conditional on any mode set (`N > 0`) -/
theorem variance_given_modes {Ω : Type} [MeasurableSpace Ω] (μ : Measure Ω)
    (var : ℝ) (hv : 0 ≤ var) (k : Nat → Nat → ℝ) (dim N : Nat) (hN : 0 < N) (x : Nat → ℝ)
    (z1 z2 : Nat → Ω → ℝ)
    (hint : ∀ i < N + N, ∀ j < N + N, Integrable (fun ω => amp N z1 z2 i ω * amp N z1 z2 j ω) μ)
    (horth : ∀ i < N + N, ∀ j < N + N, ∫ ω, amp N z1 z2 i ω * amp N z1 z2 j ω ∂μ = if i = j then 1 else 0) :
    ∫ ω, (∑ j ∈ range N, ((Real.sqrt (var / N) * Real.cos (phase k x dim j)) * z1 j ω +
                           (Real.sqrt (var / N) * Real.sin (phase k x dim j)) * z2 j ω)) *
          (∑ j ∈ range N, ((Real.sqrt (var / N) * Real.cos (phase k x dim j)) * z1 j ω +
                           (Real.sqrt (var / N) * Real.sin (phase k x dim j)) * z2 j ω)) ∂μ = var := by
  rw [cov_given_modes μ var hv k dim N x x z1 z2 hint horth]
  simp only [phase_sub_self, Real.cos_zero, sum_const, card_range, nsmul_eq_mul, mul_one]
  exact div_mul_cancel₀ var (Nat.cast_ne_zero.mpr hN.ne')

/-- for amplitudes with zero mean the combination `Σ_j s (z1_j cos⟨k_j, x⟩ + z2_j sin⟨k_j, x⟩)` has zero mean at every point,
    whatever the wave vectors -/
theorem mean_given_modes {Ω : Type} [MeasurableSpace Ω] (μ : Measure Ω) (s : ℝ) (k : Nat → Nat → ℝ) (dim N : Nat)
    (x : Nat → ℝ) (z1 z2 : Nat → Ω → ℝ)
    (h1 : ∀ j < N, Integrable (z1 j) μ ∧ ∫ ω, z1 j ω ∂μ = 0) (h2 : ∀ j < N, Integrable (z2 j) μ ∧ ∫ ω, z2 j ω ∂μ = 0) :
    ∫ ω, (∑ j ∈ range N, ((s * Real.cos (phase k x dim j)) * z1 j ω + (s * Real.sin (phase k x dim j)) * z2 j ω)) ∂μ = 0 := by
  have hi : ∀ j ∈ range N, Integrable
      (fun ω => (s * Real.cos (phase k x dim j)) * z1 j ω + (s * Real.sin (phase k x dim j)) * z2 j ω) μ := fun j hj =>
    ((h1 j (mem_range.mp hj)).1.const_mul _).add ((h2 j (mem_range.mp hj)).1.const_mul _)
  rw [integral_finsetSum _ hi]
  refine sum_eq_zero fun j hj => ?_
  obtain ⟨i1, e1⟩ := h1 j (mem_range.mp hj)
  obtain ⟨i2, e2⟩ := h2 j (mem_range.mp hj)
  rw [integral_add (i1.const_mul _) (i2.const_mul _), integral_const_mul, integral_const_mul, e1, e2, mul_zero, mul_zero,
    add_zero]

/-- **Monte-Carlo unbiasedness over the wave vectors**: if each wave vector's characteristic function at
    lag `r` is the correlation `ρ r` (hypothesis: C04 + correct radial / directional sampling), the
    expectation of the conditional covariance is `var · ρ r` -/
theorem mc_unbiased {Ω : Type} [MeasurableSpace Ω] (μ : Measure Ω) (var ρr : ℝ) (N : Nat) (hN : 0 < N)
    (c : Nat → Ω → ℝ)   -- c j ω = cos⟨k_j(ω), r⟩
    (hint : ∀ j < N, Integrable (c j) μ) (hchar : ∀ j < N, ∫ ω, c j ω ∂μ = ρr) :
    ∫ ω, var / N * ∑ j ∈ range N, c j ω ∂μ = var * ρr := by
  rw [integral_const_mul, integral_finsetSum _ fun j hj => hint j (mem_range.mp hj),
    sum_congr rfl (fun j hj => hchar j (mem_range.mp hj)), sum_const, card_range, nsmul_eq_mul, ← mul_assoc,
    div_mul_cancel₀ var (Nat.cast_ne_zero.mpr hN.ne')]

/-- the Fourier field at point `i` is linear in the amplitudes, with explicit weights -/
theorem fourier_linear (sf : Nat → ℝ) (modes : Nat → Nat → ℝ) (z1 z2 : Nat → ℝ) (pos : Nat → Nat → ℝ) (dim N X i : Nat) (hi : i < X) :
    fourierField sf modes z1 z2 pos dim N X i =
      ∑ j ∈ range N, ((sf j * Real.cos (phase modes (fun d => pos d i) dim j)) * z1 j +
                      (sf j * Real.sin (phase modes (fun d => pos d i) dim j)) * z2 j) := by
  unfold fourierField
  rw [summate_fourier_spec _ sched_id_admissible, if_pos hi, fourierCell, forRange_cast_zero_add_eq_sum]
  refine sum_congr rfl (fun j _ => ?_)
  rw [phaseOf_eq, cos_real, sin_real]
  ring

/-- the spectrum factor over ℝ; `np.maximum(S, 0)` of the code cuts off negative values of a numerically computed
    spectrum -/
theorem spectrumFactor_eq (S dk : Nat → ℝ) (dim j : Nat) :
    spectrumFactor S dk dim j = Real.sqrt (max (S j) 0 * forRange 1 dim (dk 0) fun d acc => acc * dk d) := by
  rw [spectrumFactor, Nat.cast_zero, ← max_def_lt, sqrt_real]

/-- the squared spectrum factor is the (clipped) spectral mass of the mode's cell, for a non-negative cell volume -/
theorem spectrumFactor_sq_clip (S dk : Nat → ℝ) (dim j : Nat) (hP : 0 ≤ forRange 1 dim (dk 0) fun d acc => acc * dk d) :
    spectrumFactor S dk dim j ^ 2 = max (S j) 0 * forRange 1 dim (dk 0) fun d acc => acc * dk d := by
  rw [spectrumFactor_eq, Real.sq_sqrt (mul_nonneg (le_max_right _ _) hP)]

/-- the squared spectrum factor is the spectral mass of the mode's cell when the spectrum is non-negative -/
theorem spectrumFactor_sq (S dk : Nat → ℝ) (dim j : Nat) (hS : 0 ≤ S j)
    (h : 0 ≤ S j * forRange 1 dim (dk 0) fun d acc => acc * dk d) :
    spectrumFactor S dk dim j ^ 2 = S j * forRange 1 dim (dk 0) fun d acc => acc * dk d := by
  rw [spectrumFactor_eq, max_eq_left hS, Real.sq_sqrt h]

/-- **Fourier method, ensemble covariance**: the field the code computes (`fourierField` = the regenerated kernel
    `summate_fourier` applied to the generator's arrays) at two points `a`, `b` of the position array has, over any
    amplitude law with identity second moments, the covariance `Σ_j sf_j² cos⟨k_j, x_a − x_b⟩`; with the code's weights
    `sf_j = sqrt(S_j ∏Δk)` and a non-negative spectrum this is the Riemann sum `Σ_j S(k_j) ∏Δk cos⟨k_j, x_a − x_b⟩` of the
    spectral integral over the mode lattice. -/
theorem fourier_cov_given_modes {Ω : Type} [MeasurableSpace Ω] (μ : Measure Ω)
    (S dk : Nat → ℝ) (modes : Nat → Nat → ℝ) (pos : Nat → Nat → ℝ) (dim N X a b : Nat) (ha : a < X) (hb : b < X)
    (hS0 : ∀ j < N, 0 ≤ S j) (hS : ∀ j < N, 0 ≤ S j * forRange 1 dim (dk 0) fun d acc => acc * dk d)
    (z1 z2 : Nat → Ω → ℝ)
    (hint : ∀ i < N + N, ∀ j < N + N, Integrable (fun ω => amp N z1 z2 i ω * amp N z1 z2 j ω) μ)
    (horth : ∀ i < N + N, ∀ j < N + N, ∫ ω, amp N z1 z2 i ω * amp N z1 z2 j ω ∂μ = if i = j then 1 else 0) :
    ∫ ω, fourierField (spectrumFactor S dk dim) modes (fun j => z1 j ω) (fun j => z2 j ω) pos dim N X a *
         fourierField (spectrumFactor S dk dim) modes (fun j => z1 j ω) (fun j => z2 j ω) pos dim N X b ∂μ =
      ∑ j ∈ range N, (S j * forRange 1 dim (dk 0) fun d acc => acc * dk d) *
        Real.cos (phase modes (fun d => pos d a - pos d b) dim j) := by
  simp only [fourier_linear _ _ _ _ _ _ _ _ _ ha, fourier_linear _ _ _ _ _ _ _ _ _ hb]
  rw [cov_given_modes_weighted μ (spectrumFactor S dk dim) modes dim N (fun d => pos d a) (fun d => pos d b) z1 z2 hint horth]
  exact sum_congr rfl fun j hj => by rw [spectrumFactor_sq S dk dim j (hS0 j (mem_range.mp hj)) (hS j (mem_range.mp hj))]

/-- the pointwise variance of the Fourier field (`fourier_cov_given_modes` at `a = b`) is the spectral mass carried by the mode lattice,
    `Σ_j S(k_j) ∏Δk` — the quantity the search compares with the integral of the spectrum over the lattice box -/
theorem fourier_variance_given_modes {Ω : Type} [MeasurableSpace Ω] (μ : Measure Ω)
    (S dk : Nat → ℝ) (modes : Nat → Nat → ℝ) (pos : Nat → Nat → ℝ) (dim N X a : Nat) (ha : a < X)
    (hS0 : ∀ j < N, 0 ≤ S j) (hS : ∀ j < N, 0 ≤ S j * forRange 1 dim (dk 0) fun d acc => acc * dk d)
    (z1 z2 : Nat → Ω → ℝ)
    (hint : ∀ i < N + N, ∀ j < N + N, Integrable (fun ω => amp N z1 z2 i ω * amp N z1 z2 j ω) μ)
    (horth : ∀ i < N + N, ∀ j < N + N, ∫ ω, amp N z1 z2 i ω * amp N z1 z2 j ω ∂μ = if i = j then 1 else 0) :
    ∫ ω, fourierField (spectrumFactor S dk dim) modes (fun j => z1 j ω) (fun j => z2 j ω) pos dim N X a *
         fourierField (spectrumFactor S dk dim) modes (fun j => z1 j ω) (fun j => z2 j ω) pos dim N X a ∂μ =
      ∑ j ∈ range N, (S j * forRange 1 dim (dk 0) fun d acc => acc * dk d) := by
  rw [fourier_cov_given_modes μ S dk modes pos dim N X a a ha ha hS0 hS z1 z2 hint horth]
  exact sum_congr rfl fun j _ => by rw [phase_sub_self, Real.cos_zero, mul_one]

/-- adding independent nugget noise `√nugget · ε` adds exactly `nugget` to the variance -/
theorem variance_with_nugget {Ω : Type} [MeasurableSpace Ω] (μ : Measure Ω) (u ε : Ω → ℝ) (v nugget : ℝ) (hn : 0 < nugget)
    (hu : Integrable (fun ω => u ω * u ω) μ) (hue : Integrable (fun ω => u ω * ε ω) μ) (he : Integrable (fun ω => ε ω * ε ω) μ)
    (huu : ∫ ω, u ω * u ω ∂μ = v) (hcross : ∫ ω, u ω * ε ω ∂μ = 0) (hee : ∫ ω, ε ω * ε ω ∂μ = 1) :
    ∫ ω, (u ω + nuggetTerm nugget (ε ω)) * (u ω + nuggetTerm nugget (ε ω)) ∂μ = v + nugget := by
  have hexp : ∀ ω, (u ω + nuggetTerm nugget (ε ω)) * (u ω + nuggetTerm nugget (ε ω)) =
      u ω * u ω + (2 * Real.sqrt nugget) * (u ω * ε ω) + nugget * (ε ω * ε ω) := by
    intro ω
    rw [nuggetTerm, Nat.cast_zero, if_pos hn, sqrt_real]
    linear_combination (ε ω * ε ω) * Real.mul_self_sqrt hn.le
  have h1 : Integrable (fun ω => u ω * u ω + (2 * Real.sqrt nugget) * (u ω * ε ω)) μ := hu.add (hue.const_mul _)
  simp only [hexp]
  rw [integral_add h1 (he.const_mul _), integral_add hu (hue.const_mul _), integral_const_mul, integral_const_mul, huu,
    hcross, hee, mul_zero, add_zero, mul_one]

/-- `sample_sphere` returns unit vectors for all raw variates (`s = ±1`, any angle, `|z| ≤ 1`) -/
theorem sphere_unit (dim : Nat) (hd : dim = 1 ∨ dim = 2 ∨ dim = 3) (s a z : ℝ) (hs : s = 1 ∨ s = -1) (hz : z ^ 2 ≤ 1) :
    ∑ d ∈ range dim, sampleSphere dim s a z d ^ 2 = 1 := by
  rcases hd with rfl | rfl | rfl
  · rw [sum_range_one]
    show s ^ 2 = 1
    rcases hs with rfl | rfl
    · exact one_pow 2
    · exact neg_one_sq
  · rw [sum_range_succ, sum_range_one]
    exact Real.cos_sq_add_sin_sq a
  · -- `(√w cos a)² + (√w sin a)² + z² = w (cos² a + sin² a) + z²` with `w = 1 − z²`
    rw [sum_range_succ, sum_range_succ, sum_range_one]
    show (Real.sqrt (((1:Nat):ℝ) - z ^ 2) * Real.cos a) ^ 2 + (Real.sqrt (((1:Nat):ℝ) - z ^ 2) * Real.sin a) ^ 2 + z ^ 2 = 1
    rw [Nat.cast_one, mul_pow, mul_pow, Real.sq_sqrt (sub_nonneg.2 hz), ← mul_add, Real.cos_sq_add_sin_sq, mul_one,
      sub_add_cancel]

/-- `sphere_unit` in three dimensions on concrete variates -/
example : ∑ d ∈ range 3, sampleSphere 3 (1:ℝ) 0.3 0.5 d ^ 2 = 1 :=
  sphere_unit 3 (Or.inr (Or.inr rfl)) 1 0.3 0.5 (Or.inl rfl) (by norm_num)

end GSV.Props.C01
