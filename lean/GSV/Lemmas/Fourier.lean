/-
  Helper lemmas for C17 (exact periodicity of Fourier-generated fields): the kernel's loops as finite sums
  over ℝ, the effect of a shift of the points on the phases, invariance of the generator's output when every
  phase moves by an integer multiple of 2π, orthonormal rows of the derotation matrices (through the matrix
  algebra of `Lemmas.Geo`), and what each block of `Fourier.update` does to the stored grid.
-/
import GSV.Props.KernelSummate
import GSV.Model.Fourier
import GSV.Lemmas.Sum
import GSV.Lemmas.Geo
import GSV.RealInst
import Mathlib.Analysis.SpecialFunctions.Trigonometric.Basic
import Mathlib.Algebra.BigOperators.Field
import Mathlib.Algebra.BigOperators.Ring.Finset
namespace GSV.Fourier
open GSV GSV.Props GSV.Model.Fourier Finset

theorem isometrize_real (Q : Nat → Nat → ℝ) (anis : Nat → ℝ) (dim : Nat) (x : Nat → Nat → ℝ) (d i : Nat) :
    isometrize Q anis dim x d i = ∑ e ∈ range dim, (1 / anisP anis d * Q d e) * x e i := by
  unfold isometrize isoMat
  rw [forRange_cast_zero_add_eq_sum, Nat.cast_one]

theorem fourierCell_real (sf : Nat → ℝ) (modes : Nat → Nat → ℝ) (z1 z2 : Nat → ℝ) (x : Nat → Nat → ℝ)
    (dim N i : Nat) :
    fourierCell sf modes z1 z2 x dim N i ((0:Nat):ℝ) =
      ∑ j ∈ range N, sf j * (z1 j * Real.cos (phaseOf modes x dim j i) + z2 j * Real.sin (phaseOf modes x dim j i)) :=
  forRange_cast_zero_add_eq_sum N _

theorem anisP_zero (anis : Nat → ℝ) : anisP anis 0 = 1 := by simp [anisP]

theorem anisP_succ (anis : Nat → ℝ) (d : Nat) : anisP anis (d + 1) = anis d := if_neg d.succ_ne_zero

theorem anisP_pos {anis : Nat → ℝ} (h : ∀ d, 0 < anis d) (d : Nat) : 0 < anisP anis d := by
  cases d with
  | zero => rw [anisP_zero]; exact one_pos
  | succ d => rw [anisP_succ]; exact h d

theorem deltaK_real (period anis : Nat → ℝ) (d : Nat) :
    deltaK period anis d = 2 * Real.pi / period d * anisP anis d := by
  rw [deltaK, Nat.cast_ofNat, pi_real]

theorem mode1d_real (m : Nat) (dk : ℝ) (n : Nat) :
    mode1d m dk n = (((n:ℤ) - ((m / 2 : ℕ) : ℤ) : ℤ) : ℝ) * dk := rfl

theorem modeLen_even {m : Nat} (h : Even m) : modeLen m = m := Nat.two_mul_div_two_of_even h

theorem modeLen_half (m : Nat) : modeLen m / 2 = m / 2 := Nat.mul_div_cancel_left _ two_pos

theorem even_modeLen (m : Nat) : Even (modeLen m) := even_two_mul _

theorem modeLen_modeLen (m : Nat) : modeLen (modeLen m) = modeLen m := congrArg (2 * ·) (modeLen_half m)

theorem mode1d_modeLen {α : Type} [Arith α] (m : Nat) (dk : α) (n : Nat) : mode1d (modeLen m) dk n = mode1d m dk n := by
  unfold mode1d; rw [modeLen_half]

theorem gridIdx_lt (lens : Nat → Nat) (dim d j : Nat) (h : 0 < lens d) : gridIdx lens dim d j < lens d := by
  unfold gridIdx; exact Nat.mod_lt _ h

theorem phaseOf_shift (k : Nat → Nat → ℝ) {x x' : Nat → Nat → ℝ} {s : Nat → ℝ} {dim : Nat} (j : Nat) {i : Nat}
    (hx : ∀ d < dim, x' d i = x d i + s d) :
    phaseOf k x' dim j i = phaseOf k x dim j i + ∑ d ∈ range dim, k d j * s d := by
  rw [phaseOf, phaseOf, forRange_cast_zero_add_eq_sum, forRange_cast_zero_add_eq_sum, ← sum_add_distrib]
  refine sum_congr rfl fun d hd => ?_
  rw [hx d (mem_range.mp hd)]; ring

/-- a vector of the reciprocal lattice times a vector of the period lattice is an integer multiple of `2π` -/
theorem lattice_phase {k : Nat → Nat → ℝ} {L a : Nat → ℝ} {n : Nat → ℤ} (c : Nat → ℤ) {dim j : Nat}
    (hL : ∀ d < dim, L d ≠ 0) (ha : ∀ d < dim, a d ≠ 0)
    (hk : ∀ d < dim, k d j = (n d : ℝ) * (2 * Real.pi / L d * a d)) :
    ∑ d ∈ range dim, k d j * ((c d : ℝ) * L d / a d) = ((∑ d ∈ range dim, n d * c d : ℤ) : ℝ) * (2 * Real.pi) := by
  push_cast
  rw [sum_mul]
  refine sum_congr rfl fun d hd => ?_
  have hd' := mem_range.mp hd
  rw [hk d hd']
  calc (n d : ℝ) * (2 * Real.pi / L d * a d) * ((c d : ℝ) * L d / a d)
      = (n d : ℝ) * (c d : ℝ) * (2 * Real.pi) * (L d / L d * (a d / a d)) := by ring
    _ = _ := by rw [div_self (hL d hd'), div_self (ha d hd'), one_mul, mul_one]

/-- a shift of the points by a vector of the period lattice moves every phase by an integer multiple of `2π` -/
theorem phaseOf_lattice_shift {modes x x' : Nat → Nat → ℝ} {L a : Nat → ℝ} {n : Nat → ℤ} (c : Nat → ℤ) {dim j i : Nat}
    (hL : ∀ d < dim, L d ≠ 0) (ha : ∀ d < dim, a d ≠ 0)
    (hk : ∀ d < dim, modes d j = (n d : ℝ) * (2 * Real.pi / L d * a d))
    (hx : ∀ d < dim, x' d i = x d i + (c d : ℝ) * L d / a d) :
    phaseOf modes x' dim j i =
      phaseOf modes x dim j i + ((∑ d ∈ range dim, n d * c d : ℤ) : ℝ) * (2 * Real.pi) := by
  rw [phaseOf_shift modes j hx, lattice_phase c hL ha hk]

/-- the generator's output at point `i` depends on the positions only through the phases modulo `2π` -/
theorem genField_congr_phase {sched : Sched} (hs : sched.Admissible) {sf : Nat → ℝ} {modes : Nat → Nat → ℝ}
    {z1 z2 : Nat → ℝ} {N : Nat} {x x' : Nat → Nat → ℝ} {dim X i : Nat}
    (h : i < X → ∀ j < N, ∃ t : ℤ, phaseOf modes x' dim j i = phaseOf modes x dim j i + (t : ℝ) * (2 * Real.pi)) :
    genField sched sf modes z1 z2 N x' dim X i = genField sched sf modes z1 z2 N x dim X i := by
  unfold genField
  rw [summate_fourier_spec sched hs, summate_fourier_spec sched hs]
  split
  · rename_i hi
    unfold fourierCell
    refine forRange_congr _ _ _ _ (fun j _ hj acc => ?_) _
    obtain ⟨t, ht⟩ := h hi j hj
    simp only [cos_real, sin_real, ht, Real.cos_add_int_mul_two_pi, Real.sin_add_int_mul_two_pi]
  · rfl

/-- moving the points by `s·v` moves isometrized coordinate `d` by `s ⟨Q_d, v⟩ / anis'_d` -/
theorem isometrize_shift (Q : Nat → Nat → ℝ) (anis : Nat → ℝ) {dim : Nat} {x x' : Nat → Nat → ℝ} {s : ℝ} {v : Nat → ℝ}
    (d : Nat) {i : Nat} (hx : ∀ e < dim, x' e i = x e i + s * v e) :
    isometrize Q anis dim x' d i = isometrize Q anis dim x d i + s * (∑ e ∈ range dim, Q d e * v e) / anisP anis d := by
  rw [isometrize_real, isometrize_real, mul_sum, sum_div, ← sum_add_distrib]
  refine sum_congr rfl fun e he => ?_
  rw [hx e (mem_range.mp he)]; ring

/-- rows `d < n` of `Q` are orthonormal (`Q Qᵀ = I`) -/
def RowsON (n : Nat) (Q : Nat → Nat → ℝ) : Prop :=
  ∀ d < n, ∀ d' < n, ∑ e ∈ range n, Q d e * Q d' e = if d = d' then 1 else 0

/-! `Model.Fourier` writes `matrix_derotate` out for `dim ≤ 3` with its own `givens` and `mulM`; these are the Givens
rotation and the matrix product of `Model.Geo`, so orthonormality of rows comes from the matrix algebra of `Lemmas.Geo`. -/

open GSV.Lemmas.Geo (toM toM_apply toM_matmul toM_givens givM_mul_transpose)

theorem rowsON_iff (n : Nat) (Q : Nat → Nat → ℝ) : RowsON n Q ↔ toM n Q * (toM n Q).transpose = 1 := by
  simp only [RowsON, sum_range, ← Matrix.ext_iff, Fin.forall_iff, Matrix.mul_apply, Matrix.transpose_apply,
    Matrix.one_apply, toM_apply, Fin.mk.injEq]

theorem RowsON.exists_ne_zero {n : Nat} {Q : Nat → Nat → ℝ} (h : RowsON n Q) {d : Nat} (hd : d < n) :
    ∃ e < n, Q d e ≠ 0 := by
  by_contra hcon
  push Not at hcon
  have hrow := h d hd d hd
  rw [if_pos rfl, sum_eq_zero fun e he => by rw [hcon e (mem_range.mp he), zero_mul]] at hrow
  exact zero_ne_one hrow

theorem mulM_eq_matmul (n : Nat) (A B : Nat → Nat → ℝ) : mulM n A B = Model.Geo.matmul n A B := rfl

theorem givens_eq_geo {p q : Nat} (hpq : p ≠ q) (a : ℝ) : givens p q a = Model.Geo.givens (p, q) a := by
  funext d e
  rw [Lemmas.Geo.givens_apply hpq, givens, cos_real, sin_real, Nat.cast_one, Nat.cast_zero]

theorem rowsON_mul {n : Nat} {A B : Nat → Nat → ℝ} (hA : RowsON n A) (hB : RowsON n B) : RowsON n (mulM n A B) := by
  rw [rowsON_iff] at *
  rw [mulM_eq_matmul, toM_matmul, Matrix.transpose_mul, Matrix.mul_assoc, ← Matrix.mul_assoc (toM n B), hB,
    Matrix.one_mul, hA]

theorem rowsON_givens {n p q : Nat} (hpq : p < q) (hq : q < n) (a : ℝ) : RowsON n (givens p q a) := by
  rw [rowsON_iff, givens_eq_geo hpq.ne, toM_givens (hpq.trans hq) hq hpq.ne]
  exact givM_mul_transpose (by simpa using hpq.ne) a

theorem rowsON_id (n : Nat) : RowsON n (fun d e => if d = e then (1:ℝ) else 0) := by
  intro d hd d' hd'
  simp only [mul_ite, mul_one, mul_zero]
  rw [sum_ite_eq (range n) d' fun e => if d = e then (1:ℝ) else 0]
  simp [hd']

theorem derot_two_eq (angles : Nat → ℝ) : derot 2 angles = Model.Geo.givens (0, 1) (-(angles 0)) := by
  rw [← givens_eq_geo (by decide)]; rfl

theorem derot_three_eq (angles : Nat → ℝ) :
    derot 3 angles = Model.Geo.matmul 3 (Model.Geo.matmul 3 (Model.Geo.givens (0, 1) (-(angles 0)))
      (Model.Geo.givens (0, 2) (angles 1))) (Model.Geo.givens (1, 2) (-(angles 2))) := by
  rw [← givens_eq_geo (by decide), ← givens_eq_geo (by decide), ← givens_eq_geo (by decide)]; rfl

/-- `matrix_derotate(dim, angles)` has orthonormal rows (every angle; beyond `dim = 3` the model is the identity) -/
theorem rowsON_derot (dim : Nat) (angles : Nat → ℝ) : RowsON dim (derot dim angles) := by
  unfold derot
  split_ifs with h2 h3
  · subst h2
    exact rowsON_givens (by decide) (by decide) _
  · subst h3
    exact rowsON_mul (rowsON_mul (rowsON_givens (by decide) (by decide) _) (rowsON_givens (by decide) (by decide) _))
      (rowsON_givens (by decide) (by decide) _)
  · simpa using rowsON_id dim

/-! ### `Fourier.update` as a state machine: coherence of the derived grid
   (law-free: stated for an arbitrary carrier, so the invariants also hold on doubles, bit for bit) -/

section machine
set_option linter.unusedSectionVars false
variable {α : Type} [Arith α] [Transc α] [DecidableLT α] [DecidableLE α]

/-- the code's model comparison is exact on the anisotropy ratios (it is NOT: `compare` uses `np.isclose`) -/
def EqvExact (eqv : Mdl α → Mdl α → Bool) : Prop := ∀ a b, eqv a b = true → ∀ d, a.anis d = b.anis d

/-- the grid of a state is the one derived from its period, the anisotropy `anis` and its mode counts -/
structure GridOK (st : St α) (anis : Nat → α) : Prop where
  dk : ∀ d, st.deltaK d = deltaK st.period anis d
  modes : ∀ d n, st.modes1d d n = mode1d (st.modeNo d) (st.deltaK d) n
  even : ∀ d, modeLen (st.modeNo d) = st.modeNo d

structure Coherent (st : St α) : Prop where
  grid : GridOK st st.model.anis
  fresh : st.fresh = true
  zlen : st.zLen = gridN st.modeNo st.model.dim
  hasModel : st.hasModel = true

def Inv (st : St α) : Prop := st.hasPeriod = true → Coherent st

theorem gridOK_setModes {st : St α} {mreq : Nat → Nat} {anis : Nat → α}
    (hdk : ∀ d, st.deltaK d = deltaK st.period anis d) : GridOK (setModes st mreq) anis :=
  ⟨hdk, fun _ _ => (mode1d_modeLen _ _ _).symm, fun _ => modeLen_modeLen _⟩

theorem resetSeed_coherent {st : St α} {seed : Option Nat} (hg : GridOK st st.model.anis) (hm : st.hasModel = true) :
    Coherent (resetSeed st seed) :=
  ⟨⟨hg.dk, hg.modes, hg.even⟩, rfl, rfl, hm⟩

theorem setSeed_coherent {st : St α} {s : Nat} (h : Coherent st) : Coherent (setSeed st s) := by
  unfold setSeed
  split
  · exact resetSeed_coherent h.grid h.hasModel
  · exact h

theorem setSeed_frame (st : St α) (s : Nat) :
    (setSeed st s).model = st.model ∧ (setSeed st s).modeNo = st.modeNo ∧ (setSeed st s).hasPeriod = st.hasPeriod ∧
      (setSeed st s).period = st.period := by
  unfold setSeed
  split <;> exact ⟨rfl, rfl, rfl, rfl⟩

theorem seedStep_frame {st : St α} {nm : Bool} {u : Upd α} :
    (seedStep st nm u).1.modeNo = st.modeNo ∧ (seedStep st nm u).1.hasPeriod = st.hasPeriod ∧
      (seedStep st nm u).1.period = st.period := by
  rcases u with ⟨um, us, up, umn⟩
  unfold seedStep
  -- every branch returns `st`, `resetSeed` of it (these fields by `rfl`) or `setSeed` of it (`setSeed_frame`)
  cases um <;> cases us <;> dsimp only <;> split <;> first | exact ⟨rfl, rfl, rfl⟩ | exact (setSeed_frame _ _).2

theorem seedStep_out {st : St α} {nm : Bool} {u : Upd α} (h : (seedStep st nm u).2 ≠ Out.ok) :
    u.model = none ∧ u.period = none ∧ u.modeNo = none ∧ (seedStep st nm u).1 = st := by
  rcases u with ⟨um, us, up, umn⟩
  unfold seedStep at h ⊢
  -- the only branch whose output is not `ok` is: no model, no `mode_no`, no period, no seed; it returns `st`
  cases um with
  | some m => cases us <;> exact absurd (by dsimp only; split <;> rfl) h
  | none => cases umn <;> cases up <;> cases us <;> first | exact absurd rfl h | exact ⟨rfl, rfl, rfl, rfl⟩

/-- the last block leaves a coherent state: it redraws the amplitudes whenever the call touched the grid or brought a
    new model, and otherwise (`hc`) the state it was given was coherent already -/
theorem seedStep_coherent {st : St α} {nm : Bool} {u : Upd α}
    (hg : GridOK st (u.model.getD st.model).anis) (hm : u.model = none → st.hasModel = true)
    (hnm : u.model = none → nm = false)
    (hc : (nm || u.modeNo.isSome || u.period.isSome) = false → Coherent st) :
    Coherent (seedStep st nm u).1 := by
  rcases u with ⟨um, us, up, umn⟩
  unfold seedStep
  cases um with
  | some m =>
    dsimp only
    split
    · exact resetSeed_coherent ⟨hg.dk, hg.modes, hg.even⟩ rfl
    · rename_i hcond
      have hcoh := hc (eq_false_of_ne_true hcond)
      cases us with
      | some s => exact setSeed_coherent hcoh
      | none => exact hcoh
  | none =>
    obtain rfl := hnm rfl
    dsimp only
    split
    · exact resetSeed_coherent hg (hm rfl)
    · rename_i hcond
      have hcoh := hc (eq_false_of_ne_true hcond)
      cases us with
      | some s => exact setSeed_coherent hcoh
      | none => exact hcoh

theorem even_of_oddModeNo_false {dim : Nat} {mn : Array Nat} (h : oddModeNo dim (some mn) = false) {d : Nat} (hd : d < dim) :
    Even (fillToDim mn d) := by
  simp only [oddModeNo, List.any_eq_false, List.mem_range, bne_iff_ne, ne_eq, not_not] at h
  exact Nat.even_iff.2 (h d hd)

theorem anis_of_not_new {eqv : Mdl α → Mdl α → Bool} (heq : EqvExact eqv) {st : St α} {um : Option (Mdl α)}
    (h : isNewModel eqv st um = false) : (um.getD st.model).anis = st.model.anis := by
  cases um with
  | none => rfl
  | some m =>
    simp only [isNewModel, Bool.not_eq_false', Bool.and_eq_true] at h
    exact funext fun d => (heq _ _ h.2 d).symm

section
variable [Inhabited α]

/-- the first two blocks of `update` (`gridStep`, then `modesStep`) change nothing when neither a period nor mode
    counts are given and the model is not new -/
theorem steps_untouched (st : St α) (a : Nat → α) : modesStep (gridStep st a false none none) none = st := rfl

/-- the first two blocks of `update` keep the model and its flag, keep a period once there is one, and keep the stored
    period unless one is given (every branch by `rfl`) -/
theorem steps_frame (st : St α) (a : Nat → α) (nm : Bool) (up : Option (Array α)) (umn : Option (Array Nat)) :
    (modesStep (gridStep st a nm up umn) umn).model = st.model ∧
    (modesStep (gridStep st a nm up umn) umn).hasModel = st.hasModel ∧
    (st.hasPeriod = true → (modesStep (gridStep st a nm up umn) umn).hasPeriod = true) ∧
    (up = none → (modesStep (gridStep st a nm up umn) umn).period = st.period) := by
  cases up with
  | some p => cases umn <;> exact ⟨rfl, rfl, fun _ => rfl, nofun⟩
  | none =>
    unfold gridStep
    split <;> cases umn <;> exact ⟨rfl, rfl, id, fun _ => rfl⟩

/-- after the first two blocks of `update` the grid is the one derived from `a`: they recomputed it, or (`h`) it was -/
theorem gridOK_steps {st : St α} {a : Nat → α} {nm : Bool} {up : Option (Array α)} {umn : Option (Array Nat)}
    (h : up = none → (nm && st.hasPeriod) = false → GridOK st a) :
    GridOK (modesStep (gridStep st a nm up umn) umn) a := by
  cases up with
  | some p => cases umn <;> exact gridOK_setModes fun d => rfl
  | none =>
    unfold gridStep
    split
    · cases umn <;> exact gridOK_setModes fun d => rfl
    · rename_i hcond
      have hg := h rfl (eq_false_of_ne_true hcond)
      cases umn with
      | none => exact hg
      | some mn => exact gridOK_setModes hg.dk

theorem update_cases (eqv : Mdl α → Mdl α → Bool) (st : St α) (u : Upd α) :
    (∃ o, update eqv st u = (st, o) ∧ o ≠ Out.ok) ∨
    ((u.model = none → st.hasModel = true) ∧ (u.period = none → st.hasPeriod = true) ∧
      oddModeNo (u.model.getD st.model).dim u.modeNo = false ∧
      update eqv st u = seedStep (modesStep (gridStep st (u.model.getD st.model).anis (isNewModel eqv st u.model)
        u.period u.modeNo) u.modeNo) (isNewModel eqv st u.model) u) := by
  rw [update]
  dsimp only
  -- the four guards in the order the code tests them
  by_cases g1 : (!st.hasModel && u.model.isNone) = true
  · exact .inl ⟨_, if_pos g1, nofun⟩
  rw [if_neg g1]
  by_cases g2 : (st.hasModel && decide ((u.model.getD st.model).dim ≠ st.model.dim)) = true
  · exact .inl ⟨_, if_pos g2, nofun⟩
  rw [if_neg g2]
  by_cases g3 : (!st.hasPeriod && (u.period.isNone || u.modeNo.isNone)) = true
  · exact .inl ⟨_, if_pos g3, nofun⟩
  rw [if_neg g3]
  by_cases g4 : oddModeNo (u.model.getD st.model).dim u.modeNo = true
  · exact .inl ⟨_, if_pos g4, nofun⟩
  rw [if_neg g4]
  exact .inr ⟨fun h => by simpa [h] using g1, fun h => by simpa [h] using g3, by simpa using g4, rfl⟩

theorem update_accepted (eqv : Mdl α → Mdl α → Bool) (st : St α) (u : Upd α) (hm : st.hasModel = true)
    (hp : st.hasPeriod = true) (hdim : (u.model.getD st.model).dim = st.model.dim)
    (hodd : oddModeNo st.model.dim u.modeNo = false) :
    update eqv st u = seedStep (modesStep (gridStep st (u.model.getD st.model).anis (isNewModel eqv st u.model)
      u.period u.modeNo) u.modeNo) (isNewModel eqv st u.model) u := by
  unfold update
  simp only [hm, hp, hdim, hodd, Bool.not_true, Bool.false_and, ne_eq, not_true_eq_false, decide_false, Bool.and_false,
    Bool.false_eq_true, if_false]

theorem init_stores (eqv : Mdl α → Mdl α → Bool) (m : Mdl α) (seed : Nat) (period : Array α) (modeNo : Array Nat)
    (hodd : oddModeNo m.dim (some modeNo) = false) :
    (init eqv m seed period modeNo).1.hasPeriod = true ∧ (init eqv m seed period modeNo).1.hasModel = true ∧
      (init eqv m seed period modeNo).1.model = m := by
  unfold init update
  simp only [Option.getD_some, hodd]
  exact ⟨rfl, rfl, rfl⟩

end

end machine

end GSV.Fourier
