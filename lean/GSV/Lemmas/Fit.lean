/-
  Helper lemmas for C10 (variogram fitting, `GSV/Model/Fit.lean`).

  Section `generic` needs no laws (any carrier `α` with the operations): every setter either fails or returns
  "the state with that one field replaced" that passes `check_arg_bounds`; one curve evaluation / `_post_fitting`
  end in a state given by a closed formula (`curveTarget` / `postTarget`).
  Section `real` is at `ℝ` (field laws): `var = var_raw * factor` round trips, the residual sum of squares.
-/
import GSV.RealInst
import GSV.Model.Fit
import Mathlib.Tactic.Ring
import Mathlib.Algebra.BigOperators.Group.List.Basic
namespace GSV.Lemmas.Fit
open GSV GSV.Model.Fit

section generic
variable {α : Type} [Arith α] [DecidableLT α] [DecidableLE α] {c : Cfg α} {s s' : St α}

theorem bind_ok {ε β γ : Type} {x : Except ε β} {f : β → Except ε γ} {b : γ} :
    x.bind f = .ok b ↔ ∃ a, x = .ok a ∧ f a = .ok b := by
  cases x with
  | error e => exact ⟨fun h => (nomatch h), fun ⟨_, h, _⟩ => (nomatch h)⟩
  | ok a => exact ⟨fun h => ⟨a, rfl, h⟩, fun ⟨_, h, hf⟩ => by cases h; exact hf⟩

theorem ite_ok {ε β : Type} {p : Prop} [Decidable p] {x : Except ε β} {s b : β} :
    (if p then x else .ok s) = .ok b ↔ (p ∧ x = .ok b) ∨ (¬p ∧ s = b) := by
  by_cases h : p <;> simp [h]

theorem chk_ok {t : St α} (h : chk c t = .ok s') : s' = t ∧ checkAll c s' = true := by
  unfold chk at h
  split at h
  · cases h; exact ⟨rfl, ‹_›⟩
  · cases h

/-- `set_anis` + the lat-lon override of `set_len_anis` -/
def normAnis (c : Cfg α) (a : List α) : List α :=
  if c.latlon then forceOnes 2 (padAnis c.dim a) else padAnis c.dim a

theorem setNug_ok {v : α} (h : setNug c s v = .ok s') :
    s' = { s with nug := v } ∧ checkAll c s' = true := chk_ok h

theorem setVar_ok {v : α} (h : setVar c s v = .ok s') :
    s' = { s with varRaw := v / c.fac s.len s.opt } ∧ checkAll c s' = true := chk_ok h

theorem setOpt_ok {i : Nat} {v : α} (h : setOpt c s i v = .ok s') :
    s' = { s with opt := s.opt.set i v } ∧ checkAll c s' = true := chk_ok h

theorem setLenAnis_ok {l : α} {a : List α} (h : setLenAnis c s l a = .ok s') :
    s' = { s with len := l, anis := normAnis c a } ∧ checkAll c s' = true := by
  unfold setLenAnis at h
  simp only at h
  split at h
  · exact chk_ok h
  · cases h

theorem setLen_ok {v : α} (h : setLen c s v = .ok s') :
    s' = { s with len := v, anis := normAnis c s.anis } ∧ checkAll c s' = true := setLenAnis_ok h

theorem setAnis_ok {a : List α} (h : setAnis c s a = .ok s') :
    s' = { s with anis := normAnis c a } ∧ checkAll c s' = true := setLenAnis_ok h

/-- the optional-argument list after the loop `for opt in model.opt_arg: if para[opt]: setattr(...)` -/
def installOpts : List α → List Bool → Nat → List α → List α
  | o, [], _, _ => o
  | o, false :: fs, i, as => installOpts o fs (i + 1) as
  | o, true :: fs, i, as => installOpts (o.set i (as.headD zero)) fs (i + 1) as.tail

theorem installOpts_length (o : List α) (fs : List Bool) (i : Nat) (as : List α) :
    (installOpts o fs i as).length = o.length := by
  induction fs generalizing o i as with
  | nil => rfl
  | cons f fs ih => cases f <;> simp [installOpts, ih]

theorem installOpts_get_unfit (o : List α) (fs : List Bool) (i : Nat) (as : List α) (j : Nat)
    (hj : j < i ∨ fs.getD (j - i) true = false) : (installOpts o fs i as)[j]? = o[j]? := by
  induction fs generalizing o i as with
  | nil => rfl
  | cons f fs ih =>
    have hj' : j < i + 1 ∨ fs.getD (j - (i + 1)) true = false := by
      rcases Nat.lt_or_ge j (i + 1) with hlt | hge
      · exact Or.inl hlt
      · rw [show j - i = (j - (i + 1)) + 1 by omega, List.getD_cons_succ] at hj
        exact hj.imp_left Nat.lt_succ_of_lt
    cases f
    · exact ih o (i + 1) as hj'
    · have hne : i ≠ j := by
        rintro rfl
        simp at hj
      rw [installOpts, ih _ (i + 1) _ hj', List.getElem?_set_ne hne]

theorem installOpts_set_comm (o : List α) (fs : List Bool) (i j : Nat) (as : List α) (v : α) (hij : i < j) :
    (installOpts o fs j as).set i v = installOpts (o.set i v) fs j as := by
  induction fs generalizing o j as with
  | nil => rfl
  | cons f fs ih =>
    cases f
    · exact ih o (j + 1) as (Nat.lt_succ_of_lt hij)
    · rw [installOpts, installOpts, ih _ (j + 1) _ (Nat.lt_succ_of_lt hij), List.set_comm _ _ (Nat.ne_of_lt hij)]

theorem installOpts_idem (o : List α) (fs : List Bool) (i : Nat) (as : List α) :
    installOpts (installOpts o fs i as) fs i as = installOpts o fs i as := by
  induction fs generalizing o i as with
  | nil => rfl
  | cons f fs ih =>
    cases f
    · exact ih o (i + 1) as
    · simp only [installOpts]
      rw [installOpts_set_comm _ _ _ _ _ _ (Nat.lt_add_one i), List.set_set, ih]

theorem setOpts_ok {fs : List Bool} {i : Nat} {as : List α} (h : setOpts c s fs i as = .ok s') :
    s' = { s with opt := installOpts s.opt fs i as } ∧ (checkAll c s = true → checkAll c s' = true) := by
  induction fs generalizing s i as with
  | nil => cases h; exact ⟨rfl, id⟩
  | cons f fs ih =>
    cases f
    · exact ih h
    · obtain ⟨s1, h1, h2⟩ := bind_ok.mp h
      obtain ⟨rfl, c1⟩ := setOpt_ok h1
      exact ⟨(ih h2).1, fun _ => (ih h2).2 c1⟩

/-! ### one curve evaluation

  Each step of `curve` is a setter behind a flag.  The `ite_…_ok` lemmas give the state after such a step with the
  flag inside the field that may change, so that the state after all steps is a record of `if`s: `curveTarget`. -/

variable {pa : Para} {sill : Option α} {anisFit dir : Bool} {varSave : α} {x : List α}

/-- the nugget after the sill step of `curve`: `sill - var` when the sill is constrained -/
def tiedNug (sill : Option α) (v d : α) : α :=
  match sill with
  | some sl => sl - v
  | none => d

/-- the model state after a successful, non-punished call `curve(x, *args)` from state `s` -/
def curveTarget (c : Cfg α) (pa : Para) (sill : Option α) (anisFit dir : Bool) (varSave : α)
    (s : St α) (args : List α) : St α :=
  let len' := if pa.len then args.getD pa.iLen zero else s.len
  let opt' := installOpts s.opt pa.opt 0 (args.drop pa.iOpt)
  { varRaw := (if pa.var then args.getD 0 zero else varSave) / c.fac len' opt'
    len := len'
    nug := if pa.nug then args.getD pa.iNug zero
           else if pa.var then tiedNug sill (args.getD 0 zero) s.nug else s.nug
    anis := if (dir && anisFit) = true then normAnis c (lastAnis c args)
            else if pa.len then normAnis c s.anis else s.anis
    opt := opt' }

/-- a setter behind a flag: what the setter stores (`t`) if the flag is set, nothing otherwise -/
theorem ite_set_ok {b : Bool} {x : Except Err (St α)} {t : St α}
    (hx : ∀ {s'}, x = .ok s' → s' = t ∧ checkAll c s' = true) (h : (if b = true then x else .ok s) = .ok s') :
    s' = (if b then t else s) ∧ (checkAll c s = true → checkAll c s' = true) := by
  rcases ite_ok.mp h with ⟨hb, hx'⟩ | ⟨hb, rfl⟩
  · rw [if_pos hb]; exact ⟨(hx hx').1, fun _ => (hx hx').2⟩
  · rw [if_neg hb]; exact ⟨rfl, id⟩

theorem ite_setNug_ok {b : Bool} {v : α} (h : (if b = true then setNug c s v else .ok s) = .ok s') :
    s' = { s with nug := if b then v else s.nug } ∧ (checkAll c s = true → checkAll c s' = true) := by
  have := ite_set_ok setNug_ok h
  cases b <;> exact this

theorem ite_setLen_ok {b : Bool} {v : α} (h : (if b = true then setLen c s v else .ok s) = .ok s') :
    s' = { s with len := if b then v else s.len, anis := if b then normAnis c s.anis else s.anis } ∧
      (checkAll c s = true → checkAll c s' = true) := by
  have := ite_set_ok setLen_ok h
  cases b <;> exact this

theorem ite_setAnis_ok {b : Bool} {a : List α} (h : (if b = true then setAnis c s a else .ok s) = .ok s') :
    s' = { s with anis := if b then normAnis c a else s.anis } ∧
      (checkAll c s = true → checkAll c s' = true) := by
  have := ite_set_ok setAnis_ok h
  cases b <;> exact this

theorem ite_setVar_ok {b : Bool} {v : α} (h : (if b = true then setVar c s v else .ok s) = .ok s') :
    s' = { s with varRaw := if b then v / c.fac s.len s.opt else s.varRaw } ∧
      (checkAll c s = true → checkAll c s' = true) := by
  have := ite_set_ok setVar_ok h
  cases b <;> exact this

/-- the nugget tied to the sill: first step of `curve` -/
theorem sillNug_ok {b : Bool} {v : α}
    (h : (if b = true then (match sill with | some sl => setNug c s (sl - v) | none => .ok s) else .ok s) = .ok s') :
    s' = { s with nug := if b then tiedNug sill v s.nug else s.nug } ∧
      (checkAll c s = true → checkAll c s' = true) := by
  cases sill with
  | some sl => exact ite_setNug_ok h
  | none =>
    rw [ite_self] at h
    cases h
    exact ⟨by rw [tiedNug, ite_self], id⟩

/-- a call `curve(x, *args)` that does not raise either takes the punishment branch, or leaves the model with
    `args` installed and inside its bounds -/
theorem curveState_cases {args : List α} {r : Option (St α)} (h : curveState c pa sill anisFit dir varSave s args = .ok r) :
    (punished c pa sill args = true ∧ r = none) ∨
    (punished c pa sill args = false ∧ ∃ s', r = some s' ∧
      s' = curveTarget c pa sill anisFit dir varSave s args ∧ checkAll c s' = true) := by
  unfold curveState at h
  cases hp : punished c pa sill args
  · rw [hp, if_neg Bool.false_ne_true] at h
    obtain ⟨s1, h1, h⟩ := bind_ok.mp h
    obtain ⟨s2, h2, h⟩ := bind_ok.mp h
    obtain ⟨s3, h3, h⟩ := bind_ok.mp h
    obtain ⟨s4, h4, h⟩ := bind_ok.mp h
    obtain ⟨s5, h5, h⟩ := bind_ok.mp h
    obtain ⟨s6, h6, h⟩ := bind_ok.mp h
    cases h
    obtain ⟨rfl, -⟩ := sillNug_ok h1
    obtain ⟨rfl, -⟩ := ite_setLen_ok h2
    obtain ⟨rfl, -⟩ := ite_setNug_ok h3
    obtain ⟨rfl, -⟩ := setOpts_ok h4
    obtain ⟨rfl, c5⟩ := setVar_ok h5
    obtain ⟨e6, c6⟩ := ite_setAnis_ok h6
    exact Or.inr ⟨rfl, s6, rfl, e6, c6 c5⟩
  · rw [hp, if_pos rfl] at h
    cases h
    exact Or.inl ⟨rfl, rfl⟩

theorem curveState_ok {args : List α} (h : curveState c pa sill anisFit dir varSave s args = .ok (some s')) :
    s' = curveTarget c pa sill anisFit dir varSave s args ∧ checkAll c s' = true := by
  rcases curveState_cases h with ⟨-, h'⟩ | ⟨-, _, h', e, ck⟩
  · cases h'
  · cases h'; exact ⟨e, ck⟩

/-- one evaluation of the script: the curve is called, the model moves on if the call was not punished, and the
    values of the new state are recorded -/
theorem runScript_cons {s s1 : St α} {a : List α} {rest : List (List α)} {outs : List (Option (List α))} :
    runScript c pa sill anisFit dir varSave x s (a :: rest) = .ok (s1, outs) ↔
      ∃ r o, curveState c pa sill anisFit dir varSave s a = .ok r ∧
        runScript c pa sill anisFit dir varSave x (r.getD s) rest = .ok (s1, o) ∧
        outs = r.map (curveOut c dir x) :: o := by
  have record (y : Except Err (St α × List (Option (List α)))) (v : Option (List α)) :
      (y.bind fun (s', o) => .ok (s', v :: o)) = .ok (s1, outs) ↔ ∃ o, y = .ok (s1, o) ∧ outs = v :: o := by
    rw [bind_ok]
    constructor
    · rintro ⟨⟨s', o⟩, hy, h⟩; cases h; exact ⟨o, hy, rfl⟩
    · rintro ⟨o, hy, rfl⟩; exact ⟨(s1, o), hy, rfl⟩
  rw [runScript, bind_ok]
  simp only [exists_and_left]
  refine exists_congr fun r => and_congr_right fun _ => ?_
  cases r <;> exact record _ _

/-- the scripted optimiser preserves every property that installing arguments which pass `check_arg_bounds` preserves -/
theorem runScript_induct (P : St α → Prop)
    (hstep : ∀ s a s', s' = curveTarget c pa sill anisFit dir varSave s a → checkAll c s' = true → P s → P s')
    {s s1 : St α} {script : List (List α)} {outs : List (Option (List α))}
    (h : runScript c pa sill anisFit dir varSave x s script = .ok (s1, outs)) (hs : P s) : P s1 := by
  induction script generalizing s outs with
  | nil => cases h; exact hs
  | cons a rest ih =>
    obtain ⟨r, o, hr, h', -⟩ := runScript_cons.mp h
    cases r with
    | none => exact ih h' hs
    | some s2 => exact ih h' (hstep _ _ _ (curveState_ok hr).1 (curveState_ok hr).2 hs)

/-- the scripted optimiser run on `a ++ b` is the run on `a` followed by the run on `b` -/
theorem runScript_append {c : Cfg α} {pa : Para} {sill : Option α} {anisFit dir : Bool} {varSave : α}
    {x : List α} {s s1 : St α} {a b : List (List α)} {outs : List (Option (List α))}
    (h : runScript c pa sill anisFit dir varSave x s (a ++ b) = .ok (s1, outs)) :
    ∃ sm o1 o2, runScript c pa sill anisFit dir varSave x s a = .ok (sm, o1) ∧
      runScript c pa sill anisFit dir varSave x sm b = .ok (s1, o2) ∧ outs = o1 ++ o2 := by
  induction a generalizing s outs with
  | nil => exact ⟨s, [], outs, rfl, h, rfl⟩
  | cons p rest ih =>
    obtain ⟨r, o, hr, h', rfl⟩ := runScript_cons.mp h
    obtain ⟨sm, o1, o2, r1, r2, rfl⟩ := ih h'
    exact ⟨sm, _, o2, runScript_cons.mpr ⟨r, o1, hr, r1, rfl⟩, r2, rfl⟩

/-- a single evaluation: either the punishment branch (model untouched) or the arguments get installed -/
theorem runScript_single' {c : Cfg α} {pa : Para} {sill : Option α} {anisFit dir : Bool} {varSave : α}
    {x : List α} {s s1 : St α} {p : List α} {outs : List (Option (List α))}
    (h : runScript c pa sill anisFit dir varSave x s [p] = .ok (s1, outs)) :
    (punished c pa sill p = true ∧ s1 = s) ∨
    (punished c pa sill p = false ∧ s1 = curveTarget c pa sill anisFit dir varSave s p ∧ checkAll c s1 = true) := by
  obtain ⟨r, o, hr, h', -⟩ := runScript_cons.mp h
  cases h'
  rcases curveState_cases hr with ⟨hp, rfl⟩ | ⟨hp, s', rfl, e, ck⟩
  · exact Or.inl ⟨hp, rfl⟩
  · exact Or.inr ⟨hp, e, ck⟩

/-- the punishment branch needs a fitted variance and a constrained sill -/
theorem punished_false_of_var {p : List α} (h : pa.var = false) :
    punished c pa sill p = false := by
  simp [punished, h]

theorem punished_false_of_sill {c : Cfg α} {pa : Para} {p : List α} : punished c pa none p = false := by
  simp [punished]

omit [DecidableLT α] [DecidableLE α] in
theorem padAnis_length (d : Nat) (a : List α) : (padAnis d a).length = d - 1 := by
  simp only [padAnis, List.length_append, List.length_replicate, List.length_take]
  exact Nat.sub_add_cancel (Nat.min_le_left _ _)

omit [DecidableLT α] [DecidableLE α] in
theorem padAnis_of_length {d : Nat} {a : List α} (h : a.length = d - 1) : padAnis d a = a := by
  simp only [padAnis, List.take_of_length_le (le_of_eq h), h, Nat.sub_self, List.replicate_zero, List.nil_append]

omit [DecidableLT α] [DecidableLE α] in
theorem forceOnes_length (n : Nat) (l : List α) : (forceOnes n l).length = l.length := by
  induction n generalizing l with
  | zero => rfl
  | succ n ih => cases l <;> simp [forceOnes, ih]

omit [DecidableLT α] [DecidableLE α] in
theorem forceOnes_idem (n : Nat) (l : List α) : forceOnes n (forceOnes n l) = forceOnes n l := by
  induction n generalizing l with
  | zero => rfl
  | succ n ih => cases l <;> simp [forceOnes, ih]

omit [DecidableLT α] [DecidableLE α] in
theorem normAnis_length (c : Cfg α) (a : List α) : (normAnis c a).length = c.dim - 1 := by
  unfold normAnis
  split
  · rw [forceOnes_length, padAnis_length]
  · exact padAnis_length _ _

omit [DecidableLT α] [DecidableLE α] in
theorem normAnis_idem (c : Cfg α) (a : List α) : normAnis c (normAnis c a) = normAnis c a := by
  unfold normAnis
  split
  · rw [padAnis_of_length (by rw [forceOnes_length, padAnis_length]), forceOnes_idem]
  · rw [padAnis_of_length (padAnis_length _ _)]

/-- an anisotropy list in the form every setter leaves it in (`dim - 1` entries, ones for lat-lon) -/
def AnisWF (c : Cfg α) (a : List α) : Prop := normAnis c a = a

omit [DecidableLT α] [DecidableLE α] in
theorem anisWF_normAnis (c : Cfg α) (a : List α) : AnisWF c (normAnis c a) := normAnis_idem c a

theorem postOpts_ok {fs : List Bool} {i : Nat} {as d : List α}
    (h : postOpts c s fs i as = .ok (s', d)) (hlen : i + fs.length ≤ s.opt.length) :
    s' = { s with opt := installOpts s.opt fs i as } ∧ (checkAll c s = true → checkAll c s' = true) ∧
      d = (s'.opt.drop i).take fs.length := by
  induction fs generalizing s i as d with
  | nil =>
    cases h
    exact ⟨rfl, id, rfl⟩
  | cons f fs ih =>
    rw [List.length_cons] at hlen
    have hi : i < s.opt.length := by omega
    -- in both branches the loop goes on from a state `t` whose entry `i` is the dictionary entry `v`
    have key : ∀ {t : St α} {v : α} {as' d2 : List α}, postOpts c t fs (i + 1) as' = .ok (s', d2) →
        t.opt.length = s.opt.length → t.opt[i]? = some v →
        s' = { t with opt := installOpts t.opt fs (i + 1) as' } ∧ (checkAll c t = true → checkAll c s' = true) ∧
          v :: d2 = (s'.opt.drop i).take (fs.length + 1) := by
      intro t v as' d2 h1 hl hv
      obtain ⟨e, ck, ed⟩ := ih h1 (by omega)
      refine ⟨e, ck, ?_⟩
      have hq : s'.opt[i]? = some v := by
        rw [e]; exact (installOpts_get_unfit _ fs (i + 1) as' i (Or.inl (Nat.lt_add_one i))).trans hv
      obtain ⟨hl', hget⟩ := List.getElem?_eq_some_iff.mp hq
      rw [List.drop_eq_getElem_cons hl', List.take_succ_cons, ← ed, hget]
    cases f
    · obtain ⟨⟨s2, d2⟩, h1, h2⟩ := bind_ok.mp h
      cases h2
      exact key h1 rfl (by rw [List.getD_eq_getElem?_getD, List.getElem?_eq_getElem hi]; rfl)
    · obtain ⟨s1, h0, h⟩ := bind_ok.mp h
      obtain ⟨⟨s2, d2⟩, h1, h2⟩ := bind_ok.mp h
      cases h2
      obtain ⟨rfl, c0⟩ := setOpt_ok h0
      obtain ⟨e, ck, ed⟩ := key h1 List.length_set (List.getElem?_set_self hi)
      exact ⟨e, fun _ => ck c0, ed⟩

/-- overwriting `x` by `v` under the guard `b` changes nothing if `x` already is `v` under that guard (used for the dictionary
    entries that `_post_fitting` reads back after a guarded setter) -/
theorem ite_eq_of_eq_ite {β : Type} {b : Bool} {v w x : β} (h : x = if b then v else w) : (if b then v else x) = x := by
  subst h
  cases b <;> rfl

/-- the model state after a successful `_post_fitting(model, para, popt, …)` from state `s` -/
def postTarget (c : Cfg α) (pa : Para) (anisFit dir : Bool) (s : St α) (popt : List α) : St α :=
  let len' := if pa.len then popt.getD pa.iLen zero else s.len
  let opt' := installOpts s.opt pa.opt 0 (popt.drop pa.iOpt)
  { varRaw := if pa.var then popt.getD 0 zero / c.fac len' opt' else s.varRaw
    len := len'
    nug := if pa.nug then popt.getD pa.iNug zero else s.nug
    anis := if (dir && anisFit) = true then normAnis c (lastAnis c popt)
            else if pa.len then normAnis c s.anis else s.anis
    opt := opt' }

/-- the dictionary `_post_fitting` returns, in terms of the state before (`s`) and after (`s'`) -/
def postDict (c : Cfg α) (pa : Para) (dir : Bool) (s s' : St α) (popt : List α) : Dict α :=
  { var := if pa.var then popt.getD 0 zero else s.var c
    len := s'.len
    nug := s'.nug
    opt := s'.opt
    anis := if dir then some s'.anis else none }

theorem postFitting_ok {popt : List α} {d : Dict α}
    (h : postFitting c pa anisFit dir s popt = .ok (s', d)) (hlen : pa.opt.length = s.opt.length) :
    s' = postTarget c pa anisFit dir s popt ∧ d = postDict c pa dir s s' popt ∧
      (checkAll c s = true → checkAll c s' = true) := by
  unfold postFitting at h
  obtain ⟨s1, h1, h⟩ := bind_ok.mp h
  obtain ⟨s2, h2, h⟩ := bind_ok.mp h
  obtain ⟨⟨s3, dOpt⟩, h3, h⟩ := bind_ok.mp h
  obtain ⟨s4, h4, h⟩ := bind_ok.mp h
  obtain ⟨s5, h5, h⟩ := bind_ok.mp h
  cases h
  obtain ⟨rfl, c1⟩ := ite_setLen_ok h1
  obtain ⟨rfl, c2⟩ := ite_setNug_ok h2
  obtain ⟨rfl, c3, rfl⟩ := postOpts_ok h3 ((Nat.zero_add _).trans_le hlen.le)
  obtain ⟨rfl, c4⟩ := ite_setAnis_ok h4
  obtain ⟨rfl, c5⟩ := ite_setVar_ok h5
  refine ⟨rfl, ?_, fun h0 => c5 (c4 (c3 (c2 (c1 h0))))⟩
  rw [postDict, Dict.mk.injEq]
  exact ⟨rfl, ite_eq_of_eq_ite rfl, ite_eq_of_eq_ite rfl,
    List.take_of_length_le ((installOpts_length s.opt ..).trans_le hlen.ge), rfl⟩

/-- `_post_fitting` at `popt` leaves a model that is in the state of the curve evaluation at `popt` there -/
theorem postTarget_fix (s : St α) (p : List α) :
    postTarget c pa anisFit dir (curveTarget c pa sill anisFit dir varSave s p) p =
      curveTarget c pa sill anisFit dir varSave s p := by
  simp only [curveTarget, postTarget, installOpts_idem]
  rw [St.mk.injEq]
  refine ⟨?_, ite_eq_of_eq_ite rfl, ite_eq_of_eq_ite rfl, ?_, rfl⟩
  · cases pa.var <;> cases pa.len <;> rfl
  · cases (dir && anisFit)
    · cases pa.len
      · rfl
      · exact normAnis_idem c _
    · rfl

/-- after the final evaluation at a `popt` that is not punished, the model is in the state of that evaluation and
    `_post_fitting` does not move it -/
theorem postFitting_after_eval {s1 s1' s2 : St α} {popt : List α} {o2 : List (Option (List α))} {d : Dict α}
    (hev : runScript c pa sill anisFit dir varSave x s1 [popt] = .ok (s1', o2))
    (hp : punished c pa sill popt = false)
    (hpost : postFitting c pa anisFit dir s1' popt = .ok (s2, d)) (hlen : pa.opt.length = s1'.opt.length) :
    s1' = curveTarget c pa sill anisFit dir varSave s1 popt ∧ s2 = s1' := by
  rcases runScript_single' hev with ⟨hp', -⟩ | ⟨-, e1, -⟩
  · rw [hp] at hp'
    cases hp'
  refine ⟨e1, ?_⟩
  rw [(postFitting_ok hpost hlen).1, e1]
  exact postTarget_fix _ _

/-- **fixpoint**, field by field: `_post_fitting` at `popt` does not move a model that is in the state of the curve
    evaluation at `popt` -/
theorem postTarget_curveTarget (c : Cfg α) (pa : Para) (sill : Option α) (anisFit dir : Bool) (varSave : α)
    (sp : St α) (p : List α) (hnug : sill.isSome = true → pa.nug = false) :
    let s1 := curveTarget c pa sill anisFit dir varSave sp p
    let s2 := postTarget c pa anisFit dir s1 p
    s2.len = s1.len ∧ s2.nug = s1.nug ∧ s2.opt = s1.opt ∧ s2.anis = s1.anis ∧
      (pa.var = true → s2.varRaw = s1.varRaw) ∧ (pa.var = false → s2.varRaw = s1.varRaw) := by
  intro s1 s2
  have h : s2 = s1 := postTarget_fix sp p
  rw [h]
  exact ⟨rfl, rfl, rfl, rfl, fun _ => rfl, fun _ => rfl⟩

/-- the parameters that are not fitted (the variance apart) have in `t` the values they have in `s0`; the nugget counts
    as not fitted only if it is not tied to a fitted variance by the sill -/
def Unfit (pa : Para) (sill : Option α) (fitAnis : Bool) (s0 t : St α) : Prop :=
  (pa.len = false → t.len = s0.len) ∧
  (pa.nug = false → (sill = none ∨ pa.var = false) → t.nug = s0.nug) ∧
  (∀ i, pa.opt.getD i true = false → t.opt[i]? = s0.opt[i]?) ∧
  (fitAnis = false → t.anis = s0.anis)

/-- a curve evaluation and `_post_fitting` keep them, the ratios if they are in normal form -/
theorem Unfit.step {s0 s t : St α} {args : List α} (hwf : AnisWF c s0.anis) (h : Unfit pa sill (dir && anisFit) s0 s)
    (ht : t = curveTarget c pa sill anisFit dir varSave s args ∨ t = postTarget c pa anisFit dir s args) :
    Unfit pa sill (dir && anisFit) s0 t := by
  obtain ⟨p1, p2, p3, p4⟩ := h
  have hanis : (dir && anisFit) = false →
      (if (dir && anisFit) = true then normAnis c (lastAnis c args)
        else if pa.len = true then normAnis c s.anis else s.anis) = s0.anis := by
    intro hd
    rw [if_neg (ne_true_of_eq_false hd), p4 hd]
    split
    · exact hwf
    · rfl
  have hopt : ∀ i, pa.opt.getD i true = false →
      (installOpts s.opt pa.opt 0 (args.drop pa.iOpt))[i]? = s0.opt[i]? :=
    fun i hi => (installOpts_get_unfit _ _ _ _ _ (Or.inr hi)).trans (p3 i hi)
  have hlen : pa.len = false → (if pa.len = true then args.getD pa.iLen zero else s.len) = s0.len :=
    fun hl => (if_neg (ne_true_of_eq_false hl)).trans (p1 hl)
  rcases ht with rfl | rfl
  · refine ⟨hlen, fun hn hs => ?_, hopt, hanis⟩
    simp only [curveTarget, hn, Bool.false_eq_true, ↓reduceIte]
    rcases hs with rfl | hv
    · rw [tiedNug, ite_self]; exact p2 hn (Or.inl rfl)
    · rw [if_neg (ne_true_of_eq_false hv)]; exact p2 hn (Or.inr hv)
  · exact ⟨hlen, fun hn hs => (if_neg (ne_true_of_eq_false hn)).trans (p2 hn hs), hopt, hanis⟩

/-- is the parameter fitted? -/
def paraGet (pa : Para) : Par → Bool
  | .var => pa.var
  | .len => pa.len
  | .nug => pa.nug
  | .opt i => pa.opt.getD i true
  | .unknown => true

theorem desel_opt_length (p : Para) (a : Par) : (p.desel a).opt.length = p.opt.length := by
  cases a <;> simp [Para.desel]

theorem foldl_desel_opt_length (des : List Par) (p : Para) :
    (des.foldl Para.desel p).opt.length = p.opt.length := by
  induction des generalizing p with
  | nil => rfl
  | cons a des ih => rw [List.foldl_cons, ih, desel_opt_length]

theorem paraGet_desel {s : St α} (p : Para) (a q : Par) (hq : validPar s q = true)
    (hl : p.opt.length = s.opt.length) : paraGet (p.desel a) q = (!(q == a) && paraGet p q) := by
  cases q with
  | unknown => cases hq
  | opt i =>
    cases a with
    | opt j =>
      have hi : i < p.opt.length := by simpa [validPar, hl] using hq
      by_cases hji : j = i
      · subst hji; simp [Para.desel, paraGet, hi]
      · simp [Para.desel, paraGet, List.getElem?_set_ne hji, Ne.symm hji]
    | _ => rfl
  | _ => cases a <;> rfl

/-- after the deselection loop a name of the model is still fitted iff it was and is not in the list -/
theorem paraGet_foldl_desel {s : St α} (des : List Par) (p : Para) (q : Par) (hq : validPar s q = true)
    (hl : p.opt.length = s.opt.length) :
    paraGet (des.foldl Para.desel p) q = (!des.contains q && paraGet p q) := by
  induction des generalizing p with
  | nil => rfl
  | cons a des ih =>
    rw [List.foldl_cons, ih _ (by rw [desel_opt_length, hl]), paraGet_desel p a q hq hl, List.contains_cons,
      Bool.not_or, Bool.and_assoc, Bool.and_left_comm]

theorem validPar_congr {s t : St α} (h : t.opt.length = s.opt.length) (p : Par) : validPar t p = validPar s p := by
  cases p <;> simp only [validPar, h]

theorem mem_deselected {sel : List (Par × Sel α)} {p : Par} (h : (deselected sel).contains p = true) :
    ∃ ps ∈ sel, ps.1 = p := by
  simp only [deselected, List.contains_eq_mem, decide_eq_true_eq, List.mem_filterMap] at h
  obtain ⟨ps, hps, hq⟩ := h
  refine ⟨ps, hps, ?_⟩
  split at hq
  · cases hq
  · exact Option.some.inj hq

theorem setPar_frame {p : Par} {v : α} (h : setPar c s p v = .ok s') :
    checkAll c s' = true ∧ s'.opt.length = s.opt.length := by
  cases p with
  | var => obtain ⟨rfl, ck⟩ := setVar_ok h; exact ⟨ck, rfl⟩
  | len => obtain ⟨rfl, ck⟩ := setLen_ok h; exact ⟨ck, rfl⟩
  | nug => obtain ⟨rfl, ck⟩ := setNug_ok h; exact ⟨ck, rfl⟩
  | opt i => obtain ⟨rfl, ck⟩ := setOpt_ok h; exact ⟨ck, List.length_set⟩
  | unknown => cases h

/-- the first loop keeps the model inside its bounds and the number of optional arguments, and every name it meets is
    one of the model's -/
theorem preLoop_ok {vl vl' : Option α} {sel : List (Par × Sel α)} (h : preLoop c s vl sel = .ok (s', vl')) :
    (checkAll c s = true → checkAll c s' = true) ∧ s'.opt.length = s.opt.length ∧
      ∀ ps ∈ sel, validPar s ps.1 = true := by
  revert h
  fun_induction preLoop c s vl sel
  case case1 =>  -- no entry left
    intro h
    cases h
    exact ⟨id, rfl, fun _ hps => nomatch hps⟩
  case case2 hv _ ih | case3 hv ih =>  -- a flag: nothing is written; a fixed `var`: remembered
    intro h
    obtain ⟨c1, l1, v1⟩ := ih h
    exact ⟨c1, l1, List.forall_mem_cons.mpr ⟨hv, v1⟩⟩
  case case4 hv _ _ ih =>  -- another fixed value: written
    intro h
    obtain ⟨s1, h1, h2⟩ := bind_ok.mp h
    obtain ⟨c1, l1⟩ := setPar_frame h1
    obtain ⟨c2, l2, v2⟩ := ih s1 h2
    refine ⟨fun _ => c2 c1, l2.trans l1, List.forall_mem_cons.mpr ⟨hv, fun ps hps => ?_⟩⟩
    rw [← validPar_congr l1]
    exact v2 ps hps
  case case5 => exact fun h => nomatch h  -- unknown name

/-- the sill step writes nugget and variance only, always deselects the nugget and never reselects; when the
    variance ends deselected, either it was set to `sill - nugget` or the nugget was set to `sill - variance` -/
theorem preSill_ok {des des' : List Par} {sl : α} (h : preSill c s des sl = .ok (s', des')) :
    (checkAll c s = true → checkAll c s' = true) ∧ s'.opt = s.opt ∧ s'.len = s.len ∧
      des'.contains .nug = true ∧ (∀ p, des.contains p = true → des'.contains p = true) ∧
      (des'.contains .var = true →
        s'.varRaw = (sl - s'.nug) / c.fac s.len s.opt ∨ (s'.varRaw = s.varRaw ∧ s'.nug = sl - s.var c)) := by
  have happ : ∀ (q p : Par), des.contains p = true → (des ++ [q]).contains p = true := fun q p hp => by
    rw [List.contains_append, hp, Bool.true_or]
  have hlast : ∀ q : Par, (des ++ [q]).contains q = true := fun q => by simp
  revert h
  fun_cases preSill c s des sl
  case case1 hvn _ _ _ =>  -- `var`, `nugget` both fixed, `sill < var`: nugget to its lower bound, `var = sill - nugget`
    intro h
    obtain ⟨s1, h1, h⟩ := bind_ok.mp h
    obtain ⟨s2, h2, h⟩ := bind_ok.mp h
    cases h
    obtain ⟨rfl, -⟩ := setNug_ok h1
    obtain ⟨rfl, c2⟩ := setVar_ok h2
    exact ⟨fun _ => c2, rfl, rfl, (Bool.and_eq_true_iff.mp hvn).2, fun _ hp => hp, fun _ => Or.inl rfl⟩
  case case2 | case4 | case6 | case9 => exact fun h => nomatch h  -- the raising branches
  case case3 hvn _ =>  -- both fixed, `var ≤ sill`: `nugget = sill - var`
    intro h
    obtain ⟨s1, h1, h⟩ := bind_ok.mp h
    cases h
    obtain ⟨rfl, c1⟩ := setNug_ok h1
    exact ⟨fun _ => c1, rfl, rfl, (Bool.and_eq_true_iff.mp hvn).2, fun _ hp => hp, fun _ => Or.inr ⟨rfl, rfl⟩⟩
  case case5 =>  -- only `var` fixed: `nugget = sill - var`, nugget deselected
    intro h
    obtain ⟨s1, h1, h⟩ := bind_ok.mp h
    cases h
    obtain ⟨rfl, c1⟩ := setNug_ok h1
    exact ⟨fun _ => c1, rfl, rfl, hlast _, happ _, fun _ => Or.inr ⟨rfl, rfl⟩⟩
  case case7 hnug _ =>  -- only `nugget` fixed: `var = sill - nugget`, `var` deselected
    intro h
    obtain ⟨s1, h1, h⟩ := bind_ok.mp h
    cases h
    obtain ⟨rfl, c1⟩ := setVar_ok h1
    exact ⟨fun _ => c1, rfl, rfl, happ _ _ hnug, happ _, fun _ => Or.inl rfl⟩
  case case8 hvar _ =>  -- neither fixed: nugget deselected
    intro h
    cases h
    refine ⟨id, rfl, rfl, hlast _, happ _, fun hv => absurd ?_ hvar⟩
    simpa using hv

/-- the phases of a successful `_pre_para`: `s1`, `vl` after the first loop, `s2` after the remembered variance
    is written, `s3`, `des'` after the sill step; fixed anisotropy ratios are written last -/
theorem prePara_phases {s0 : St α} {sel : List (Par × Sel α)} {sill : SillArg α} {anis : AnisArg α}
    {pre : Pre α} (h : prePara c s0 sel sill anis = .ok pre) :
    ∃ s1 vl s2 s3 des' an,
      preLoop c s0 none sel = .ok (s1, vl) ∧
      (match vl with | some v => setVar c s1 v | none => .ok s1) = .ok s2 ∧
      (match sillValue sill (s2.var c + s2.nug) with
        | some sl => preSill c s2 (deselected sel) sl
        | none => .ok (s2, deselected sel)) = .ok (s3, des') ∧
      pre.sill = sillValue sill (s2.var c + s2.nug) ∧
      pre.para = des'.foldl Para.desel { var := true, len := true, nug := true, opt := s3.opt.map fun _ => true } ∧
      pre.st = { s3 with anis := an } ∧ (checkAll c s3 = true → checkAll c pre.st = true) := by
  unfold prePara at h
  obtain ⟨⟨s1, vl⟩, h1, h⟩ := bind_ok.mp h
  obtain ⟨s2, h2, h⟩ := bind_ok.mp h
  obtain ⟨⟨s3, des'⟩, h3, h⟩ := bind_ok.mp h
  cases anis with
  | flag b => cases h; exact ⟨s1, vl, s2, s3, des', s3.anis, h1, h2, h3, rfl, rfl, rfl, id⟩
  | fix a =>
    obtain ⟨s4, h4, h⟩ := bind_ok.mp h
    cases h
    exact ⟨s1, vl, s2, s3, des', _, h1, h2, h3, rfl, rfl, (setAnis_ok h4).1, fun _ => (setAnis_ok h4).2⟩

/-- **`_pre_para`, summary**: bounds are respected, the `para` flags line up with the optional arguments,
    a constrained sill always deselects the nugget, and everything the caller deselected or fixed is
    deselected -/
theorem prePara_ok {s0 : St α} {sel : List (Par × Sel α)} {sill : SillArg α} {anis : AnisArg α}
    {pre : Pre α} (h : prePara c s0 sel sill anis = .ok pre) :
    (checkAll c s0 = true → checkAll c pre.st = true) ∧
    pre.para.opt.length = pre.st.opt.length ∧
    (pre.sill.isSome = true → pre.para.nug = false) ∧
    (∀ p, (deselected sel).contains p = true → paraGet pre.para p = false) := by
  obtain ⟨s1, vl, s2, s3, des', an, h1, h2, h3, hsill, hpara, hst, c4⟩ := prePara_phases h
  obtain ⟨c1, l1, hvalid⟩ := preLoop_ok h1
  have h2' : (checkAll c s1 = true → checkAll c s2 = true) ∧ s2.opt = s1.opt := by
    cases vl with
    | none => cases h2; exact ⟨id, rfl⟩
    | some v => obtain ⟨rfl, ck⟩ := setVar_ok h2; exact ⟨fun _ => ck, rfl⟩
  have h3' : (checkAll c s2 = true → checkAll c s3 = true) ∧ s3.opt = s2.opt ∧
      (pre.sill.isSome = true → des'.contains .nug = true) ∧
      (∀ p, (deselected sel).contains p = true → des'.contains p = true) := by
    rw [hsill]
    generalize sillValue sill (s2.var c + s2.nug) = sv at h3 ⊢
    cases sv with
    | none => cases h3; exact ⟨id, rfl, fun hs => (nomatch hs), fun _ hp => hp⟩
    | some sl =>
      obtain ⟨f1, f2, -, f4, f5, -⟩ := preSill_ok h3
      exact ⟨f1, f2, fun _ => f4, f5⟩
  obtain ⟨⟨c2, l2⟩, c3, l3, hnug, hdes⟩ := h2', h3'
  have hl : s3.opt.length = s0.opt.length := by rw [l3, l2, l1]
  have hget : ∀ q, validPar s0 q = true → des'.contains q = true → paraGet pre.para q = false := fun q hq hd => by
    rw [hpara, paraGet_foldl_desel des' _ q hq (by rw [List.length_map, hl]), hd]
    rfl
  refine ⟨fun h0 => c4 (c3 (c2 (c1 h0))), ?_, fun hs => hget .nug rfl (hnug hs), fun p hp => ?_⟩
  · rw [hpara, foldl_desel_opt_length, hst, List.length_map]
  · obtain ⟨ps, hps, rfl⟩ := mem_deselected hp
    exact hget _ (hvalid ps hps) (hdes _ hp)

/-- **decomposition of a successful `fit_variogram`** (with or without the final evaluation at `popt`) into its
    phases; `s1` = state after the optimiser's evaluations, `s1'` = state `_post_fitting` starts from -/
theorem fitCore_ok {ev : Bool} {s0 : St α} {sel : List (Par × Sel α)} {sill : SillArg α}
    {anis : AnisArg α} {ig : IG α} {w : Weights α} {methodOk : Bool} {x y : List α} {script : List (List α)}
    {popt : List α} {r : Result α}
    (h : fitCore ev c s0 sel sill anis ig w methodOk x y script popt = .ok r) :
    ∃ pre dir s1 outs s1',
      prePara c s0 sel sill anis = .ok pre ∧ methodOk = true ∧ checkVario c x.length y.length = .ok dir ∧
      runScript c pre.para pre.sill (pre.anisFit && dir) dir (pre.st.var c) (if dir then tile c.dim x else x)
        pre.st script = .ok (s1, outs) ∧
      (if ev then ∃ o2, runScript c pre.para pre.sill (pre.anisFit && dir) dir (pre.st.var c)
          (if dir then tile c.dim x else x) s1 [popt] = .ok (s1', o2) else s1' = s1) ∧
      postFitting c pre.para (pre.anisFit && dir) dir s1' popt = .ok (r.st, r.dict) ∧
      r.para = pre.para ∧ r.sill = pre.sill ∧ r.dir = dir ∧ r.anisFit = (pre.anisFit && dir) ∧ r.outs = outs ∧
      r.xdata = (if dir then tile c.dim x else x) ∧
      r.r2 = r2Score c dir (if dir then tile c.dim x else x) y r.st := by
  unfold fitCore at h
  obtain ⟨pre, h1, h⟩ := bind_ok.mp h
  cases methodOk with
  | false => cases h
  | true =>
    obtain ⟨dir, h2, h⟩ := bind_ok.mp h
    obtain ⟨g, h3, h⟩ := bind_ok.mp h
    obtain ⟨⟨s1, outs⟩, h4, h⟩ := bind_ok.mp h
    obtain ⟨⟨s1', o2⟩, h5, h⟩ := bind_ok.mp h
    obtain ⟨⟨s2, d⟩, h6, h⟩ := bind_ok.mp h
    cases h
    refine ⟨pre, dir, s1, outs, s1', h1, rfl, h2, h4, ?_, h6, rfl, rfl, rfl, rfl, rfl, rfl, rfl⟩
    cases ev
    · cases h5
      rfl
    · rw [if_pos rfl] at h5 ⊢
      split at h5
      · cases h5
      · exact ⟨o2, h5⟩

end generic

section real

@[simp] theorem zero_real : (zero : ℝ) = 0 := Nat.cast_zero
@[simp] theorem one_real : (one : ℝ) = 1 := Nat.cast_one

theorem sumL_eq (l : List ℝ) : sumL l = l.sum := by
  rw [sumL, zero_real, List.sum_eq_foldl]

theorem ssRes_self (y : List ℝ) : ssRes y y = 0 := by
  rw [ssRes, sumL_eq, List.zip_eq_zipWith, List.zipWith_self, List.map_map]
  refine List.sum_eq_zero fun a ha => ?_
  obtain ⟨b, -, rfl⟩ := List.mem_map.mp ha
  simp

/-- the sill step of `_pre_para` leaves `var + nugget = sill` whenever the variance is not fitted afterwards -/
theorem preSill_sum {c : Cfg ℝ} {s s' : St ℝ} {des des' : List Par} {sl : ℝ} (hf : ∀ l o, c.fac l o ≠ 0)
    (h : preSill c s des sl = .ok (s', des')) (hv : des'.contains .var = true) :
    s'.var c + s'.nug = sl := by
  obtain ⟨-, ho, hl, -, -, hsum⟩ := preSill_ok h
  rw [St.var, ho, hl]
  rcases hsum hv with e | ⟨e1, e2⟩
  · rw [e, div_mul_cancel₀ _ (hf _ _)]; ring
  · rw [e1, e2, St.var]; ring

theorem curveTarget_var {c : Cfg ℝ} (hf : ∀ l o, c.fac l o ≠ 0) (pa : Para) (sill : Option ℝ) (anisFit dir : Bool)
    (varSave : ℝ) (s : St ℝ) (args : List ℝ) :
    (curveTarget c pa sill anisFit dir varSave s args).var c = if pa.var then args.getD 0 0 else varSave := by
  simp only [St.var, curveTarget, zero_real]
  exact div_mul_cancel₀ _ (hf _ _)

theorem postTarget_var {c : Cfg ℝ} (hf : ∀ l o, c.fac l o ≠ 0) {pa : Para} (hv : pa.var = true) (anisFit dir : Bool)
    (s : St ℝ) (popt : List ℝ) : (postTarget c pa anisFit dir s popt).var c = popt.getD 0 0 := by
  simp only [St.var, postTarget, hv, ↓reduceIte, zero_real]
  exact div_mul_cancel₀ _ (hf _ _)

end real

end GSV.Lemmas.Fit
