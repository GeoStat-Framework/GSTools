/-
  Lemmas behind C19 (field transformations), all at `ℝ`.  The standard normal cdf is abstract (`IsStdNormalCdf`); the last
  section proves the properties asked of it for Mathlib's Gaussian cdf.
-/
import GSV.RealInst
import GSV.Model.Transform
import Mathlib.Algebra.BigOperators.Group.List.Basic
import Mathlib.Algebra.Order.BigOperators.Group.List
import Mathlib.Data.List.Sort
import Mathlib.MeasureTheory.Measure.Real
import Mathlib.MeasureTheory.Constructions.BorelSpace.Order
import Mathlib.Analysis.SpecialFunctions.Log.Basic
import Mathlib.Analysis.SpecialFunctions.Trigonometric.Inverse
import Mathlib.Analysis.SpecialFunctions.Pow.Real
import Mathlib.Analysis.SpecialFunctions.Integrals.Basic
import Mathlib.Probability.Distributions.Gaussian.Real
import Mathlib.Probability.CDF
import Mathlib.Tactic.Positivity
import Mathlib.Tactic.NormNum.OfScientific
import Mathlib.Tactic.Ring
import Mathlib.Tactic.FieldSimp
import Mathlib.Tactic.Linarith
namespace GSV.Lemmas.Transform
open GSV GSV.Transc GSV.Model.Transform MeasureTheory

/-! ### the decimal literals of the model at `ℝ` -/

theorem lit20 : @OfScientific.ofScientific ℝ instArithReal.toOfScientific 20 true 1 = 2 := by norm_num
theorem lit50 : @OfScientific.ofScientific ℝ instArithReal.toOfScientific 50 true 1 = 5 := by norm_num
theorem lit30 : @OfScientific.ofScientific ℝ instArithReal.toOfScientific 30 true 1 = 3 := by norm_num
theorem lit05 : @OfScientific.ofScientific ℝ instArithReal.toOfScientific 5 true 1 = 1 / 2 := by norm_num
theorem lit00 : @OfScientific.ofScientific ℝ instArithReal.toOfScientific 0 true 1 = 0 := by norm_num
theorem lit10 : @OfScientific.ofScientific ℝ instArithReal.toOfScientific 10 true 1 = 1 := by norm_num

/-! ### sample moments -/

theorem lsum_eq (l : List ℝ) : lsum l = l.sum := by
  rw [lsum, Nat.cast_zero]; exact List.sum_eq_foldl.symm

theorem lmean_eq (l : List ℝ) : lmean l = l.sum / (l.length : ℝ) := by
  unfold lmean; rw [lsum_eq]

theorem sum_map_affine (l : List ℝ) (f : ℝ → ℝ) (c d : ℝ) :
    (l.map fun x => c * f x + d).sum = c * (l.map f).sum + l.length * d := by
  induction l with
  | nil => simp
  | cons x l ih => simp [ih]; ring

theorem length_ne_zero {l : List ℝ} (hl : l ≠ []) : (l.length : ℝ) ≠ 0 :=
  Nat.cast_ne_zero.mpr (mt List.length_eq_zero_iff.mp hl)

theorem lmean_map_affine (l : List ℝ) (hl : l ≠ []) (f : ℝ → ℝ) (c d : ℝ) :
    lmean (l.map fun x => c * f x + d) = c * lmean (l.map f) + d := by
  have hn := length_ne_zero hl
  rw [lmean_eq, lmean_eq, sum_map_affine, List.length_map, List.length_map, add_div, mul_div_assoc,
    mul_div_cancel_left₀ d hn]

theorem lmean_forceMoments (l : List ℝ) (hl : l ≠ []) (m v : ℝ) :
    lmean (forceMoments m v l) = m := by
  have h0 : lmean (l.map fun x => x - lmean l) = 0 := by
    have := lmean_map_affine l hl (fun x => x) 1 (-(lmean l))
    simpa only [one_mul, ← sub_eq_add_neg, List.map_id', sub_self] using this
  rw [forceMoments, lmean_map_affine l hl (fun x => x - lmean l), h0, mul_zero, zero_add]

theorem lvar_nonneg (l : List ℝ) : 0 ≤ lvar l := by
  rw [lvar, lmean_eq]
  exact div_nonneg (List.sum_nonneg fun x hx => by
    obtain ⟨y, _, rfl⟩ := List.mem_map.mp hx
    exact mul_self_nonneg _) (Nat.cast_nonneg _)

/-- the deviations from the new mean are `√(v/σ²)` times the old deviations, so their mean square is `v/σ² · σ²` -/
theorem lvar_forceMoments (l : List ℝ) (hl : l ≠ []) (m v : ℝ) (hv : 0 ≤ v) (hvar : lvar l ≠ 0) :
    lvar (forceMoments m v l) = v := by
  have hc : sqrt (v / lvar l) * sqrt (v / lvar l) = v / lvar l :=
    Real.mul_self_sqrt (div_nonneg hv (lvar_nonneg l))
  rw [lvar, lmean_forceMoments l hl, forceMoments, List.map_map]
  have h3 : ((fun x => (x - m) * (x - m)) ∘ fun x => sqrt (v / lvar l) * (x - lmean l) + m)
      = fun x => v / lvar l * ((x - lmean l) * (x - lmean l)) + 0 := by
    funext x
    generalize sqrt (v / lvar l) = c at hc
    rw [← hc, Function.comp]
    ring
  rw [h3, lmean_map_affine l hl fun x => (x - lmean l) * (x - lmean l), add_zero]
  exact div_mul_cancel₀ v hvar

/-! ### the masked writes of `array_discrete` -/

/-- no write fires if no two thresholds have `x` between them -/
theorem classifyMid_miss (mid thr : List ℝ) (x : ℝ) (acc : Option ℝ)
    (h : ∀ s ∈ thr, ∀ t ∈ thr, ¬(s < x ∧ x ≤ t)) : classifyMid mid thr x acc = acc := by
  fun_induction classifyMid mid thr x acc with
  | case1 v vs t0 t1 ts x acc ih =>
    rw [ih fun s hs t ht => h s (List.mem_cons_of_mem _ hs) t (List.mem_cons_of_mem _ ht),
      if_neg (h t0 List.mem_cons_self t1 (List.mem_cons_of_mem _ List.mem_cons_self))]
  | case2 => rfl

/-- the write of the bracketing pair `(thr[i], thr[i+1]]` is the last one that fires: later pairs start at or above `x` -/
theorem classifyMid_hit (mid thr : List ℝ) (x : ℝ) (acc : Option ℝ) (i : ℕ)
    (hi : i + 1 < thr.length) (hm : i < mid.length) (hs : thr.Pairwise (· < ·))
    (h1 : thr[i]'(Nat.lt_of_succ_lt hi) < x) (h2 : x ≤ thr[i + 1]) : classifyMid mid thr x acc = some mid[i] := by
  fun_induction classifyMid mid thr x acc generalizing i with
  | case1 v vs t0 t1 ts x acc ih =>
    have hs' := (List.pairwise_cons.mp hs).2
    cases i with
    | zero =>
      rw [classifyMid_miss _ _ _ _ fun s hs _ _ hc => hc.1.not_ge ?_, if_pos ⟨h1, h2⟩]; rfl
      rcases List.mem_cons.mp hs with rfl | hs
      · exact h2
      · exact h2.trans ((List.pairwise_cons.mp hs').1 s hs).le
    | succ j => exact ih j (Nat.lt_of_succ_lt_succ hi) (Nat.lt_of_succ_lt_succ hm) hs' h1 h2
  | case2 mid thr x acc hne =>
    match mid, thr, hm, hi with
    | v :: vs, t0 :: t1 :: ts, _, _ => exact (hne _ _ _ _ _ rfl rfl).elim

theorem classifyMid_mem (mid thr : List ℝ) (x : ℝ) (acc : Option ℝ) :
    classifyMid mid thr x acc = acc ∨ ∃ v ∈ mid, classifyMid mid thr x acc = some v := by
  fun_induction classifyMid mid thr x acc with
  | case1 v vs t0 t1 ts x acc ih =>
    rcases ih with h | ⟨w, hw, h⟩
    · rw [h]
      split
      · exact .inr ⟨v, List.mem_cons_self, rfl⟩
      · exact .inl rfl
    · exact .inr ⟨w, List.mem_cons_of_mem _ hw, h⟩
  | case2 => exact .inl rfl

/-- where `x` lies relative to the thresholds up to `thr[n]` -/
theorem bracket_cases (thr : List ℝ) (x : ℝ) (hpos : 0 < thr.length) :
    ∀ n (hn : n < thr.length), x ≤ thr[0] ∨ thr[n] < x ∨
      ∃ i, ∃ (hi : i + 1 < thr.length), thr[i]'(Nat.lt_of_succ_lt hi) < x ∧ x ≤ thr[i + 1]
  | 0, _ => (le_or_gt x thr[0]).imp_right .inl
  | n + 1, hn =>
    (bracket_cases thr x hpos n (Nat.lt_of_succ_lt hn)).imp_right fun h =>
      h.elim (fun hlt => (lt_or_ge thr[n + 1] x).imp_right fun hle => ⟨n, hn, hlt, hle⟩) .inr

/-! ### threshold lists -/

/-- `ascending` compares neighbours; for `<` that is the same as comparing all pairs -/
theorem ascending_iff_pairwise (thr : List ℝ) : ascending thr = true ↔ thr.Pairwise (· < ·) := by
  rw [← List.isChain_iff_pairwise]
  fun_induction ascending thr with
  | case1 a b t ih => simp [ih]
  | case2 l h =>
    match l, h with
    | [], _ => simp
    | [_], _ => simp
    | a :: b :: t, h => exact absurd rfl (h a b t)

theorem getElem_le_of_ascending {l : List ℝ} (hl : l.Pairwise (· < ·)) {i j : ℕ} (hj : j < l.length) (hij : i ≤ j) :
    l[i]'(by omega) ≤ l[j] := by
  rcases hij.lt_or_eq with h | rfl
  · exact (List.pairwise_iff_getElem.mp hl i j _ hj h).le
  · exact le_rfl

/-! What the masked writes of `array_discrete` leave in one entry, for ascending thresholds with `thr[0]` and the last one as
    the outer bounds. -/

section
variable {thr : List ℝ} (hasc : thr.Pairwise (· < ·)) (hpos : 0 < thr.length) {v0 vl : ℝ} {mid : List ℝ} {x : ℝ}
include hasc

/-- left of all thresholds only the first write fires -/
theorem classify_of_le (h : x ≤ thr[0]) :
    classify v0 vl mid thr[0] (thr[thr.length - 1]'(Nat.sub_one_lt_of_lt hpos)) thr x = some v0 := by
  rw [classify, if_pos h, if_neg (not_lt.mpr (h.trans (getElem_le_of_ascending hasc _ (Nat.zero_le _)))), classifyMid_miss]
  intro s hs _ _ hc
  obtain ⟨i, hi, rfl⟩ := List.getElem_of_mem hs
  exact hc.1.not_ge (h.trans (getElem_le_of_ascending hasc hi (Nat.zero_le i)))

/-- right of all of them the second write is the last to fire -/
theorem classify_of_gt (h : thr[thr.length - 1]'(Nat.sub_one_lt_of_lt hpos) < x) :
    classify v0 vl mid thr[0] (thr[thr.length - 1]'(Nat.sub_one_lt_of_lt hpos)) thr x = some vl := by
  rw [classify, if_pos h, classifyMid_miss]
  intro _ _ t ht hc
  obtain ⟨i, hi, rfl⟩ := List.getElem_of_mem ht
  exact hc.2.not_gt ((getElem_le_of_ascending hasc _ (Nat.le_sub_one_of_lt hi)).trans_lt h)

/-- in between, the loop's write for the bracketing pair is the one that remains -/
theorem classify_of_bracket {t0 tl : ℝ} {i : ℕ} (hi : i + 1 < thr.length) (hm : i < mid.length)
    (h1 : thr[i]'(Nat.lt_of_succ_lt hi) < x) (h2 : x ≤ thr[i + 1]) : classify v0 vl mid t0 tl thr x = some mid[i] := by
  rw [classify, classifyMid_hit mid thr x _ i hi hm hasc h1 h2]

end

theorem abs_sub_le_of_midpoint_lt {a' a c x : ℝ} (h' : a' ≤ a) (hac : a ≤ c) (h : (c + a) / 2 < x) :
    |x - c| ≤ |x - a'| :=
  (abs_le.mpr ⟨by linarith, by linarith⟩).trans (le_abs_self _)

theorem abs_sub_le_of_le_midpoint {c b b' x : ℝ} (h' : b ≤ b') (hcb : c ≤ b) (h : x ≤ (b + c) / 2) :
    |x - c| ≤ |x - b'| :=
  (abs_le.mpr ⟨by linarith, by linarith⟩).trans (neg_le_abs _)

/-- with the midpoints of a strictly ascending list `sv` as thresholds, `x` is at least as close to `sv[k]` as to any other entry
    once it lies right of the threshold below `sv[k]` and not right of the one above it (as far as these exist) -/
theorem nearest_of_midpoints {sv thr : List ℝ} (hs : sv.Pairwise (· < ·)) (hlen : sv.length = thr.length + 1)
    (hthr : ∀ i (hi : i < thr.length),
      thr[i] = (sv[i + 1]'(hlen ▸ Nat.succ_lt_succ hi) + sv[i]'(hlen ▸ Nat.lt_succ_of_lt hi)) / 2)
    {k : ℕ} (hk : k < sv.length) {x : ℝ}
    (hL : ∀ h : 0 < k, thr[k - 1]'(Nat.sub_one_lt_of_le h (Nat.le_of_lt_succ (hk.trans_eq hlen))) < x)
    (hR : ∀ h : k < thr.length, x ≤ thr[k]) (j : ℕ) (hj : j < sv.length) :
    |x - sv[k]| ≤ |x - sv[j]| := by
  rcases lt_trichotomy j k with h | rfl | h
  · obtain ⟨i, rfl⟩ := Nat.exists_eq_add_one_of_ne_zero (Nat.ne_zero_of_lt h)
    exact abs_sub_le_of_midpoint_lt (getElem_le_of_ascending hs (Nat.lt_of_succ_lt hk) (Nat.le_of_lt_succ h))
      (getElem_le_of_ascending hs hk (Nat.le_succ i))
      ((hthr i (Nat.lt_of_succ_lt_succ (hk.trans_eq hlen))).symm.trans_lt (hL i.succ_pos))
  · exact le_rfl
  · have hk' : k < thr.length := Nat.lt_of_succ_lt_succ ((Nat.lt_of_le_of_lt h hj).trans_eq hlen)
    exact abs_sub_le_of_le_midpoint (getElem_le_of_ascending hs hj h)
      (getElem_le_of_ascending hs _ (Nat.le_succ k)) ((hR hk').trans_eq (hthr k hk'))

theorem strict_of_nodup {l : List ℝ} (hs : l.Pairwise (· ≤ ·)) (hn : l.Nodup) : l.Pairwise (· < ·) :=
  (hs.and hn).imp fun ⟨h1, h2⟩ => lt_of_le_of_ne h1 h2

theorem sortVals_perm (vals : List ℝ) : (sortVals vals).Perm vals := List.mergeSort_perm _ _

theorem sortVals_sorted (vals : List ℝ) : (sortVals vals).Pairwise (· ≤ ·) := List.pairwise_mergeSort' (· ≤ ·) vals

theorem midpoints_eq_zipWith : ∀ l : List ℝ, midpoints l = List.zipWith (fun a b => (b + a) / 2) l l.tail
  | [] => rfl
  | [_] => rfl
  | a :: b :: t => by
    rw [midpoints, midpoints_eq_zipWith (b :: t)]
    simp only [List.tail_cons, List.zipWith_cons_cons, Nat.cast_ofNat]

theorem midpoints_length (l : List ℝ) : (midpoints l).length = l.length - 1 := by
  rw [midpoints_eq_zipWith, List.length_zipWith, List.length_tail, Nat.min_eq_right (Nat.sub_le _ _)]

theorem midpoints_getElem (l : List ℝ) (i : ℕ) (hi : i < (midpoints l).length) :
    (midpoints l)[i] = (l[i + 1]'(Nat.add_lt_of_lt_sub (midpoints_length l ▸ hi)) +
      l[i]'(Nat.lt_of_succ_lt (Nat.add_lt_of_lt_sub (midpoints_length l ▸ hi)))) / 2 := by
  simp only [midpoints_eq_zipWith, List.getElem_zipWith, List.getElem_tail]

theorem midpoints_ascending {l : List ℝ} (hs : l.Pairwise (· < ·)) : (midpoints l).Pairwise (· < ·) := by
  rw [List.pairwise_iff_getElem]
  intro i j hi hj hij
  rw [midpoints_getElem, midpoints_getElem]
  exact div_lt_div_of_pos_right (add_lt_add (List.pairwise_iff_getElem.mp hs _ _ _ _ (Nat.succ_lt_succ hij))
    (List.pairwise_iff_getElem.mp hs _ _ _ _ hij)) two_pos

/-! ### Box–Cox -/

theorem lmbda_ne_zero {l : ℝ} (h : lmbdaIsZero l = false) : l ≠ 0 := by
  rintro rfl; norm_num [lmbdaIsZero] at h

theorem maxZero_of_nonneg {x : ℝ} (h : 0 ≤ x) : maxZero x = x := by
  rw [maxZero, Nat.cast_zero, if_neg (not_lt.mpr h)]

/-! ### the quantile functions `_uniform_to_arcsin`, `_uniform_to_uquad` and the cdfs they invert

Each quantile function `g` comes with `g u ≤ y ↔ u ≤ F y` for `u ∈ (0,1)` and *every* `y`, and with the position of `F y`
relative to `0` and `1`; `pushforward_cdf_clamped` below turns these into the cdf of `g(Φ(Z))`. -/

theorem uniformToArcsin_eq (a b u : ℝ) :
    uniformToArcsin a b u = (b - a) * Real.sin (Real.pi / 2 * u) ^ 2 + a := by
  simp only [uniformToArcsin, npow_real, sin_real, pi_real, lit05, mul_one_div]

/-- `sin` is increasing on `(0, π/2)`; Mathlib's `√` and `arcsin` are clamped, so nothing is asked of `y` -/
theorem uniformToArcsin_le_iff {a b u : ℝ} (hab : a < b) (hu0 : 0 < u) (hu1 : u < 1) (y : ℝ) :
    uniformToArcsin a b u ≤ y ↔ u ≤ 2 / Real.pi * Real.arcsin (Real.sqrt ((y - a) / (b - a))) := by
  have hpi := Real.pi_pos
  have hθ0 : 0 < Real.pi / 2 * u := mul_pos (half_pos hpi) hu0
  have hθ1 : Real.pi / 2 * u < Real.pi / 2 := mul_lt_of_lt_one_right (half_pos hpi) hu1
  rw [uniformToArcsin_eq, ← le_sub_iff_add_le, ← le_div_iff₀' (sub_pos.mpr hab),
    ← Real.le_sqrt' (Real.sin_pos_of_pos_of_lt_pi hθ0 (hθ1.trans (half_lt_self hpi))),
    ← Real.le_arcsin_iff_sin_le' ⟨(neg_neg_of_pos (half_pos hpi)).trans hθ0, hθ1.le⟩,
    div_mul_eq_mul_div 2, mul_comm 2, ← div_div_eq_mul_div, le_div_iff₀' (half_pos hpi)]

theorem arcsinCdf_mem_Ioo {a b y : ℝ} (hab : a < b) (hy0 : a < y) (hy1 : y < b) :
    2 / Real.pi * Real.arcsin (Real.sqrt ((y - a) / (b - a))) ∈ Set.Ioo 0 1 := by
  have hba : 0 < b - a := sub_pos.mpr hab
  have hw0 : 0 < (y - a) / (b - a) := div_pos (sub_pos.mpr hy0) hba
  have hw1 : (y - a) / (b - a) < 1 := (div_lt_one hba).mpr (sub_lt_sub_right hy1 a)
  have h0 : 0 < Real.arcsin (Real.sqrt ((y - a) / (b - a))) := Real.arcsin_pos.mpr (Real.sqrt_pos.mpr hw0)
  have h1 : Real.arcsin (Real.sqrt ((y - a) / (b - a))) < Real.pi / 2 :=
    Real.arcsin_lt_pi_div_two.mpr ((Real.sqrt_lt' one_pos).mpr (by rwa [one_pow]))
  have hpi : 0 < Real.pi := Real.pi_pos
  refine ⟨mul_pos (div_pos two_pos hpi) h0, ?_⟩
  rwa [div_mul_eq_mul_div, div_lt_one hpi, ← lt_div_iff₀' two_pos]

/-- the signed cube root the code builds from two masked `** (1/3)` -/
noncomputable def scbrt (t : ℝ) : ℝ :=
  if 0 < t then t ^ ((1:ℝ) / 3) else if t < 0 then -((-t) ^ ((1:ℝ) / 3)) else 0

theorem rpow_third_cube {t : ℝ} (ht : 0 ≤ t) : (t ^ ((1:ℝ) / 3)) ^ 3 = t := by
  rw [← Real.rpow_natCast, ← Real.rpow_mul ht]
  norm_num

theorem scbrt_cube (t : ℝ) : scbrt t ^ 3 = t := by
  unfold scbrt
  split_ifs with h1 h2
  · exact rpow_third_cube (le_of_lt h1)
  · rw [Odd.neg_pow (by decide), rpow_third_cube (by linarith), neg_neg]
  · rw [le_antisymm (not_lt.mp h1) (not_lt.mp h2)]; norm_num

theorem cube_le_cube {x y : ℝ} : x ^ 3 ≤ y ^ 3 ↔ x ≤ y :=
  (Odd.strictMono_pow (by decide : Odd 3)).le_iff_le

theorem cube_lt_cube {x y : ℝ} : x ^ 3 < y ^ 3 ↔ x < y :=
  (Odd.strictMono_pow (by decide : Odd 3)).lt_iff_lt

theorem uniformToUquad_eq (a b u : ℝ) :
    uniformToUquad a b u = scbrt (3 * u / (12 / (b - a) ^ 3) + (a - b) ^ 3 / 8) + (a + b) / 2 := by
  simp only [uniformToUquad, scbrt, npow_real, rpow_real]
  push_cast
  rfl

/-- cubing is an order isomorphism of `ℝ`, so the signed cube root is undone on both sides; what is left is affine in `u` -/
theorem uniformToUquad_le_iff {a b u : ℝ} (hab : a < b) (y : ℝ) :
    uniformToUquad a b u ≤ y ↔ u ≤ 4 * (y - (a + b) / 2) ^ 3 / (b - a) ^ 3 + 1 / 2 := by
  have h3 : 0 < (b - a) ^ 3 := pow_pos (sub_pos.mpr hab) 3
  rw [uniformToUquad_eq, ← le_sub_iff_add_le, ← cube_le_cube, scbrt_cube, ← sub_le_iff_le_add, le_div_iff₀ h3,
    ← neg_sub b a, Odd.neg_pow (by decide), div_div_eq_mul_div]
  generalize (b - a) ^ 3 = d, (y - (a + b) / 2) ^ 3 = c
  rw [show 3 * u * d / 12 + -d / 8 = (u - 1 / 2) * d / 4 by ring, div_le_iff₀ four_pos, mul_comm c]

/-- the U-quadratic cdf `4(y − β)³/(b − a)³ + ½` increases strictly from `0` at `a` to `1` at `b` -/
theorem uquadCdf_strictMono {a b : ℝ} (hab : a < b) :
    StrictMono fun y => 4 * (y - (a + b) / 2) ^ 3 / (b - a) ^ 3 + 1 / 2 := by
  intro x y hxy
  simpa only [add_lt_add_iff_right, div_lt_div_iff_of_pos_right (pow_pos (sub_pos.mpr hab) 3),
    mul_lt_mul_iff_right₀ (four_pos (α := ℝ)), cube_lt_cube, sub_lt_sub_iff_right] using hxy

theorem uquadCdf_left {a b : ℝ} (hab : a < b) : 4 * (a - (a + b) / 2) ^ 3 / (b - a) ^ 3 + 1 / 2 = 0 := by
  rw [show a - (a + b) / 2 = (b - a) * (-1 / 2) by ring, mul_pow, mul_div_assoc,
    mul_div_cancel_left₀ _ (pow_ne_zero 3 (sub_pos.mpr hab).ne')]
  norm_num

theorem uquadCdf_right {a b : ℝ} (hab : a < b) : 4 * (b - (a + b) / 2) ^ 3 / (b - a) ^ 3 + 1 / 2 = 1 := by
  rw [show b - (a + b) / 2 = (b - a) * (1 / 2) by ring, mul_pow, mul_div_assoc,
    mul_div_cancel_left₀ _ (pow_ne_zero 3 (sub_pos.mpr hab).ne')]
  norm_num

theorem sqrt_bounds {w : ℝ} (hw : 0 ≤ w) (m : ℝ) :
    (m - Real.sqrt w + (m + Real.sqrt w)) / 2 = m ∧ (m + Real.sqrt w - (m - Real.sqrt w)) ^ 2 = 4 * w ∧
      m - Real.sqrt w ≤ m + Real.sqrt w := by
  refine ⟨by ring, ?_, by linarith [Real.sqrt_nonneg w]⟩
  rw [add_sub_sub_cancel, ← two_mul, mul_pow, Real.sq_sqrt hw]; norm_num

/-! ### integrals for the target moments -/

open intervalIntegral in
theorem integral_cos_pi : ∫ u in (0:ℝ)..1, Real.cos (Real.pi * u) = 0 := by
  have h := mul_integral_comp_mul_left (a := 0) (b := 1) (f := Real.cos) (c := Real.pi)
  rw [integral_cos] at h
  simp only [mul_zero, mul_one, Real.sin_pi, Real.sin_zero, sub_zero] at h
  exact (mul_eq_zero.mp h).resolve_left Real.pi_ne_zero

open intervalIntegral in
theorem integral_cos_sq_pi : ∫ u in (0:ℝ)..1, Real.cos (Real.pi * u) ^ 2 = 1 / 2 := by
  have h := mul_integral_comp_mul_left (a := 0) (b := 1) (f := fun x => Real.cos x ^ 2) (c := Real.pi)
  rw [integral_cos_sq] at h
  simp only [mul_zero, mul_one, Real.sin_pi, Real.sin_zero, Real.cos_pi, Real.cos_zero, sub_zero] at h
  exact mul_left_cancel₀ Real.pi_ne_zero (h.trans (by ring))

theorem uniformToArcsin_cos (a b u : ℝ) :
    uniformToArcsin a b u = (a + b) / 2 - (b - a) / 2 * Real.cos (Real.pi * u) := by
  rw [uniformToArcsin_eq, Real.sin_sq_eq_half_sub, show 2 * (Real.pi / 2 * u) = Real.pi * u by ring]
  ring

open intervalIntegral in
theorem integral_sub_pow (a b : ℝ) (n : ℕ) :
    ∫ y in a..b, (y - (a + b) / 2) ^ n = (((b - a) / 2) ^ (n + 1) - (-((b - a) / 2)) ^ (n + 1)) / (n + 1) := by
  rw [intervalIntegral.integral_comp_sub_right (fun t => t ^ n) ((a + b) / 2), integral_pow]
  congr 2 <;> ring

/-! ### the abstract standard normal cdf -/

/-- What the theorems use about the standard normal cdf `Φ` and its quantile function `Q`:
    `Φ` is a strictly increasing map `ℝ → (0,1)`, onto (`Φ (Q p) = p` on `(0,1)`), and symmetric. -/
structure IsStdNormalCdf (Φ Q : ℝ → ℝ) : Prop where
  strictMono : StrictMono Φ
  pos : ∀ x, 0 < Φ x
  lt_one : ∀ x, Φ x < 1
  right_inv : ∀ p, 0 < p → p < 1 → Φ (Q p) = p
  symm : ∀ x, Φ (-x) = 1 - Φ x

namespace IsStdNormalCdf
variable {Φ Q : ℝ → ℝ} (h : IsStdNormalCdf Φ Q)
include h

theorem left_inv (x : ℝ) : Q (Φ x) = x :=
  h.strictMono.injective (h.right_inv _ (h.pos x) (h.lt_one x))

theorem le_iff_le_Q {x p : ℝ} (hp0 : 0 < p) (hp1 : p < 1) : Φ x ≤ p ↔ x ≤ Q p := by
  rw [← h.strictMono.le_iff_le (a := x) (b := Q p), h.right_inv p hp0 hp1]

theorem lt_iff_lt_Q {x p : ℝ} (hp0 : 0 < p) (hp1 : p < 1) : Φ x < p ↔ x < Q p := by
  rw [← h.strictMono.lt_iff_lt (a := x) (b := Q p), h.right_inv p hp0 hp1]

theorem Q_le_iff {x p : ℝ} (hp0 : 0 < p) (hp1 : p < 1) : Q p ≤ x ↔ p ≤ Φ x := by
  rw [← h.strictMono.le_iff_le (a := Q p) (b := x), h.right_inv p hp0 hp1]

theorem Q_lt_Q {p q : ℝ} (hp0 : 0 < p) (hpq : p < q) (hq1 : q < 1) : Q p < Q q :=
  (h.lt_iff_lt_Q (hp0.trans hpq) hq1).mp ((h.right_inv p hp0 (hpq.trans hq1)).trans_lt hpq)

theorem at_zero : Φ 0 = 1 / 2 := by
  have := h.symm 0
  simp only [neg_zero] at this
  linarith

theorem Q_half : Q (1 / 2) = 0 := by rw [← h.at_zero, h.left_inv]

theorem half_lt_of_pos {x : ℝ} (hx : 0 < x) : 1 / 2 < Φ x := by
  rw [← h.at_zero]; exact h.strictMono hx

end IsStdNormalCdf

/-- the hypotheses are satisfiable: the logistic cdf `1/(1+e^{-x})` with quantile `log(p/(1-p))` -/
theorem logistic_isStdNormalCdf :
    IsStdNormalCdf (fun x => 1 / (1 + Real.exp (-x))) (fun p => Real.log (p / (1 - p))) where
  strictMono := fun x y hxy =>
    one_div_lt_one_div_of_lt (by positivity) (add_lt_add_right (Real.exp_lt_exp.mpr (neg_lt_neg hxy)) 1)
  pos := fun x => by positivity
  lt_one := fun x => (div_lt_one (by positivity)).mpr (lt_add_of_pos_right 1 (Real.exp_pos _))
  right_inv := by
    intro p hp0 hp1
    have h1 : 0 < 1 - p := by linarith
    have ht : 0 < p / (1 - p) := div_pos hp0 h1
    rw [Real.exp_neg, Real.exp_log ht, inv_div, one_add_div hp0.ne', add_sub_cancel, one_div_one_div]
  symm := by
    intro x
    simp only [neg_neg]
    have hx : 0 < Real.exp x := Real.exp_pos _
    rw [Real.exp_neg]
    field_simp
    ring

/-! ### normal marginals and push-forward cdfs -/

variable {Ω : Type*} [MeasurableSpace Ω]

/-- `X` has the normal marginal with mean `m` and standard deviation `s` (relative to the cdf `Φ`):
    `P(X ≤ x) = Φ((x - m)/s)` for all `x` -/
def NormalMarginal (P : Measure Ω) (X : Ω → ℝ) (Φ : ℝ → ℝ) (m s : ℝ) : Prop :=
  ∀ x, P.real {ω | X ω ≤ x} = Φ ((x - m) / s)

variable {P : Measure Ω} {X : Ω → ℝ} {Φ Q : ℝ → ℝ} {m s : ℝ}

theorem standardize_le_iff (hs : 0 < s) {x z : ℝ} : (x - m) / s ≤ z ↔ x ≤ m + s * z := by
  rw [div_le_iff₀ hs, sub_le_iff_le_add', mul_comm]

theorem NormalMarginal.standardize (hX : NormalMarginal P X Φ m s) (hs : 0 < s) :
    NormalMarginal P (fun ω => (X ω - m) / s) Φ 0 1 := fun z => by
  have hset : {ω | (X ω - m) / s ≤ z} = {ω | X ω ≤ m + s * z} := Set.ext fun ω => standardize_le_iff hs
  rw [hset, hX, add_sub_cancel_left, mul_div_cancel_left₀ _ hs.ne', sub_zero, div_one]

/-- the probability integral transform: `Φ((X - m)/s)` is uniform on `(0,1)` -/
theorem prob_cdf_le (h : IsStdNormalCdf Φ Q) (hX : NormalMarginal P X Φ m s) (hs : 0 < s)
    {p : ℝ} (hp0 : 0 < p) (hp1 : p < 1) : P.real {ω | Φ ((X ω - m) / s) ≤ p} = p := by
  have hset : {ω | Φ ((X ω - m) / s) ≤ p} = {ω | (X ω - m) / s ≤ Q p} := Set.ext fun ω => h.le_iff_le_Q hp0 hp1
  rw [hset, hX.standardize hs, sub_zero, div_one, h.right_inv p hp0 hp1]

theorem toUniform_eq (m v low high x : ℝ) :
    toUniform Φ m v low high x = Φ ((x - m) / Real.sqrt v) * (high - low) + low := by
  simp [toUniform, standardize]

theorem toArcsin_eq (m v : ℝ) (a b : Option ℝ) (x : ℝ) :
    toArcsin Φ m v a b x = uniformToArcsin (a.getD (arcsinDefaultA m v)) (b.getD (arcsinDefaultB m v))
      (Φ ((x - m) / Real.sqrt v)) := by
  simp [toArcsin, toUniform, standardize, lit00, lit10]

theorem toUquad_eq (m v : ℝ) (a b : Option ℝ) (x : ℝ) :
    toUquad Φ m v a b x = uniformToUquad (a.getD (uquadDefaultA m v)) (b.getD (uquadDefaultB m v))
      (Φ ((x - m) / Real.sqrt v)) := by
  simp [toUquad, toUniform, standardize, lit00, lit10]

/-- push-forward lemma: if `g` (a quantile function evaluated at `u = Φ(z)`) and `F` satisfy `g u ≤ y ↔ u ≤ F y`
    on `u ∈ (0,1)` (or `y` is below / above the whole range of `g`), then `P(g(Φ((X-m)/s)) ≤ y) = F y` -/
theorem pushforward_cdf (h : IsStdNormalCdf Φ Q) [IsProbabilityMeasure P] (hX : NormalMarginal P X Φ m s)
    (hs : 0 < s) (g : ℝ → ℝ) (Fy y : ℝ)
    (hcase : ((∀ u, 0 < u → u < 1 → y < g u) ∧ Fy = 0) ∨ ((∀ u, 0 < u → u < 1 → g u ≤ y) ∧ Fy = 1) ∨
      (0 < Fy ∧ Fy < 1 ∧ ∀ u, 0 < u → u < 1 → (g u ≤ y ↔ u ≤ Fy))) :
    P.real {ω | g (Φ ((X ω - m) / s)) ≤ y} = Fy := by
  rcases hcase with ⟨hlt, rfl⟩ | ⟨hle, rfl⟩ | ⟨h0, h1, hiff⟩
  · exact (congrArg P.real (Set.eq_empty_of_forall_notMem fun ω hω => (hlt _ (h.pos _) (h.lt_one _)).not_ge hω)).trans
      measureReal_empty
  · exact (congrArg P.real (Set.eq_univ_of_forall fun ω => hle _ (h.pos _) (h.lt_one _))).trans probReal_univ
  · exact (congrArg P.real (Set.ext fun ω => hiff _ (h.pos _) (h.lt_one _))).trans (prob_cdf_le h hX hs h0 h1)

/-- the cdf of `g(Φ((X−m)/s))` for a quantile function `g` with `g u ≤ y ↔ u ≤ F y` on `u ∈ (0,1)`, where `F` is `≤ 0` up to `a`,
    inside `(0,1)` on `(a, b)` and `≥ 1` from `b` on: it is `F`, cut off at `0` and `1` -/
theorem pushforward_cdf_clamped (h : IsStdNormalCdf Φ Q) [IsProbabilityMeasure P] (hX : NormalMarginal P X Φ m s)
    (hs : 0 < s) {g F : ℝ → ℝ} {a b : ℝ} (hgF : ∀ u y, 0 < u → u < 1 → (g u ≤ y ↔ u ≤ F y))
    (hFa : ∀ y, y ≤ a → F y ≤ 0) (hFab : ∀ y, a < y → y < b → 0 < F y ∧ F y < 1) (hFb : ∀ y, b ≤ y → 1 ≤ F y) (y : ℝ) :
    P.real {ω | g (Φ ((X ω - m) / s)) ≤ y} = if y ≤ a then 0 else if b ≤ y then 1 else F y := by
  refine pushforward_cdf h hX hs g _ y ?_
  split_ifs with h1 h2
  · exact .inl ⟨fun u hu0 hu1 => lt_of_not_ge fun hle => hu0.not_ge (((hgF u y hu0 hu1).mp hle).trans (hFa y h1)), rfl⟩
  · exact .inr (.inl ⟨fun u hu0 hu1 => (hgF u y hu0 hu1).mpr (hu1.le.trans (hFb y h2)), rfl⟩)
  · have hF := hFab y (lt_of_not_ge h1) (lt_of_not_ge h2)
    exact .inr (.inr ⟨hF.1, hF.2, fun u => hgF u y⟩)

theorem measurableSet_le_const (hm : Measurable X) (c : ℝ) : MeasurableSet {ω | X ω ≤ c} :=
  measurableSet_le hm measurable_const

theorem prob_Ioc [IsFiniteMeasure P] (hX : NormalMarginal P X Φ m s) (hm : Measurable X) {a b : ℝ} (hab : a ≤ b) :
    P.real {ω | a < X ω ∧ X ω ≤ b} = Φ ((b - m) / s) - Φ ((a - m) / s) := by
  have hset : {ω | a < X ω ∧ X ω ≤ b} = {ω | X ω ≤ b} \ {ω | X ω ≤ a} :=
    Set.ext fun ω => ⟨fun h => ⟨h.2, not_le.mpr h.1⟩, fun h => ⟨not_le.mp h.2, h.1⟩⟩
  have hsub : {ω | X ω ≤ a} ⊆ {ω | X ω ≤ b} := fun ω (h : X ω ≤ a) => le_trans h hab
  have := measureReal_sdiff (μ := P) hsub (measurableSet_le_const hm a)
  rw [hset, this, hX, hX]

theorem prob_gt [IsProbabilityMeasure P] (hX : NormalMarginal P X Φ m s) (hm : Measurable X) (c : ℝ) :
    P.real {ω | c < X ω} = 1 - Φ ((c - m) / s) := by
  have hset : {ω | c < X ω} = {ω | X ω ≤ c}ᶜ := by ext ω; simp
  rw [hset, measureReal_compl (measurableSet_le_const hm c), probReal_univ, hX]

/-- a normal marginal (relative to a cdf that is onto `(0,1)`) has no atoms -/
theorem no_atom (h : IsStdNormalCdf Φ Q) [IsFiniteMeasure P] (hX : NormalMarginal P X Φ m s) (hm : Measurable X)
    (hs : 0 < s) (c : ℝ) : P.real {ω | X ω = c} = 0 := by
  by_contra hne
  have hδ : 0 < P.real {ω | X ω = c} := lt_of_le_of_ne measureReal_nonneg (Ne.symm hne)
  set δ := P.real {ω | X ω = c}
  -- the atom sits inside `(a, c]` for every `a < c`, so `Φ` would jump by `δ` at `(c − m)/s` …
  have key : ∀ a, a < c → δ ≤ Φ ((c - m) / s) - Φ ((a - m) / s) := fun a ha => by
    rw [← prob_Ioc hX hm ha.le]
    exact measureReal_mono fun ω (hω : X ω = c) => ⟨hω ▸ ha, hω.le⟩
  -- … but it takes the value `Φ((c − m)/s) − δ/2` in between
  have hp0 : 0 < Φ ((c - m) / s) - δ / 2 :=
    sub_pos.mpr ((half_le_self hδ.le).trans_lt ((key (c - s) (sub_lt_self c hs)).trans_lt (sub_lt_self _ (h.pos _))))
  have hp1 : Φ ((c - m) / s) - δ / 2 < 1 := (sub_lt_self _ (half_pos hδ)).trans (h.lt_one _)
  have hq := h.right_inv _ hp0 hp1
  have hlt : Q (Φ ((c - m) / s) - δ / 2) < (c - m) / s :=
    h.strictMono.lt_iff_lt.mp (hq.trans_lt (sub_lt_self _ (half_pos hδ)))
  have := key (m + s * Q (Φ ((c - m) / s) - δ / 2)) (by rwa [← lt_sub_iff_add_lt', mul_comm, ← lt_div_iff₀ hs])
  rw [add_sub_cancel_left, mul_div_cancel_left₀ _ hs.ne', hq, sub_sub_cancel] at this
  exact absurd this (not_le.mpr (half_lt_self hδ))

theorem ae_ne (h : IsStdNormalCdf Φ Q) [IsFiniteMeasure P] (hX : NormalMarginal P X Φ m s) (hm : Measurable X)
    (hs : 0 < s) (c : ℝ) : ∀ᵐ ω ∂P, X ω ≠ c :=
  measure_eq_zero_iff_ae_notMem.mp ((measureReal_eq_zero_iff).mp (no_atom h hX hm hs c))

/-- up to the null set `Z = −r` this is the event `−r < Z ≤ r` -/
theorem prob_abs_le (h : IsStdNormalCdf Φ Q) [IsFiniteMeasure P] {Z : Ω → ℝ} (hZ : NormalMarginal P Z Φ 0 1)
    (hm : Measurable Z) {r : ℝ} (hr : 0 ≤ r) : P.real {ω | |Z ω| ≤ r} = 2 * Φ r - 1 := by
  have hae : {ω | |Z ω| ≤ r} =ᵐ[P] {ω | -r < Z ω ∧ Z ω ≤ r} := Filter.eventuallyEq_set.mpr <| by
    filter_upwards [ae_ne h hZ hm one_pos (-r)] with ω hω
    exact abs_le.trans (and_congr_left' ⟨fun hle => hle.lt_of_ne hω.symm, le_of_lt⟩)
  rw [measureReal_congr hae, prob_Ioc hZ hm (neg_le_self hr), sub_zero, div_one, sub_zero, div_one, h.symm]
  ring

/-! ### 'equal' thresholds -/

theorem equalThresholds_length (m v : ℝ) (n : ℕ) : (equalThresholds Q m v n).length = n - 1 := by
  rw [equalThresholds, List.length_map, List.length_range]

theorem equalThresholds_getElem (m v : ℝ) (n i : ℕ) (hi : i < (equalThresholds Q m v n).length) :
    (equalThresholds Q m v n)[i] = m + Real.sqrt v * Q (((i + 1 : ℕ) : ℝ) / (n : ℝ)) := by
  simp only [equalThresholds, List.getElem_map, List.getElem_range, sqrt_real]

theorem level_mem_Ioo {i n : ℕ} (hi : i + 1 < n) : ((i + 1 : ℕ) : ℝ) / n ∈ Set.Ioo 0 1 := by
  have hn : (0:ℝ) < n := by exact_mod_cast Nat.zero_lt_of_lt hi
  exact ⟨div_pos (by positivity) hn, (div_lt_one hn).mpr (by exact_mod_cast hi)⟩

/-! ### Zinn–Harvey -/

theorem zhCore_eq (z : ℝ) : zhCore Φ Q z = Q (2 * Φ |z| - 1) := by
  simp only [zhCore, fabs_real]; push_cast; rfl

theorem zhLevel_mem_Ioo (h : IsStdNormalCdf Φ Q) {z : ℝ} (hz : z ≠ 0) : 2 * Φ |z| - 1 ∈ Set.Ioo 0 1 :=
  ⟨by linarith [h.half_lt_of_pos (abs_pos.mpr hz)], by linarith [h.lt_one |z|]⟩

theorem half_add_mem_Ioo (h : IsStdNormalCdf Φ Q) (w : ℝ) : (1 + Φ w) / 2 ∈ Set.Ioo 0 1 :=
  ⟨half_pos (add_pos one_pos (h.pos w)),
    by linarith [h.lt_one w]⟩

theorem Q_half_add_pos (h : IsStdNormalCdf Φ Q) (w : ℝ) : 0 < Q ((1 + Φ w) / 2) := by
  rw [← h.Q_half]
  exact h.Q_lt_Q one_half_pos (div_lt_div_of_pos_right (lt_add_of_pos_right 1 (h.pos w)) two_pos) (half_add_mem_Ioo h w).2

theorem zhCore_le_iff (h : IsStdNormalCdf Φ Q) {z : ℝ} (hz : z ≠ 0) (w : ℝ) :
    zhCore Φ Q z ≤ w ↔ |z| ≤ Q ((1 + Φ w) / 2) := by
  have hp := zhLevel_mem_Ioo h hz
  have hq := half_add_mem_Ioo h w
  rw [zhCore_eq, h.Q_le_iff hp.1 hp.2, ← h.le_iff_le_Q hq.1 hq.2, le_div_iff₀' two_pos, sub_le_iff_le_add']

theorem neg_zhCore_le_iff (h : IsStdNormalCdf Φ Q) {z : ℝ} (hz : z ≠ 0) (w : ℝ) :
    -zhCore Φ Q z ≤ w ↔ Q ((1 + Φ (-w)) / 2) ≤ |z| := by
  have hp := zhLevel_mem_Ioo h hz
  have hq := half_add_mem_Ioo h (-w)
  rw [zhCore_eq, neg_le, ← h.le_iff_le_Q hp.1 hp.2, h.Q_le_iff hq.1 hq.2, div_le_iff₀' two_pos, le_sub_iff_add_le']

/-- strictly larger `|z|` gives a strictly larger `Φ⁻¹(2Φ(|z|) − 1)`: the order of the absolute deviations is kept
    (`conn = "low"`) or reversed (`conn = "high"`, after the sign flip) -/
theorem zhCore_strictMono_abs (h : IsStdNormalCdf Φ Q) {z₁ z₂ : ℝ} (hz : z₁ ≠ 0) (h12 : |z₁| < |z₂|) :
    zhCore Φ Q z₁ < zhCore Φ Q z₂ := by
  have hz₂ : z₂ ≠ 0 := abs_pos.mp ((abs_nonneg z₁).trans_lt h12)
  rw [zhCore_eq, zhCore_eq]
  exact h.Q_lt_Q (zhLevel_mem_Ioo h hz).1
    (sub_lt_sub_right (mul_lt_mul_of_pos_left (h.strictMono h12) two_pos) 1) (zhLevel_mem_Ioo h hz₂).2

/-- `P(Φ⁻¹(2Φ(|Z|) − 1) ≤ w) = Φ(w)` for a standard normal marginal `Z`: off the null set `Z = 0` the event is
    `|Z| ≤ Φ⁻¹((1 + Φ w)/2)` -/
theorem prob_zhCore_le (h : IsStdNormalCdf Φ Q) [IsProbabilityMeasure P] {Z : Ω → ℝ}
    (hZ : NormalMarginal P Z Φ 0 1) (hm : Measurable Z) (w : ℝ) :
    P.real {ω | zhCore Φ Q (Z ω) ≤ w} = Φ w := by
  have hq := half_add_mem_Ioo h w
  have hae : {ω | zhCore Φ Q (Z ω) ≤ w} =ᵐ[P] {ω | |Z ω| ≤ Q ((1 + Φ w) / 2)} := Filter.eventuallyEq_set.mpr <| by
    filter_upwards [ae_ne h hZ hm one_pos 0] with ω hω using zhCore_le_iff h hω w
  rw [measureReal_congr hae, prob_abs_le h hZ hm (Q_half_add_pos h w).le, h.right_inv _ hq.1 hq.2]
  ring

/-- `P(−Φ⁻¹(2Φ(|Z|) − 1) ≤ w) = Φ(w)`: off `Z ∈ {0, ±r}`, `r = Φ⁻¹((1 + Φ(−w))/2)`, the event is the complement of
    `|Z| ≤ r` -/
theorem prob_neg_zhCore_le (h : IsStdNormalCdf Φ Q) [IsProbabilityMeasure P] {Z : Ω → ℝ}
    (hZ : NormalMarginal P Z Φ 0 1) (hm : Measurable Z) (w : ℝ) :
    P.real {ω | -zhCore Φ Q (Z ω) ≤ w} = Φ w := by
  have hq := half_add_mem_Ioo h (-w)
  have hr := Q_half_add_pos h (-w)
  set r := Q ((1 + Φ (-w)) / 2)
  have hae : {ω | -zhCore Φ Q (Z ω) ≤ w} =ᵐ[P] ({ω | |Z ω| ≤ r}ᶜ : Set Ω) := Filter.eventuallyEq_set.mpr <| by
    filter_upwards [ae_ne h hZ hm one_pos 0, ae_ne h hZ hm one_pos r, ae_ne h hZ hm one_pos (-r)] with ω h0 h1 h2
    exact (neg_zhCore_le_iff h h0 w).trans
      ⟨fun hle => not_le.mpr (hle.lt_of_ne fun e => ((abs_eq hr.le).mp e.symm).elim h1 h2),
        fun (hn : ¬|Z ω| ≤ r) => (not_le.mp hn).le⟩
  have hmeas : MeasurableSet {ω | |Z ω| ≤ r} := measurableSet_le (continuous_abs.measurable.comp hm) measurable_const
  rw [measureReal_congr hae, measureReal_compl hmeas, probReal_univ, prob_abs_le h hZ hm hr.le, h.right_inv _ hq.1 hq.2,
    h.symm]
  ring

/-! ### stored fields -/

theorem lookup_set_self (st : FState ℝ) (n : String) (d : List ℝ) : (st.set n d).lookup n = some d := by
  fun_induction FState.set st n d with
  | case1 => simp [FState.lookup]
  | case2 => simp [FState.lookup]
  | case3 k v t n d hk ih => simp [FState.lookup, hk, ih]

theorem lookup_set_other (st : FState ℝ) (n n' : String) (d : List ℝ) (hne : n' ≠ n) :
    (st.set n d).lookup n' = st.lookup n' := by
  have hnn : (n == n') = false := by simpa using (Ne.symm hne)
  fun_induction FState.set st n d with
  | case1 n d => simp [FState.lookup, hnn]
  | case2 k v t n d hk =>
    obtain rfl : k = n := by simpa using hk
    simp [FState.lookup, hnn]
  | case3 k v t n d hk ih => simp [FState.lookup, ih hne hnn]

theorem commit_spec (reserved : List String) (st : FState ℝ) (store : Store) (field : String) (out : List ℝ) :
    let r := commit reserved st store field out
    (∀ e, r.2 = .error e → r.1 = st) ∧
    (∀ o, r.2 = .ok o →
      match store with
      | .no => r.1 = st
      | .yes => r.1.lookup field = some o ∧ ∀ n', n' ≠ field → r.1.lookup n' = st.lookup n'
      | .name n => r.1.lookup n = some o ∧ ∀ n', n' ≠ n → r.1.lookup n' = st.lookup n') := by
  have key : ∀ (b : Bool) (n : String),
      let r : FState ℝ × Except String (List ℝ) := if b = true then (st, .error "ValueError") else (st.set n out, .ok out)
      (∀ e, r.2 = .error e → r.1 = st) ∧
      (∀ o, r.2 = .ok o → r.1.lookup n = some o ∧ ∀ n', n' ≠ n → r.1.lookup n' = st.lookup n') := by
    intro b n
    cases b
    · simp only [Bool.false_eq_true, ↓reduceIte, reduceCtorEq, false_implies, implies_true, Except.ok.injEq, true_and]
      rintro o rfl
      exact ⟨lookup_set_self _ _ _, fun n' hn' => lookup_set_other _ _ _ _ hn'⟩
    · simp
  cases store with
  | no => simp [commit, storeConfig]
  | yes => exact key _ field
  | name n => exact key _ n

/-! ### the true standard normal cdf (Mathlib's `gaussianReal 0 1`) -/

section Gauss
open ProbabilityTheory Set Filter Topology

/-- the standard normal law -/
noncomputable abbrev stdGauss : Measure ℝ := gaussianReal 0 1

/-- the true standard normal cdf `Φ(x) = N(0,1)((-∞, x])` -/
noncomputable def gaussΦ (x : ℝ) : ℝ := cdf stdGauss x

instance : NullSingletonClass stdGauss := nullSingletonClass_gaussianReal one_ne_zero

theorem gaussΦ_eq (x : ℝ) : gaussΦ x = stdGauss.real (Iic x) := cdf_eq_real _ x

theorem stdGauss_pos_of_volume_pos {s : Set ℝ} (hs : volume s ≠ 0) : 0 < stdGauss.real s := by
  have h1 : stdGauss s ≠ 0 := fun h => hs (gaussianReal_absolutelyContinuous' 0 one_ne_zero h)
  exact ENNReal.toReal_pos h1 (measure_ne_top _ _)

theorem gaussΦ_strictMono : StrictMono gaussΦ := by
  intro x y hxy
  have h1 := measureReal_sdiff (μ := stdGauss) (Iic_subset_Iic.mpr hxy.le) measurableSet_Iic
  rw [Iic_sdiff_Iic] at h1
  have h2 : 0 < stdGauss.real (Ioc x y) := stdGauss_pos_of_volume_pos (by rw [Real.volume_Ioc]; simp [hxy])
  rw [gaussΦ_eq, gaussΦ_eq]; linarith

theorem gaussΦ_pos (x : ℝ) : 0 < gaussΦ x := by
  rw [gaussΦ_eq]; exact stdGauss_pos_of_volume_pos (by simp)

theorem gaussΦ_continuous : Continuous gaussΦ := by
  refine continuous_iff_continuousAt.mpr fun x => ?_
  have hmono : Monotone gaussΦ := gaussΦ_strictMono.monotone
  have hr : Function.rightLim gaussΦ x = gaussΦ x := (cdf stdGauss).rightLim_eq x
  -- no atom at `x`, so the cdf does not jump there
  have hs := StieltjesFunction.measure_singleton (cdf stdGauss) x
  rw [measure_cdf, measure_singleton, eq_comm, ENNReal.ofReal_eq_zero] at hs
  rw [hmono.continuousAt_iff_leftLim_eq_rightLim, hr]
  exact le_antisymm (hmono.leftLim_le le_rfl) (sub_nonpos.mp hs)

theorem gaussΦ_surj {p : ℝ} (hp0 : 0 < p) (hp1 : p < 1) : ∃ x, gaussΦ x = p :=
  mem_range_of_exists_le_of_exists_ge gaussΦ_continuous
    (((tendsto_cdf_atBot stdGauss).eventually (gt_mem_nhds hp0)).exists.imp fun _ => le_of_lt)
    (((tendsto_cdf_atTop stdGauss).eventually (lt_mem_nhds hp1)).exists.imp fun _ => le_of_lt)

open Classical in
/-- the standard normal quantile function -/
noncomputable def gaussQ (p : ℝ) : ℝ := if h : ∃ x, gaussΦ x = p then h.choose else 0

theorem gaussΦ_symm (x : ℝ) : gaussΦ (-x) = 1 - gaussΦ x := by
  have hmap : stdGauss.map (fun x => -x) = stdGauss := by
    have := gaussianReal_map_neg (μ := 0) (v := 1)
    simpa using this
  have h1 : stdGauss (Iic (-x)) = stdGauss (Ici x) := by
    conv_lhs => rw [← hmap]
    rw [Measure.map_apply (by fun_prop) measurableSet_Iic]
    congr 1; ext z; simp
  have h2 : stdGauss.real (Ici x) = stdGauss.real (Ioi x) := measureReal_congr Ioi_ae_eq_Ici.symm
  have h3 := measureReal_compl (μ := stdGauss) (measurableSet_Iic (a := x))
  rw [probReal_univ, compl_Iic] at h3
  rw [gaussΦ_eq, gaussΦ_eq, measureReal_def, h1, ← measureReal_def, h2, h3]

theorem gaussΦ_lt_one (x : ℝ) : gaussΦ x < 1 := by
  linarith [gaussΦ_symm x, gaussΦ_pos (-x)]

/-- `N(m, v)` is the image of `N(0,1)` under `z ↦ m + √v·z` -/
theorem gaussianReal_eq_map_std (m : ℝ) (v : NNReal) :
    gaussianReal m v = (stdGauss.map (fun z => Real.sqrt v * z)).map (fun z => z + m) := by
  rw [gaussianReal_map_const_mul, gaussianReal_map_add_const]
  congr 1
  · simp
  · apply NNReal.eq; simp

end Gauss

end GSV.Lemmas.Transform
