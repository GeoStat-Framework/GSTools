/-
  Helper lemmas for C16 (incompressible vector fields): the generated kernel's accumulating loops as
  finite sums over ℝ, the derivative of a single Fourier mode through its phase, the elementary integrals of
  the direction averages, and the second moment of a combination of orthonormal random variables.
-/
import GSV.Props.KernelSummate
import GSV.Lemmas.Sum
import GSV.RealInst
import Mathlib.Analysis.SpecialFunctions.Integrals.Basic
namespace GSV.Incompr
open GSV GSV.Props Finset

theorem absSq_real (k : Nat → Nat → ℝ) (dim j : Nat) :
    absSq k dim j = ∑ d ∈ range dim, (k d j) ^ 2 :=
  forRange_cast_zero_add_eq_sum dim fun d => (k d j) ^ 2

theorem e1_real (d : Nat) : (e1 d : ℝ) = if d = 0 then 1 else 0 := by
  unfold e1; split <;> simp

theorem incomprCell_real (k : Nat → Nat → ℝ) (z1 z2 : Nat → ℝ) (x : Nat → Nat → ℝ) (c0 dim N d i : Nat) :
    incomprCell k z1 z2 x c0 dim N d i ((0:Nat):ℝ) =
      ∑ j ∈ range N, (e1 d - k d j * k 0 j / absSq k c0 j) *
        (z1 j * Real.cos (phaseOf k x dim j i) + z2 j * Real.sin (phaseOf k x dim j i)) :=
  forRange_cast_zero_add_eq_sum N _

theorem absSq_nonneg (k : Nat → Nat → ℝ) (dim j : Nat) : 0 ≤ absSq k dim j := by
  rw [absSq_real]; exact sum_nonneg fun d _ => sq_nonneg _

/-- `|k_j|² ≠ 0` iff some component of the wave vector is non-zero -/
theorem absSq_ne_zero_iff (k : Nat → Nat → ℝ) (dim j : Nat) :
    absSq k dim j ≠ 0 ↔ ∃ d < dim, k d j ≠ 0 := by
  rw [absSq_real, Ne, sum_eq_zero_iff_of_nonneg (fun d _ => sq_nonneg _)]
  simp only [mem_range, sq_eq_zero_iff, not_forall, exists_prop]

theorem sum_e1_mul (f : Nat → ℝ) {dim : Nat} (h : 0 < dim) :
    ∑ d ∈ range dim, (e1 d : ℝ) * f d = f 0 := by
  simp only [e1_real, ite_mul, one_mul, zero_mul, sum_ite_eq', mem_range, h, if_true]

theorem hasDerivAt_phase (k : Nat → ℝ) (x : Nat → ℝ) {dim d : Nat} (hd : d < dim) (t : ℝ) :
    HasDerivAt (fun s => ∑ d' ∈ range dim, k d' * Function.update x d s d') (k d) t := by
  have h : ∀ d' ∈ range dim, HasDerivAt (fun s => k d' * Function.update x d s d')
      (if d' = d then k d else 0) t := by
    intro d' _
    by_cases hdd : d' = d
    · subst hdd
      simpa using (hasDerivAt_id t).const_mul (k d')
    · simpa [Function.update_of_ne hdd, hdd] using hasDerivAt_const t (k d' * x d')
  have := HasDerivAt.fun_sum h
  simpa [sum_ite_eq', mem_range.mpr hd] using this

/-- one mode `a (z₁ cos φ + z₂ sin φ)` differentiated through its phase -/
theorem hasFDerivAt_mode {E : Type} [NormedAddCommGroup E] [NormedSpace ℝ E] (a z1 z2 : ℝ) {φ : E → ℝ} {φ' : E →L[ℝ] ℝ}
    {x : E} (h : HasFDerivAt φ φ' x) :
    HasFDerivAt (fun y => a * (z1 * Real.cos (φ y) + z2 * Real.sin (φ y)))
      ((a * (z2 * Real.cos (φ x) - z1 * Real.sin (φ x))) • φ') x := by
  refine (((h.cos.const_mul z1).add (h.sin.const_mul z2)).const_mul a).congr_fderiv ?_
  ext v
  simp only [smul_apply, add_apply, smul_eq_mul]
  ring

theorem hasDerivAt_mode (a z1 z2 : ℝ) {φ : ℝ → ℝ} {φ' t : ℝ} (h : HasDerivAt φ φ' t) :
    HasDerivAt (fun s => a * (z1 * Real.cos (φ s) + z2 * Real.sin (φ s)))
      (a * (z2 * Real.cos (φ t) - z1 * Real.sin (φ t)) * φ') t := by
  simpa using (hasFDerivAt_mode a z1 z2 h.hasFDerivAt).hasDerivAt

open intervalIntegral in
theorem integral_affine_comb {f g : ℝ → ℝ} (hf : Continuous f) (hg : Continuous g) (a b A B C : ℝ) :
    ∫ x in a..b, (A + B * f x + C * g x) = (b - a) * A + B * (∫ x in a..b, f x) + C * ∫ x in a..b, g x := by
  have h0 : IntervalIntegrable (fun _ : ℝ => A) MeasureTheory.volume a b := intervalIntegrable_const
  have h1 : IntervalIntegrable (fun x => B * f x) MeasureTheory.volume a b := (hf.const_mul B).intervalIntegrable _ _
  have h2 : IntervalIntegrable (fun x => C * g x) MeasureTheory.volume a b := (hg.const_mul C).intervalIntegrable _ _
  rw [integral_add (h0.add h1) h2, integral_add h0 h1, integral_const, integral_const_mul, integral_const_mul, smul_eq_mul]

theorem integral_even_quartic (c0 c2 c4 : ℝ) :
    ∫ w in (-1:ℝ)..1, (c0 + c2 * w ^ 2 + c4 * w ^ 4) = 2 * c0 + 2 / 3 * c2 + 2 / 5 * c4 := by
  rw [integral_affine_comb (by fun_prop) (by fun_prop), integral_pow, integral_pow]
  ring

theorem integral_cos_sq_two_pi : ∫ a in (0:ℝ)..(2 * Real.pi), Real.cos a ^ 2 = Real.pi := by
  rw [integral_cos_sq]
  simp only [Real.sin_zero, Real.sin_two_pi, Real.cos_zero, Real.cos_two_pi]
  ring

theorem integral_cos_pow_four_two_pi : ∫ a in (0:ℝ)..(2 * Real.pi), Real.cos a ^ 4 = 3 * Real.pi / 4 := by
  rw [show (4:ℕ) = 2 + 2 from rfl, integral_cos_pow, integral_cos_sq]
  simp only [Real.sin_zero, Real.sin_two_pi, Real.cos_zero, Real.cos_two_pi]
  ring

theorem integral_cos_quartic_two_pi (A B C : ℝ) :
    ∫ a in (0:ℝ)..(2 * Real.pi), (A + B * Real.cos a ^ 2 + C * Real.cos a ^ 4)
      = 2 * Real.pi * A + Real.pi * B + 3 * Real.pi / 4 * C := by
  rw [integral_affine_comb (by fun_prop) (by fun_prop), integral_cos_sq_two_pi, integral_cos_pow_four_two_pi]
  ring

open MeasureTheory in
/-- second moment of a linear combination of an orthonormal family -/
theorem integral_sq_sum_orthonormal {Ω ι : Type} [MeasurableSpace Ω] [Fintype ι] [DecidableEq ι] (μ : Measure Ω)
    (a : ι → ℝ) (ξ : ι → Ω → ℝ)
    (hint : ∀ i j, Integrable (fun ω => ξ i ω * ξ j ω) μ)
    (horth : ∀ i j, ∫ ω, ξ i ω * ξ j ω ∂μ = if i = j then 1 else 0) :
    ∫ ω, (∑ j, ξ j ω * a j) ^ 2 ∂μ = ∑ j, a j ^ 2 := by
  have hsq : ∀ ω, (∑ j, ξ j ω * a j) ^ 2 = ∑ i, ∑ j, (a i * a j) * (ξ i ω * ξ j ω) := fun ω => by
    rw [sq, sum_mul_sum]
    exact sum_congr rfl fun i _ => sum_congr rfl fun j _ => by ring
  simp only [hsq]
  rw [integral_finsetSum _ fun i _ => integrable_finsetSum _ fun j _ => (hint i j).const_mul _]
  refine sum_congr rfl fun i _ => ?_
  rw [integral_finsetSum _ fun j _ => (hint i j).const_mul _]
  simp only [integral_const_mul, horth, mul_ite, mul_one, mul_zero]
  rw [sum_ite_eq, if_pos (mem_univ i), sq]

open MeasureTheory in
/-- two orthonormal families that are uncorrelated with each other are together one orthonormal family (indexed by
    `Fin N ⊕ Fin N`), so the second moment of a combination of both is again the sum of the squared coefficients -/
theorem integral_sq_sum_two_orthonormal {Ω : Type} [MeasurableSpace Ω] {μ : Measure Ω} {N : Nat} {a b : Nat → ℝ}
    {Z1 Z2 : Nat → Ω → ℝ}
    (hL1 : ∀ j < N, MemLp (Z1 j) 2 μ) (hL2 : ∀ j < N, MemLp (Z2 j) 2 μ)
    (h11 : ∀ i < N, ∀ j < N, ∫ ω, Z1 i ω * Z1 j ω ∂μ = if i = j then 1 else 0)
    (h22 : ∀ i < N, ∀ j < N, ∫ ω, Z2 i ω * Z2 j ω ∂μ = if i = j then 1 else 0)
    (h12 : ∀ i < N, ∀ j < N, ∫ ω, Z1 i ω * Z2 j ω ∂μ = 0) :
    ∫ ω, (∑ j ∈ range N, (Z1 j ω * a j + Z2 j ω * b j)) ^ 2 ∂μ = ∑ j ∈ range N, (a j ^ 2 + b j ^ 2) := by
  let Z : Fin N ⊕ Fin N → Ω → ℝ := Sum.elim (fun j => Z1 j) (fun j => Z2 j)
  let c : Fin N ⊕ Fin N → ℝ := Sum.elim (fun j => a j) (fun j => b j)
  have hL : ∀ p, MemLp (Z p) 2 μ := by
    rintro (j | j)
    · exact hL1 j j.2
    · exact hL2 j j.2
  have horth : ∀ p q, ∫ ω, Z p ω * Z q ω ∂μ = if p = q then 1 else 0 := by
    rintro (i | i) (j | j)
    · simpa [Z, Fin.ext_iff] using h11 i i.2 j j.2
    · simpa [Z] using h12 i i.2 j j.2
    · simpa [Z, mul_comm] using h12 j j.2 i i.2
    · simpa [Z, Fin.ext_iff] using h22 i i.2 j j.2
  have h := integral_sq_sum_orthonormal μ c Z (fun p q => (hL p).integrable_mul (hL q)) horth
  simp only [sum_range]
  simpa only [c, Z, Fintype.sum_sum_type, Sum.elim_inl, Sum.elim_inr, ← sum_add_distrib] using h

end GSV.Incompr
