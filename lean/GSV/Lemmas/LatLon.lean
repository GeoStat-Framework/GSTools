/- Lemmas about the lat-lon / spatio-temporal model `GSV.Model.LatLon` at ℝ. -/
import GSV.RealInst
import GSV.Model.LatLon
import GSV.Lemmas.Sum
import GSV.Lemmas.Geo
import Mathlib.Analysis.SpecialFunctions.Trigonometric.Complex
import Mathlib.Tactic.Ring
import Mathlib.Tactic.Linarith
import Mathlib.Tactic.LinearCombination
import Mathlib.Tactic.FieldSimp
import Mathlib.Tactic.Positivity
namespace GSV.Model.LatLon
open scoped Real

noncomputable instance instAsinReal : Asin ℝ := ⟨Real.arcsin⟩
@[simp] theorem asin_real (x : ℝ) : Asin.asin x = Real.arcsin x := rfl

/-! ### folds, indexed maps, sums -/

theorem foldl_rel {α β γ : Type} {r : α → β → Prop} {f : α → γ → α} {g : β → γ → β} {L : List γ}
    (h : ∀ q ∈ L, ∀ a b, r a b → r (f a q) (g b q)) {a : α} {b : β} (h0 : r a b) :
    r (L.foldl f a) (L.foldl g b) := by
  induction L generalizing a b with
  | nil => exact h0
  | cons q L ih => exact ih (fun q' hq' => h q' (List.mem_cons_of_mem _ hq')) (h q List.mem_cons_self a b h0)

theorem getElem?_zipIdx_map {α β : Type} (l : List α) (f : α × ℕ → β) (k : ℕ) :
    (l.zipIdx.map f)[k]? = l[k]?.map fun a => f (a, k) := by
  rw [List.getElem?_map, List.getElem?_zipIdx, Option.map_map, Nat.zero_add]
  rfl

theorem sum_range_succ_last {m : ℕ} {f : ℕ → ℝ} (h : ∀ k, k < m → f k = 0) :
    ∑ k ∈ Finset.range (m + 1), f k = f m := by
  rw [Finset.sum_range_succ, Finset.sum_eq_zero fun k hk => h k (Finset.mem_range.1 hk), zero_add]

/-! ### scalars and points of 3-space -/

theorem clip_eq (lo hi x : ℝ) : clip lo hi x = max (min x hi) lo := by
  rw [max_def_lt, min_comm, min_def_lt]
  rfl

theorem clip_of_mem {lo hi x : ℝ} (h1 : lo ≤ x) (h2 : x ≤ hi) : clip lo hi x = x := by
  rw [clip_eq, min_eq_left h2, max_eq_left h1]

theorem clip_mem {lo hi : ℝ} (h : lo ≤ hi) (x : ℝ) : lo ≤ clip lo hi x ∧ clip lo hi x ≤ hi := by
  rw [clip_eq]
  exact ⟨le_max_right _ _, max_le (min_le_right _ _) h⟩

theorem deg2rad_real (x : ℝ) : deg2rad x = x * (π / 180) := by
  simp [deg2rad]

theorem deg2rad_sub (x y : ℝ) : deg2rad (x - y) = deg2rad x - deg2rad y := by
  simp only [deg2rad]; ring

theorem deg2rad_add (x y : ℝ) : deg2rad (x + y) = deg2rad x + deg2rad y := by
  simp only [deg2rad]; ring

theorem rad2deg_deg2rad (x : ℝ) : rad2deg (deg2rad x) = x := by
  have := Real.pi_ne_zero
  simp only [deg2rad, rad2deg, pi_real, Nat.cast_ofNat]
  field_simp

theorem deg2rad_rad2deg (x : ℝ) : deg2rad (rad2deg x) = x := by
  have := Real.pi_ne_zero
  simp only [deg2rad, rad2deg, pi_real, Nat.cast_ofNat]
  field_simp

theorem deg2rad_le {x y : ℝ} (h : x ≤ y) : deg2rad x ≤ deg2rad y := by
  rw [deg2rad_real, deg2rad_real]
  exact mul_le_mul_of_nonneg_right h (by positivity)

theorem deg2rad_lt {x y : ℝ} (h : x < y) : deg2rad x < deg2rad y := by
  rw [deg2rad_real, deg2rad_real]
  exact mul_lt_mul_of_pos_right h (by positivity)

theorem deg2rad_90 : deg2rad (90 : ℝ) = π / 2 := by rw [deg2rad_real]; ring
theorem deg2rad_neg90 : deg2rad (-90 : ℝ) = -(π / 2) := by rw [deg2rad_real]; ring
theorem deg2rad_180 : deg2rad (180 : ℝ) = π := by rw [deg2rad_real]; ring
theorem deg2rad_neg180 : deg2rad (-180 : ℝ) = -π := by rw [deg2rad_real]; ring
theorem deg2rad_360_mul (k : ℤ) : deg2rad (360 * (k : ℝ)) = (k : ℝ) * (2 * π) := by rw [deg2rad_real]; ring

theorem sin_half_sq (x : ℝ) : Real.sin (x / 2) * Real.sin (x / 2) = (1 - Real.cos x) / 2 := by
  rw [← sq, Real.sin_sq_eq_half_sub, mul_div_cancel₀ x two_ne_zero, sub_div]

theorem latlon2pos_real (R lat lon : ℝ) :
    latlon2pos R lat lon = ⟨R * Real.cos (deg2rad lat) * Real.cos (deg2rad lon),
      R * Real.cos (deg2rad lat) * Real.sin (deg2rad lon), R * Real.sin (deg2rad lat) * 1⟩ := by
  simp [latlon2pos]

theorem pos2latlon_real (R : ℝ) (p : P3 ℝ) :
    pos2latlon R p = (rad2deg (Real.arcsin (clip (-1) 1 (p.z / R))), rad2deg (Complex.arg ⟨p.x, p.y⟩)) := by
  simp [pos2latlon]

theorem g2c_real (R d : ℝ) : great_circle_to_chordal R d = 2 * R * Real.sin (d / (2 * R)) := by
  simp [great_circle_to_chordal]

theorem c2g_real (R d : ℝ) : chordal_to_great_circle R d = 2 * R * Real.arcsin (clip 0 1 (d / (2 * R))) := by
  simp [chordal_to_great_circle]

theorem P3.normSq_nonneg (p : P3 ℝ) : 0 ≤ P3.normSq p :=
  add_nonneg (add_nonneg (mul_self_nonneg _) (mul_self_nonneg _)) (mul_self_nonneg _)

/-- parallelogram law, as a bound: `‖p − q‖² ≤ 2 (‖p‖² + ‖q‖²)` -/
theorem P3.normSq_sub_le (p q : P3 ℝ) : P3.normSq (P3.sub p q) ≤ 2 * (P3.normSq p + P3.normSq q) := by
  have h := P3.normSq_nonneg ⟨p.x + q.x, p.y + q.y, p.z + q.z⟩
  simp only [P3.normSq, P3.sub] at h ⊢
  linear_combination h

theorem distSq_toList (p q : P3 ℝ) : distSq p.toList q.toList = P3.normSq (P3.sub p q) := by
  simp [distSq, P3.toList, P3.normSq, P3.sub]

theorem distSq_toList_append (p q : P3 ℝ) (s t : ℝ) :
    distSq (p.toList ++ [s]) (q.toList ++ [t]) = P3.normSq (P3.sub p q) + (s - t) * (s - t) := by
  simp [distSq, P3.toList, P3.normSq, P3.sub]

/-! ### the generated haversine kernel, `atan2` -/

/-- `GSV.Estimator.dist_haversine` on any position array (rows 0 / 1 = latitude / longitude in degrees) is
    `2·atan2(√a, √(1−a))` with `a = havArg` -/
theorem dist_haversine_eq (dim : ℕ) (pos : ℕ → ℕ → ℝ) (s0 s1 i j : ℕ) :
    Estimator.dist_haversine dim pos s0 s1 i j =
      2 * Complex.arg ⟨Real.sqrt (1 - havArg (pos 0 i) (pos 1 i) (pos 0 j) (pos 1 j)),
        Real.sqrt (havArg (pos 0 i) (pos 1 i) (pos 0 j) (pos 1 j))⟩ := by
  unfold Estimator.dist_haversine havArg deg2rad
  simp only [rpow_real, sqrt_real, atan2_real, sin_real, cos_real, pi_real, Nat.cast_ofNat, Real.rpow_two, sq,
    Nat.cast_one]

theorem arg_unit {a : ℝ} (h0 : 0 ≤ a) (h1 : a ≤ 1) :
    Complex.arg ⟨Real.sqrt (1 - a), Real.sqrt a⟩ = Real.arcsin (Real.sqrt a) := by
  have : ‖(⟨Real.sqrt (1 - a), Real.sqrt a⟩ : ℂ)‖ = 1 := by
    rw [Complex.norm_def, Complex.normSq_mk, Real.mul_self_sqrt (sub_nonneg.2 h1), Real.mul_self_sqrt h0,
      sub_add_cancel, Real.sqrt_one]
  rw [Complex.arg_of_re_nonneg (Real.sqrt_nonneg (1 - a)), this, div_one]

theorem arg_polar {r θ : ℝ} (hr : 0 < r) (h1 : -π < θ) (h2 : θ ≤ π) :
    Complex.arg ⟨r * Real.cos θ, r * Real.sin θ⟩ = θ := by
  have := Complex.arg_mul_cos_add_sin_mul_I hr (θ := θ) ⟨h1, h2⟩
  have e : (⟨r * Real.cos θ, r * Real.sin θ⟩ : ℂ) = ↑r * (Complex.cos ↑θ + Complex.sin ↑θ * Complex.I) := by
    apply Complex.ext <;> simp [← Complex.ofReal_cos, ← Complex.ofReal_sin]
  rw [e]; exact this

/-! ### orthogonal maps of 3-space -/

/-- the linear map of 3-space with columns `c1 c2 c3` -/
def linMap (c1 c2 c3 p : P3 ℝ) : P3 ℝ :=
  ⟨p.x * c1.x + p.y * c2.x + p.z * c3.x, p.x * c1.y + p.y * c2.y + p.z * c3.y, p.x * c1.z + p.y * c2.z + p.z * c3.z⟩

/-- `QᵀQ = 1` -/
def Orthonormal3 (c1 c2 c3 : P3 ℝ) : Prop :=
  P3.dot c1 c1 = 1 ∧ P3.dot c2 c2 = 1 ∧ P3.dot c3 c3 = 1 ∧ P3.dot c1 c2 = 0 ∧ P3.dot c1 c3 = 0 ∧ P3.dot c2 c3 = 0

theorem linMap_sub (c1 c2 c3 p q : P3 ℝ) :
    P3.sub (linMap c1 c2 c3 p) (linMap c1 c2 c3 q) = linMap c1 c2 c3 (P3.sub p q) := by
  simp only [linMap, P3.sub, P3.mk.injEq]
  exact ⟨by ring, by ring, by ring⟩

theorem normSq_linMap {c1 c2 c3 : P3 ℝ} (h : Orthonormal3 c1 c2 c3) (v : P3 ℝ) :
    P3.normSq (linMap c1 c2 c3 v) = P3.normSq v := by
  obtain ⟨h1, h2, h3, h12, h13, h23⟩ := h
  simp only [P3.dot] at h1 h2 h3 h12 h13 h23
  simp only [linMap, P3.normSq]
  linear_combination v.x ^ 2 * h1 + v.y ^ 2 * h2 + v.z ^ 2 * h3
    + 2 * v.x * v.y * h12 + 2 * v.x * v.z * h13 + 2 * v.y * v.z * h23

/-- rotation about the polar axis by `δ` degrees -/
noncomputable def rotZ (δ : ℝ) : P3 ℝ × P3 ℝ × P3 ℝ :=
  (⟨Real.cos (deg2rad δ), Real.sin (deg2rad δ), 0⟩, ⟨-Real.sin (deg2rad δ), Real.cos (deg2rad δ), 0⟩, ⟨0, 0, 1⟩)

theorem rotZ_orthonormal (δ : ℝ) : Orthonormal3 (rotZ δ).1 (rotZ δ).2.1 (rotZ δ).2.2 := by
  have h := Real.cos_sq_add_sin_sq (deg2rad δ)
  simp only [Orthonormal3, rotZ, P3.dot]
  exact ⟨by linear_combination h, by linear_combination h, by ring, by ring, by ring, by ring⟩

theorem latlon2pos_lon_shift {R lat lon δ : ℝ} :
    latlon2pos R lat (lon + δ) = linMap (rotZ δ).1 (rotZ δ).2.1 (rotZ δ).2.2 (latlon2pos R lat lon) := by
  rw [latlon2pos_real, latlon2pos_real, deg2rad_add, Real.cos_add, Real.sin_add]
  simp only [linMap, rotZ, P3.mk.injEq]
  refine ⟨by ring, by ring, by ring⟩

/-! ### rotation matrices in general dimension -/

theorem matmul_real (d : ℕ) (A B : Mat ℝ) (i j : ℕ) :
    matmul d A B i j = ∑ k ∈ Finset.range d, A i k * B k j := by
  unfold matmul
  exact forRange_cast_zero_add_eq_sum d _

theorem eye_real (i j : ℕ) : (eye : Mat ℝ) i j = if i = j then 1 else 0 := by
  rw [eye, Nat.cast_one, Nat.cast_zero]

theorem givens_zero (p : ℕ × ℕ) : givens p (0:ℝ) = eye := by
  funext i j
  have e : ∀ {a b : ℕ}, i = a ∧ j = b → (eye : Mat ℝ) i j = if a = b then 1 else 0 :=
    fun h => by rw [eye_real, h.1, h.2]
  unfold givens
  rw [cos_real, sin_real, Real.cos_zero, Real.sin_zero, neg_zero]
  by_cases h1 : i = p.1 ∧ j = p.1
  · rw [if_pos h1, e h1, if_pos rfl]
  rw [if_neg h1]
  by_cases h2 : i = p.2 ∧ j = p.2
  · rw [if_pos h2, e h2, if_pos rfl]
  rw [if_neg h2]
  by_cases h3 : i = p.1 ∧ j = p.2
  · rw [if_pos h3, e h3, if_neg fun hp => h1 ⟨h3.1, h3.2.trans hp.symm⟩]
  rw [if_neg h3]
  by_cases h4 : i = p.2 ∧ j = p.1
  · rw [if_pos h4, e h4, if_neg fun hp => h1 ⟨h4.1.trans hp, h4.2⟩]
  rw [if_neg h4]

theorem altSign_mul_neg_zero (i : ℕ) : altSign i * (-(0:ℝ)) = 0 := by simp

/-- one step of the `matrix_derotate` loop -/
noncomputable def rotStep (d : ℕ) (res : Mat ℝ) (q : (ℝ × (ℕ × ℕ)) × ℕ) : Mat ℝ :=
  matmul d res (givens q.1.2 (altSign q.2 * (-q.1.1)))

/-- the plane of the step lies inside the first `m` axes, or the step is a rotation by 0 -/
def GoodStep (m : ℕ) (q : (ℝ × (ℕ × ℕ)) × ℕ) : Prop :=
  (q.1.2.1 < q.1.2.2 ∧ q.1.2.2 < m) ∨ q.1.1 = 0

/-- row and column `m` of `M` are those of the identity (inside the first `m+1` axes) -/
def TimeFixed (m : ℕ) (M : Mat ℝ) : Prop :=
  (∀ j, j ≤ m → M m j = if j = m then 1 else 0) ∧ (∀ i, i ≤ m → M i m = if i = m then 1 else 0)

theorem timeFixed_eye (m : ℕ) : TimeFixed m eye :=
  ⟨fun j _ => (eye_real m j).trans (if_congr eq_comm rfl rfl), fun i _ => eye_real i m⟩

theorem givens_outside {p : ℕ × ℕ} {θ : ℝ} {i j : ℕ} (h : (i ≠ p.1 ∧ i ≠ p.2) ∨ (j ≠ p.1 ∧ j ≠ p.2)) :
    givens p θ i j = eye i j := by
  simp only [givens]
  rcases h with ⟨h1, h2⟩ | ⟨h1, h2⟩ <;> simp [h1, h2]

theorem timeFixed_givens {m : ℕ} {q : (ℝ × (ℕ × ℕ)) × ℕ} (hq : GoodStep m q) :
    TimeFixed m (givens q.1.2 (altSign q.2 * (-q.1.1))) := by
  rcases hq with ⟨h1, h2⟩ | h1
  · have hm : m ≠ q.1.2.1 ∧ m ≠ q.1.2.2 := ⟨(h1.trans h2).ne', h2.ne'⟩
    exact ⟨fun j hj => (givens_outside (.inl hm)).trans ((timeFixed_eye m).1 j hj),
      fun i hi => (givens_outside (.inr hm)).trans ((timeFixed_eye m).2 i hi)⟩
  · rw [h1, altSign_mul_neg_zero, givens_zero]
    exact timeFixed_eye m

theorem timeFixed_matmul {m : ℕ} {A B : Mat ℝ} (hA : TimeFixed m A) (hB : TimeFixed m B) :
    TimeFixed m (matmul (m + 1) A B) := by
  constructor
  · intro j hj
    rw [matmul_real, sum_range_succ_last fun k hk => by rw [hA.1 k hk.le, if_neg hk.ne, zero_mul],
      hA.1 m le_rfl, if_pos rfl, one_mul, hB.1 j hj]
  · intro i hi
    rw [matmul_real, sum_range_succ_last fun k hk => by rw [hB.2 k hk.le, if_neg hk.ne, mul_zero],
      hB.2 m le_rfl, if_pos rfl, mul_one, hA.2 i hi]

/-! ### structure of `rotation_planes` and of the zeroed angle list -/

theorem planes_succ (d : ℕ) : planes (d + 1) = planes d ++ (List.range d).map fun i => (i, d) := by
  cases d with
  | zero => rfl
  | succ e =>
    rw [planes, planes, Nat.add_sub_cancel, Nat.add_sub_cancel, List.range'_1_concat, List.flatMap_append,
      List.flatMap_singleton, Nat.add_comm 1 e]

theorem planes_eq (d : ℕ) : planes d = Geo.rotationPlanes d := by
  simp only [planes, Geo.rotationPlanes, idxRange, List.range_eq_range', Nat.sub_zero]

theorem mem_planes {d : ℕ} {p : ℕ × ℕ} : p ∈ planes d ↔ p.1 < p.2 ∧ p.2 < d :=
  planes_eq d ▸ Lemmas.Geo.mem_rotationPlanes

theorem length_planes (d : ℕ) : (planes d).length = noa d :=
  planes_eq d ▸ Lemmas.Geo.length_rotationPlanes d

theorem noa_succ (d : ℕ) : noa (d + 1) = noa d + d := by
  rw [← length_planes, planes_succ, List.length_append, length_planes, List.length_map, List.length_range]

theorem getElem?_modelAngles_temporal (d : ℕ) (as : List ℝ) (k : ℕ) :
    (modelAngles false true d as)[k]? = as[k]?.map fun a => if k < noa (d - 1) then a else 0 := by
  simp only [modelAngles, Bool.false_eq_true, if_false, if_true, getElem?_zipIdx_map, Nat.cast_zero]

/-- `set_model_angles(temporal=True)` keeps the first `no_of_angles(d-1)` angles and zeroes the rest -/
theorem modelAngles_temporal (d : ℕ) (angles : List ℝ) :
    modelAngles false true d angles
      = angles.take (noa (d - 1)) ++ List.replicate (angles.length - noa (d - 1)) 0 := by
  have hlen : (modelAngles false true d angles).length = angles.length := by
    rw [modelAngles, if_neg Bool.false_ne_true, if_pos rfl, List.length_map, List.length_zipIdx]
  refine List.ext_getElem (by rw [hlen, List.length_append, List.length_take, List.length_replicate, Nat.add_comm,
    Nat.min_comm, Nat.sub_add_min_cancel]) fun k h1 _ => ?_
  rw [hlen] at h1
  simp only [modelAngles, Bool.false_eq_true, if_false, if_true, List.getElem_map, List.getElem_zipIdx, Nat.zero_add,
    Nat.cast_zero, List.getElem_append, List.length_take, List.getElem_take, List.getElem_replicate, lt_min_iff, h1,
    and_true]
  split <;> rfl

/-! ### decomposition of the rotation steps of a spatio-temporal model -/

/-- the list the `matrix_derotate` loop runs over -/
def steps (d : ℕ) (angles : List ℝ) : List ((ℝ × (ℕ × ℕ)) × ℕ) := ((angles.zip (planes d)).zipIdx)

theorem derotate_steps (d : ℕ) (angles : List ℝ) : derotate d angles = (steps d angles).foldl (rotStep d) eye := rfl

theorem steps_temporal {m : ℕ} {angles : List ℝ} (hlen : noa m ≤ angles.length) :
    steps (m + 1) (modelAngles false true (m + 1) angles)
      = steps m (angles.take (noa m))
        ++ ((List.replicate (angles.length - noa m) (0:ℝ)).zip ((List.range m).map fun i => (i, m))).zipIdx (noa m) := by
  unfold steps
  rw [modelAngles_temporal, Nat.add_sub_cancel, planes_succ,
    List.zip_append (by rw [List.length_take_of_le hlen, length_planes]), List.zipIdx_append]
  congr 2
  rw [List.length_zip, List.length_take_of_le hlen, length_planes, Nat.min_self, Nat.zero_add]

theorem good_steps_time {n k : ℕ} {ps : List (ℕ × ℕ)} : ∀ q ∈ ((List.replicate n (0:ℝ)).zip ps).zipIdx k, q.1.1 = 0 :=
  fun q hq => List.eq_of_mem_replicate
    (List.of_mem_zip (a := q.1.1) (b := q.1.2) (List.fst_mem_of_mem_zipIdx hq)).1

theorem good_steps_temporal {m : ℕ} {angles : List ℝ} (hlen : noa m ≤ angles.length) :
    ∀ q ∈ steps (m + 1) (modelAngles false true (m + 1) angles), GoodStep m q := by
  rw [steps_temporal hlen]
  intro q hq
  rcases List.mem_append.mp hq with h | h
  · -- a step of the spatial model: its plane is one of `planes m`
    have h2 := (List.of_mem_zip (a := q.1.1) (b := q.1.2) (List.fst_mem_of_mem_zipIdx h)).2
    exact Or.inl (mem_planes.mp h2)
  · exact Or.inr (good_steps_time q h)

/-- `derotate` of a spatio-temporal model leaves the time axis alone -/
theorem timeFixed_derotate {m : ℕ} {angles : List ℝ} (hlen : noa m ≤ angles.length) :
    TimeFixed m (derotate (m + 1) (modelAngles false true (m + 1) angles)) := by
  rw [derotate_steps]
  exact List.foldlRecOn _ _ (timeFixed_eye m) fun M hM q hq =>
    timeFixed_matmul hM (timeFixed_givens (good_steps_temporal hlen q hq))

/-- agreement on the leading `m × m` block -/
def Agree (m : ℕ) (M M' : Mat ℝ) : Prop := ∀ i j, i < m → j < m → M i j = M' i j

theorem agree_refl {d : ℕ} {M : Mat ℝ} : Agree d M M := fun _ _ _ _ => rfl

theorem agree_trans {d : ℕ} {A B C : Mat ℝ} (h1 : Agree d A B) (h2 : Agree d B C) : Agree d A C :=
  fun i j hi hj => (h1 i j hi hj).trans (h2 i j hi hj)

theorem agree_step {m : ℕ} {q : (ℝ × (ℕ × ℕ)) × ℕ} (hq : GoodStep m q) {M M' : Mat ℝ} (h : Agree m M M') :
    Agree m (rotStep (m + 1) M q) (rotStep m M' q) := by
  intro i j hi hj
  simp only [rotStep, matmul_real, Finset.sum_range_succ]
  have hG := (timeFixed_givens hq).1 j hj.le
  rw [hG, if_neg hj.ne, mul_zero, add_zero]
  exact Finset.sum_congr rfl fun k hk => by rw [h i k hi (Finset.mem_range.mp hk)]

theorem agree_zero_step {m : ℕ} {q : (ℝ × (ℕ × ℕ)) × ℕ} (hq : q.1.1 = 0) (M : Mat ℝ) :
    Agree m (rotStep m M q) M := by
  intro i j _ hj
  simp only [rotStep, matmul_real]
  rw [hq, altSign_mul_neg_zero, givens_zero,
    Finset.sum_eq_single_of_mem j (Finset.mem_range.2 hj) fun k _ hk => by rw [eye_real, if_neg hk, mul_zero],
    eye_real, if_pos rfl, mul_one]

/-- the spatial block of `derotate` is the `derotate` of the purely spatial model: the spatial steps act alike on
    the block, the steps that follow rotate by 0 -/
theorem agree_derotate {m : ℕ} {angles : List ℝ} (hlen : noa m ≤ angles.length) :
    Agree m (derotate (m + 1) (modelAngles false true (m + 1) angles)) (derotate m (angles.take (noa m))) := by
  rw [derotate_steps, derotate_steps]
  refine agree_trans (foldl_rel (r := Agree m) (fun q hq _ _ => agree_step (good_steps_temporal hlen q hq))
    agree_refl) ?_
  rw [steps_temporal hlen, List.foldl_append]
  exact List.foldlRecOn (motive := fun M => Agree m M _) _ _ agree_refl fun M hM q hq =>
    agree_trans (agree_zero_step (good_steps_time q hq) M) hM

/-! ### applying a matrix -/

theorem isotropify_real (anis : List ℝ) (i j : ℕ) :
    isotropify anis i j = if i = j then (if i = 0 then 1 else 1 / anis.getD (i - 1) 1) else 0 := by
  rw [isotropify, Nat.cast_one, Nat.cast_zero]

theorem applyMat_real (d : ℕ) (M : Mat ℝ) (x : ℕ → ℝ) (i : ℕ) :
    applyMat d M x i = ∑ k ∈ Finset.range d, M i k * x k := by
  unfold applyMat
  exact forRange_cast_zero_add_eq_sum d _

theorem applyMat_last_row {m : ℕ} {M : Mat ℝ} {c : ℝ} (h : ∀ j, j ≤ m → M m j = if j = m then c else 0)
    (x : ℕ → ℝ) : applyMat (m + 1) M x m = c * x m := by
  rw [applyMat_real, sum_range_succ_last fun k hk => by rw [h k hk.le, if_neg hk.ne, zero_mul], h m le_rfl,
    if_pos rfl]

theorem applyMat_block {m i : ℕ} {M M' : Mat ℝ} (hcol : M i m = 0) (hblk : ∀ j, j < m → M i j = M' i j)
    (x : ℕ → ℝ) : applyMat (m + 1) M x i = applyMat m M' x i := by
  rw [applyMat_real, applyMat_real, Finset.sum_range_succ, hcol, zero_mul, add_zero]
  exact Finset.sum_congr rfl fun k hk => by rw [hblk k (Finset.mem_range.mp hk)]

theorem matIsometrize_apply {d i : ℕ} (hi : i < d) (angles anis : List ℝ) (j : ℕ) :
    matIsometrize d angles anis i j = isotropify anis i i * derotate d angles i j := by
  rw [matIsometrize, matmul_real, Finset.sum_eq_single_of_mem i (Finset.mem_range.2 hi) fun k _ hk => by
    rw [isotropify_real, if_neg hk.symm, zero_mul]]

/-! ### materialised rotation loops agree with the closure forms on the `d × d` block -/

theorem ofArr_tabArr {d : ℕ} {f : Mat ℝ} {i j : ℕ} (hi : i < d) (hj : j < d) :
    ofArr d (tabArr d f) i j = f i j :=
  Lemmas.Geo.ofArr_tabArr f hi hj

theorem agree_tab {d : ℕ} {f : Mat ℝ} : Agree d (ofArr d (tabArr d f)) f :=
  fun _ _ => ofArr_tabArr

theorem agree_matmul {d : ℕ} {A A' B B' : Mat ℝ} (hA : Agree d A A') (hB : Agree d B B') :
    Agree d (matmul d A B) (matmul d A' B') := by
  intro i j hi hj
  rw [matmul_real, matmul_real]
  exact Finset.sum_congr rfl fun k hk => by
    rw [hA i k hi (Finset.mem_range.mp hk), hB k j (Finset.mem_range.mp hk) hj]

/-- the loop of `matrix_derotate` with a materialised running result is `derotate` -/
theorem agree_derotateA (d : ℕ) (angles : List ℝ) : Agree d (ofArr d (derotateA d angles)) (derotate d angles) := by
  unfold derotateA derotate
  refine foldl_rel (r := fun r M => Agree d (ofArr d r) M) ?_ agree_tab
  exact fun _ _ _ _ h => agree_trans agree_tab (agree_matmul h agree_refl)

theorem agree_rotateA (d : ℕ) (angles : List ℝ) : Agree d (ofArr d (rotateA d angles)) (rotate d angles) := by
  unfold rotateA rotate
  refine foldl_rel (r := fun r M => Agree d (ofArr d r) M) ?_ agree_tab
  exact fun _ _ _ _ h => agree_trans agree_tab (agree_matmul agree_refl h)

/-- what the driver computes for `matrix_isometrize` is `matIsometrize` -/
theorem agree_matIsometrizeA (d : ℕ) (angles anis : List ℝ) :
    Agree d (ofArr d (matIsometrizeA d angles anis)) (matIsometrize d angles anis) :=
  agree_trans agree_tab (agree_matmul agree_refl (agree_derotateA d angles))

theorem agree_matAnisometrizeA (d : ℕ) (angles anis : List ℝ) :
    Agree d (ofArr d (matAnisometrizeA d angles anis)) (matAnisometrize d angles anis) :=
  agree_trans agree_tab (agree_matmul (agree_rotateA d angles) agree_refl)

theorem applyMat_agree {d : ℕ} {M M' : Mat ℝ} (h : Agree d M M') (x : ℕ → ℝ) {i : ℕ} (hi : i < d) :
    applyMat d M x i = applyMat d M' x i := by
  rw [applyMat_real, applyMat_real]
  exact Finset.sum_congr rfl fun k hk => by rw [h i k hi (Finset.mem_range.mp hk)]

/-! ### `standard_bins`: units

`geo_scale = R > 0` enters the lat-lon branch only as a common factor of every length: the automatic cut-off
computed on the sphere of radius `R` is `R` times the one computed on the unit sphere, and a given `max_dist`
is used as it is.  Hence the same call in another unit gives the same bins, scaled. -/

theorem foldl_scale {c : ℝ} {f : ℝ → ℝ → ℝ} (hf : ∀ a b, f (c * a) (c * b) = c * f a b) (l : List ℝ) (a : ℝ) :
    (l.map (c * ·)).foldl f (c * a) = c * l.foldl f a := by
  rw [List.foldl_map]
  exact foldl_rel (r := fun x y => x = c * y) (fun b _ x y h => by rw [h, hf]) rfl

theorem axisExt_scale {R : ℝ} (hR : 0 < R) (xs : List ℝ) : axisExt (xs.map (R * ·)) = R * axisExt xs := by
  have hh : (xs.map (R * ·)).headD ((0:ℕ):ℝ) = R * xs.headD ((0:ℕ):ℝ) := by
    cases xs <;> simp
  simp only [axisExt, minList, maxList, hh, mul_sub,
    foldl_scale (c := R) (f := fun a b => if b < a then b else a) fun a b => by simp only [mul_lt_mul_iff_right₀ hR, mul_ite],
    foldl_scale (c := R) (f := fun a b => if a < b then b else a) fun a b => by simp only [mul_lt_mul_iff_right₀ hR, mul_ite]]

theorem boxDiam_scale {R : ℝ} (hR : 0 < R) (axes : List (List ℝ)) :
    boxDiam (axes.map fun xs => xs.map (R * ·)) = R * boxDiam axes := by
  simp only [boxDiam, sqrt_real, List.map_map, Function.comp_def, axisExt_scale hR, Nat.cast_zero, ← List.sum_eq_foldl,
    fun xs : List ℝ => mul_mul_mul_comm R (axisExt xs) R (axisExt xs), List.sum_map_mul_left]
  rw [Real.sqrt_mul (mul_self_nonneg R), Real.sqrt_mul_self hR.le]

theorem latlon2pos_scale (R lat lon : ℝ) :
    latlon2pos R lat lon = ⟨R * (latlon2pos 1 lat lon).x, R * (latlon2pos 1 lat lon).y, R * (latlon2pos 1 lat lon).z⟩ := by
  simp only [latlon2pos_real, one_mul, mul_assoc]

theorem sphereAxes_scale (R : ℝ) (axes : List (List ℝ)) :
    sphereAxes R axes = (sphereAxes 1 axes).map fun xs => xs.map (R * ·) := by
  simp only [sphereAxes, List.map_map, List.map_cons, List.map_nil, Function.comp_def, latlon2pos_scale R]

theorem c2g_scale {R : ℝ} (hR : 0 < R) (d : ℝ) :
    chordal_to_great_circle R (R * d) = R * chordal_to_great_circle 1 d := by
  simp only [chordal_to_great_circle, asin_real]
  rw [mul_comm _ R, mul_div_mul_left _ _ hR.ne', mul_one, mul_assoc]

/-- the automatic cut-off of the lat-lon branch is in the unit of `geo_scale` -/
theorem stdDiam_latlon_scale {R : ℝ} (hR : 0 < R) (axes : List (List ℝ)) :
    stdDiam true R axes = R * stdDiam true 1 axes := by
  simp only [stdDiam, if_true]
  rw [sphereAxes_scale, boxDiam_scale hR, c2g_scale hR]

theorem linspace0_scale (R m : ℝ) (n : ℕ) : linspace0 (R * m) n = (linspace0 m n).map (R * ·) := by
  unfold linspace0
  split
  · rw [List.map_singleton, Nat.cast_zero, mul_zero]
  · rw [List.map_map]
    exact List.map_congr_left fun i _ => by rw [Function.comp, mul_ite, mul_div_assoc, mul_left_comm]

/-- unit change of `standard_bins`: with `geo_scale = R` and the cut-off given in that unit (`R·m`) the edges
    are `R` times the edges of the radian call with cut-off `m`; likewise when the cut-off is derived from the points -/
theorem standardBins_geo_scale {R : ℝ} (hR : 0 < R) (pos : Option (List (List ℝ))) (binNo : Option ℕ) (maxDist : Option ℝ) :
    standardBins true R pos binNo (maxDist.map (R * ·))
      = (standardBins true 1 pos binNo maxDist).map (fun e => e.map (R * ·)) := by
  cases binNo <;> cases maxDist <;> cases pos <;>
    simp only [standardBins, Option.map_some, Option.map_none, Except.map, linspace0_scale,
      stdDiam_latlon_scale hR, mul_div_assoc]

/-- `stdMaxDist`, the lat-lon cut-off when neither `bin_edges` nor `max_dist` is given, is a third of `stdDiam` -/
theorem stdMaxDist_eq (R : ℝ) (lats lons : List ℝ) :
    stdMaxDist R lats lons = stdDiam true R [lats, lons] / ((3:ℕ):ℝ) := by
  simp only [stdMaxDist, stdDiam, if_true, sphereAxes, boxDiam, axisExt, List.getD_cons_zero, List.getD_cons_succ,
    List.map_cons, List.map_nil, List.foldl_cons, List.foldl_nil, Nat.cast_zero, zero_add]

/-! ### what the setters accept -/

theorem length_setAngles (d : ℕ) (as : List ℝ) : (setAngles d as).length = noa d :=
  Lemmas.Geo.length_setAngles d as

theorem length_setAnis (d : ℕ) (an : List ℝ) : (setAnis d an).length = d - 1 := by
  rw [setAnis, List.length_append, List.length_replicate, List.length_take, Nat.sub_add_cancel (Nat.min_le_left ..)]

theorem setAnis_id {d : ℕ} {an : List ℝ} (h : an.length = d - 1) : setAnis d an = an := by
  rw [setAnis, List.take_of_length_le h.le, h, Nat.sub_self, List.replicate_zero, List.nil_append]

theorem setAnis_pos {d : ℕ} {an : List ℝ} (h : ∀ a ∈ an, 0 < a) : ∀ a ∈ setAnis d an, 0 < a := by
  intro a ha
  simp only [setAnis, List.mem_append, List.mem_replicate] at ha
  rcases ha with ⟨_, rfl⟩ | ha
  · norm_num
  · exact h a (List.mem_of_mem_take ha)

theorem length_modelAnis (latlon : Bool) (an : List ℝ) : (modelAnis latlon an).length = an.length := by
  cases latlon
  · rfl
  · exact (List.length_map _).trans List.length_zipIdx

theorem modelAnis_pos (latlon : Bool) {an : List ℝ} (h : ∀ a ∈ an, 0 < a) : ∀ a ∈ modelAnis latlon an, 0 < a := by
  cases latlon with
  | false => exact h
  | true =>
    intro a ha
    obtain ⟨⟨b, k⟩, hb, rfl⟩ := List.mem_map.1 ha
    dsimp only
    split
    · rw [Nat.cast_one]; exact one_pos
    · exact h b (List.fst_mem_of_mem_zipIdx hb)

/-- lat-lon: the two spatial ratios are 1 -/
theorem modelAnis_latlon_take (an : List ℝ) (h : 2 ≤ an.length) : (modelAnis true an).take 2 = [1, 1] := by
  match an, h with
  | a :: b :: t, _ =>
    simp only [modelAnis, if_true, List.zipIdx_cons, List.map_cons, List.take_succ_cons, List.take_zero, Nat.zero_add,
      Nat.cast_one]
    rfl

/-- the time ratio (any ratio after the first two) is kept -/
theorem modelAnis_latlon_getD (an : List ℝ) {k : ℕ} (hk : 2 ≤ k) (dflt : ℝ) :
    (modelAnis true an).getD k dflt = an.getD k dflt := by
  simp only [modelAnis, if_true, List.getD_eq_getElem?_getD, getElem?_zipIdx_map]
  cases an[k]? with
  | none => rfl
  | some a => exact congrArg (fun x => (some x).getD dflt) (if_neg (Nat.not_lt.2 hk))

/-- whatever `set_len_anis` accepts: `dim - 1` positive ratios; lat-lon: the first two are 1 -/
theorem setLenAnis_ok {latlon : Bool} {d : ℕ} {ls anis : List ℝ} {l0 : ℝ} {an : List ℝ}
    (h : setLenAnis latlon d ls anis = .ok (l0, an)) :
    an.length = d - 1 ∧ (∀ a ∈ an, 0 < a) ∧ (latlon = true → 3 ≤ d → an.take 2 = [1, 1]) := by
  unfold setLenAnis at h
  split at h
  · cases h
  rename_i l0' rest _
  -- `O` is the list of ratios before the lat-lon rule: `dim - 1` of them in either branch
  generalize hO : (if rest.length = 0 then setAnis d anis else _) = O at h
  have hlen : O.length = d - 1 := by
    rw [← hO]
    split
    · exact length_setAnis d anis
    · rw [List.length_map, List.length_range']
  simp only at h
  split at h
  · rename_i hall
    cases h
    simp only [List.all_eq_true, decide_eq_true_eq, Nat.cast_zero] at hall
    exact ⟨(length_modelAnis latlon O).trans hlen, modelAnis_pos latlon hall,
      fun hl hd => hl ▸ modelAnis_latlon_take O (hlen ▸ Nat.le_sub_one_of_lt hd)⟩
  · cases h

/-- a single length scale keeps the (padded / cut) ratios, whatever their number -/
theorem setLenAnis_single {d : ℕ} (hd : 1 ≤ d) (l : ℝ) {anis : List ℝ} (h : ∀ a ∈ anis, 0 < a) :
    setLenAnis false d [l] anis = .ok (l, setAnis d anis) := by
  have ht : List.take d [l] = [l] := List.take_of_length_le hd
  simp only [setLenAnis, ht, List.length_nil, if_true, modelAnis, Bool.false_eq_true, if_false]
  rw [if_pos]
  simp only [List.all_eq_true, decide_eq_true_eq, Nat.cast_zero]
  exact setAnis_pos h

theorem length_modelAngles (latlon temporal : Bool) {d : ℕ} {as : List ℝ} (h : as.length = noa d) :
    (modelAngles latlon temporal d as).length = noa d := by
  cases latlon
  · cases temporal
    · exact h
    · exact ((List.length_map _).trans List.length_zipIdx).trans h
  · exact List.length_replicate

theorem length_setModelAngles (latlon temporal : Bool) (d : ℕ) (v : List ℝ) :
    (setModelAngles latlon temporal d v).length = noa d :=
  length_modelAngles _ _ (length_setAngles d v)

theorem setModelAngles_latlon {temporal : Bool} {d : ℕ} {v : List ℝ} :
    ∀ a ∈ setModelAngles true temporal d v, a = 0 := by
  intro a ha
  simp only [setModelAngles, modelAngles, if_true, List.mem_replicate] at ha
  simpa using ha.2

/-- temporal: every angle whose plane contains the time axis is zero -/
theorem setModelAngles_temporal_zero (d : ℕ) (v : List ℝ) {k : ℕ} (hk : noa (d - 1) ≤ k) :
    (setModelAngles false true d v).getD k 0 = 0 := by
  rw [List.getD_eq_getElem?_getD, setModelAngles, getElem?_modelAngles_temporal]
  cases (setAngles d v)[k]? with
  | none => rfl
  | some a => exact if_neg (Nat.not_lt.2 hk)

theorem modelAngles_idem (latlon temporal : Bool) (d : ℕ) (as : List ℝ) :
    modelAngles latlon temporal d (modelAngles latlon temporal d as) = modelAngles latlon temporal d as := by
  cases latlon with
  | true => rfl
  | false =>
    cases temporal with
    | false => rfl
    | true =>
      apply List.ext_getElem?
      intro k
      rw [getElem?_modelAngles_temporal, getElem?_modelAngles_temporal, Option.map_map]
      by_cases hk : k < noa (d - 1) <;> simp [hk, Function.comp_def]

end GSV.Model.LatLon
