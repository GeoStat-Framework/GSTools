/-
  Helper lemmas about the CovModel parameter state machine (`GSV/Model/CovState.lean`).
  Section `lawfree` needs no laws (any carrier with the operations); section `field` works over an arbitrary
  linearly ordered field `F` (so it covers both `ℚ`, on which the driver executes the model, and `ℝ`).
-/
import GSV.Model.CovState
import Mathlib.Algebra.Order.Field.Basic
import Mathlib.Data.List.Basic
import Mathlib.Tactic.NormNum

set_option linter.unusedSectionVars false
namespace GSV.Lemmas.CovState
open GSV GSV.Model.CovState

section lawfree
variable {α : Type} [Arith α] [DecidableLT α] [DecidableLE α] [DecidableEq α] [HasRPow α]
  {sp : ClassSpec α} {s s' : State α}

theorem setAnisL_length (d : Nat) (l : List α) : (setAnisL d l).length = d - 1 := by
  simp only [setAnisL, List.length_append, List.length_replicate, List.length_take]
  exact Nat.sub_add_cancel (Nat.min_le_left _ _)

theorem setAnglesL_length (d : Nat) (l : List α) : (setAnglesL d l).length = noOfAngles d := by
  simp only [setAnglesL, List.length_append, List.length_replicate, List.length_take]
  exact Nat.add_sub_of_le (Nat.min_le_left _ _)

theorem setModelAngles_length (d : Nat) (l : List α) (ll t : Bool) : (setModelAngles d l ll t).length = noOfAngles d := by
  unfold setModelAngles
  split
  · simp
  · split
    · simp only [List.length_append, List.length_replicate, List.length_take, setAnglesL_length]
      omega
    · exact setAnglesL_length d l

theorem setAnisL_of_length {d : Nat} {l : List α} (h : l.length = d - 1) : setAnisL d l = l := by
  simp [setAnisL, List.take_of_length_le (le_of_eq h), h]

theorem setAnglesL_of_length {d : Nat} {l : List α} (h : l.length = noOfAngles d) : setAnglesL d l = l := by
  simp [setAnglesL, List.take_of_length_le (le_of_eq h), h]

/-- pad rule of `set_anis`: too few ratios are filled up IN FRONT with ones -/
theorem setAnisL_pad {d : Nat} {l : List α} (h : l.length ≤ d - 1) :
    setAnisL d l = List.replicate (d - 1 - l.length) (one : α) ++ l := by
  simp [setAnisL, List.take_of_length_le h]

/-- truncation rule of `set_anis`: only the first `d-1` ratios are kept -/
theorem setAnisL_trunc {d : Nat} {l : List α} (h : d - 1 ≤ l.length) : setAnisL d l = l.take (d - 1) := by
  simp [setAnisL, List.length_take, Nat.min_eq_left h]

/-- pad rule of `set_angles`: too few angles are filled up AT THE END with zeros -/
theorem setAnglesL_pad {d : Nat} {l : List α} (h : l.length ≤ noOfAngles d) :
    setAnglesL d l = l ++ List.replicate (noOfAngles d - l.length) (zero : α) := by
  simp [setAnglesL, List.take_of_length_le h]

theorem setAnglesL_trunc {d : Nat} {l : List α} (h : noOfAngles d ≤ l.length) :
    setAnglesL d l = l.take (noOfAngles d) := by
  simp [setAnglesL, List.length_take, Nat.min_eq_left h]

theorem eq_replicate_of_all {z : α} {l : List α} (h : ∀ a ∈ l, a = z) : l = List.replicate l.length z :=
  List.eq_replicate_iff.mpr ⟨rfl, h⟩

theorem setModelAngles_fixed {d : Nat} {l : List α} {ll t : Bool} (hlen : l.length = noOfAngles d)
    (hll : ll = true → ∀ a ∈ l, a = (zero : α))
    (ht : t = true → ∀ a ∈ l.drop (noOfAngles (d - 1)), a = (zero : α)) :
    setModelAngles d l ll t = l := by
  unfold setModelAngles
  split
  · rename_i h
    rw [← hlen]; exact (eq_replicate_of_all (hll h)).symm
  · split
    · rename_i h
      rw [setAnglesL_of_length hlen]
      have h2 := eq_replicate_of_all (ht h)
      rw [List.length_drop] at h2
      conv_rhs => rw [← List.take_append_drop (noOfAngles (d - 1)) l, h2]
    · exact setAnglesL_of_length hlen

theorem setModelAngles_zero (d : Nat) (l : List α) (ll t : Bool) :
    (ll = true → ∀ a ∈ setModelAngles d l ll t, a = (zero : α)) ∧
    (t = true → ∀ a ∈ (setModelAngles d l ll t).drop (noOfAngles (d - 1)), a = (zero : α)) := by
  unfold setModelAngles
  refine ⟨fun hl a ha => ?_, fun ht a ha => ?_⟩
  · rw [if_pos hl] at ha
    exact (List.mem_replicate.mp ha).2
  · split at ha
    · exact (List.mem_replicate.mp (List.mem_of_mem_drop ha)).2
    · rw [List.drop_append] at ha
      rcases List.mem_append.mp ha with h | h
      · rw [List.drop_take] at h
        simp at h
      · exact (List.mem_replicate.mp (List.mem_of_mem_drop h)).2

theorem isoFirst2_length (a : List α) : (isoFirst2 a).length = a.length := by
  simp only [isoFirst2, List.length_append, List.length_replicate, List.length_drop]
  omega

theorem isoFirst2_take (a : List α) : (isoFirst2 a).take 2 = List.replicate (min 2 (isoFirst2 a).length) (one : α) := by
  rcases a with _ | ⟨x, _ | ⟨y, a⟩⟩ <;> simp [isoFirst2]

theorem isoFirst2_fixed {a : List α} (h : a.take 2 = List.replicate (min 2 a.length) (one : α)) : isoFirst2 a = a := by
  conv_rhs => rw [← List.take_append_drop 2 a, h]
  rfl

theorem mem_isoFirst2 {a : List α} {x : α} (hx : x ∈ isoFirst2 a) : x = (one : α) ∨ x ∈ a := by
  simp only [isoFirst2] at hx
  rcases List.mem_append.mp hx with h | h
  · exact Or.inl (List.mem_replicate.mp h).2
  · exact Or.inr (List.mem_of_mem_drop h)

theorem finishAnis_ok {l : α} {a : List α} {ll : Bool} {l' : α} {a' : List α} (h : finishAnis l a ll = .ok (l', a')) :
    l' = l ∧ (∀ x ∈ a, (zero : α) < x) ∧ a' = (if ll then isoFirst2 a else a) := by
  revert h
  fun_cases finishAnis l a ll
  case case1 hall =>
    intro h
    cases h
    exact ⟨rfl, fun x hx => by simpa using List.all_eq_true.mp hall x hx, rfl⟩
  case case2 => exact fun h => nomatch h

theorem finishAnis_of_pos {l : α} {a : List α} (ll : Bool) (h : ∀ x ∈ a, (zero : α) < x) :
    finishAnis l a ll = .ok (l, if ll then isoFirst2 a else a) := by
  unfold finishAnis
  rw [if_pos]
  exact List.all_eq_true.mpr (fun x hx => by simpa using h x hx)

/-- the structural invariant of a model state (everything except "values are inside their bounds") -/
structure WF (s : State α) : Prop where
  dim_pos : 1 ≤ s.dim
  anis_len : s.anis.length = s.dim - 1
  angles_len : s.angles.length = noOfAngles s.dim
  anis_pos : ∀ a ∈ s.anis, (zero : α) < a
  latlon_dim : s.latlon = true → s.dim = 3 + tNat s.temporal
  latlon_iso : s.latlon = true → s.anis.take 2 = List.replicate (min 2 s.anis.length) (one : α)
  latlon_ang : s.latlon = true → ∀ a ∈ s.angles, a = (zero : α)
  temporal_ang : s.temporal = true → ∀ a ∈ s.angles.drop (noOfAngles (s.dim - 1)), a = (zero : α)
  rescale_pos : (zero : α) < s.rescale

/-- states reachable by ANY history: successful construction, then arbitrary setter calls, including
    calls that raise (Python: `try: m.x = v  except ValueError: pass`) -/
inductive Reach (sp : ClassSpec α) : State α → Prop where
  | init {cfg : Cfg α} {s : State α} {w : Bool} : construct sp cfg = .ok (s, w) → Reach sp s
  | step {s : State α} (op : Op α) : Reach sp s → Reach sp (step sp s op).st

/-- setters that are neither bounds operations nor (for TPL classes, whose variance factor depends on it) the
    unchecked `rescale` setter -/
def Op.plain (sp : ClassSpec α) : Op α → Bool
  | .setArgBounds _ _ => false
  | .setBoundsProp _ _ => false
  | .setRescale _ => !sp.tpl
  | _ => true

/-- states reachable by histories of plain setters none of which raised -/
inductive ReachOk (sp : ClassSpec α) : State α → Prop where
  | init {cfg : Cfg α} {s : State α} {w : Bool} : construct sp cfg = .ok (s, w) → ReachOk sp s
  | step {s : State α} (op : Op α) : ReachOk sp s → Op.plain sp op = true → (step sp s op).err = none →
      ReachOk sp (step sp s op).st

/-- histories of plain setters other than `rescale` (excluded here for every class, not only the TPL ones) and
    `set_arg_bounds(check_args=True, …)` calls, none of which raised -/
inductive ReachOkB (sp : ClassSpec α) : State α → Prop where
  | init {cfg : Cfg α} {s : State α} {w : Bool} : construct sp cfg = .ok (s, w) → ReachOkB sp s
  | step {s : State α} (op : Op α) : ReachOkB sp s → Op.plain sp op = true → (∀ v, op ≠ .setRescale v) →
      (step sp s op).err = none → ReachOkB sp (step sp s op).st
  | bounds {s : State α} (bs : List (String × RawBnd α)) : ReachOkB sp s →
      (step sp s (.setArgBounds true bs)).err = none → ReachOkB sp (step sp s (.setArgBounds true bs)).st

/-- `error_case = 0` means: every value is inside the interval (stated with the comparisons the code makes) -/
def InBnd (b : Bnd α) (v : α) : Prop :=
  (match b.lo with
    | none => True
    | some l => if b.loC then ¬ v < l else ¬ v ≤ l) ∧
  (match b.hi with
    | none => True
    | some h => if b.hiC then ¬ h < v else ¬ h ≤ v)

theorem errorCase_eq_zero_iff (b : Bnd α) (vals : List α) : errorCase b vals = 0 ↔ ∀ v ∈ vals, InBnd b v := by
  -- one comparison of `check_arg_in_bounds`: error case `k` if some value fails, else the case `c` found so far
  have branch (p : α → Prop) [DecidablePred p] (k c : Nat) (hk : k ≠ 0) :
      (if (vals.any fun v => decide (p v)) = true then k else c) = 0 ↔ c = 0 ∧ ∀ v ∈ vals, ¬ p v := by
    by_cases h : (vals.any fun v => decide (p v)) = true
    · rw [if_pos h]
      obtain ⟨v, hv, hpv⟩ := List.any_eq_true.mp h
      exact iff_of_false hk fun hc => hc.2 v hv (of_decide_eq_true hpv)
    · rw [if_neg h]
      exact (and_iff_left (by simpa using h)).symm
  obtain ⟨lo, hi, loC, hiC⟩ := b
  cases lo <;> cases hi <;> cases loC <;> cases hiC <;>
    simp only [errorCase, InBnd, branch, ne_eq, not_false_eq_true, OfNat.ofNat_ne_zero, one_ne_zero, true_and, and_true,
      implies_true, if_true, if_false, Bool.false_eq_true, forall₂_and, and_comm]

/-- all arguments inside their bounds -/
def InBounds (sp : ClassSpec α) (s : State α) : Prop :=
  InBnd s.varB (var sp s) ∧ InBnd s.lenB s.lenScale ∧ InBnd s.nugB s.nugget ∧
    (∀ a ∈ s.anis, InBnd s.anisB a) ∧ ∀ o ∈ s.opt, InBnd o.bnd o.val

theorem checkArgBounds_eq_none_iff (sp : ClassSpec α) (s : State α) : checkArgBounds sp s = none ↔ InBounds sp s := by
  unfold checkArgBounds InBounds
  rw [List.findSome?_eq_none_iff]
  simp only [ite_eq_left_iff, reduceCtorEq, imp_false, not_not, errorCase_eq_zero_iff, argList,
    List.forall_mem_append, List.forall_mem_cons, List.forall_mem_map, List.mem_singleton, forall_eq, and_assoc]

theorem chk_ok {w : Bool} (h : (chk sp s w).err = none) : InBounds sp (chk sp s w).st :=
  (checkArgBounds_eq_none_iff sp s).mp h

/-- the bounds (and the names of the optional arguments) of `s'` are those of `s` -/
def SameBounds (s s' : State α) : Prop :=
  s'.varB = s.varB ∧ s'.lenB = s.lenB ∧ s'.nugB = s.nugB ∧ s'.anisB = s.anisB ∧
  s'.opt.map (fun o => (o.name, o.bnd)) = s.opt.map (fun o => (o.name, o.bnd))

theorem SameBounds.refl (s : State α) : SameBounds s s := ⟨rfl, rfl, rfl, rfl, rfl⟩

theorem SameBounds.trans {s1 s2 s3 : State α} (h1 : SameBounds s1 s2) (h2 : SameBounds s2 s3) : SameBounds s1 s3 :=
  ⟨h2.1.trans h1.1, h2.2.1.trans h1.2.1, h2.2.2.1.trans h1.2.2.1, h2.2.2.2.1.trans h1.2.2.2.1,
    h2.2.2.2.2.trans h1.2.2.2.2⟩

theorem names_of_map_pair {β : Type} {g : OptArg α → β} {A B : List (OptArg α)}
    (h : A.map (fun o => (o.name, g o)) = B.map (fun o => (o.name, g o))) : A.map (·.name) = B.map (·.name) := by
  have := congrArg (List.map Prod.fst) h
  rwa [List.map_map, List.map_map] at this

theorem names_of_sameBounds (h : SameBounds s s') :
    s'.opt.map (·.name) = s.opt.map (·.name) := names_of_map_pair h.2.2.2.2

/-- optional-argument names are distinct and none of them shadows a standard argument
    (`set_opt_args` raises for names already present in the class) -/
def OptNamesOK (s : State α) : Prop :=
  (s.opt.map (·.name)).Nodup ∧ ∀ o ∈ s.opt, o.name ≠ "var" ∧ o.name ≠ "len_scale" ∧ o.name ≠ "nugget" ∧ o.name ≠ "anis"

/-- `OptNamesOK` as a property of the list of names -/
def NamesOK (l : List String) : Prop :=
  l.Nodup ∧ ∀ n ∈ l, n ≠ "var" ∧ n ≠ "len_scale" ∧ n ≠ "nugget" ∧ n ≠ "anis"

theorem namesOK_map (l : List (OptArg α)) :
    NamesOK (l.map (·.name)) ↔
      (l.map (·.name)).Nodup ∧ ∀ o ∈ l, o.name ≠ "var" ∧ o.name ≠ "len_scale" ∧ o.name ≠ "nugget" ∧ o.name ≠ "anis" :=
  and_congr_right fun _ => List.forall_mem_map

theorem optNamesOK_iff : OptNamesOK s ↔ NamesOK (s.opt.map (·.name)) := (namesOK_map _).symm

theorem optNamesOK_of_names (h : s'.opt.map (·.name) = s.opt.map (·.name)) (hok : OptNamesOK s) : OptNamesOK s' :=
  optNamesOK_iff.mpr (h ▸ optNamesOK_iff.mp hok)

theorem find_name_of_mem {l : List (OptArg α)} (hn : (l.map (·.name)).Nodup) {o : OptArg α} (ho : o ∈ l) :
    l.find? (fun x => x.name == o.name) = some o := by
  induction l with
  | nil => cases ho
  | cons b l ih =>
    rw [List.map_cons, List.nodup_cons] at hn
    rcases List.mem_cons.mp ho with rfl | h
    · exact List.find?_cons_of_pos (beq_self_eq_true _)
    · rw [List.find?_cons_of_neg (by rw [beq_iff_eq]; exact fun heq => hn.1 (heq ▸ List.mem_map_of_mem h)),
        ih hn.2 h]

theorem optGet_of_mem (hn : (s.opt.map (·.name)).Nodup) {o : OptArg α} (ho : o ∈ s.opt) : optGet s o.name = o.val := by
  unfold optGet
  rw [find_name_of_mem hn ho]

theorem optGet_congr (h : s'.opt.map (fun o => (o.name, o.val)) = s.opt.map (fun o => (o.name, o.val)))
    (n : String) : optGet s' n = optGet s n := by
  have key (t : State α) : optGet t n =
      match (t.opt.map (fun o => (o.name, o.val))).find? (fun p => p.1 == n) with
      | some p => p.2
      | none => (zero : α) := by
    simp only [optGet, List.find?_map, Function.comp_def]
    cases List.find? (fun o : OptArg α => o.name == n) t.opt <;> rfl
  rw [key, key, h]

theorem hasOpt_iff {n : String} : hasOpt s n = true ↔ ∃ o ∈ s.opt, o.name = n := by
  simp [hasOpt, List.any_eq_true]

theorem hasOpt_std (hok : OptNamesOK s) {n : String}
    (hn : n = "var" ∨ n = "len_scale" ∨ n = "nugget" ∨ n = "anis") : hasOpt s n = false := by
  cases hh : hasOpt s n with
  | false => rfl
  | true =>
    obtain ⟨o, hmem, rfl⟩ := hasOpt_iff.mp hh
    have := hok.2 o hmem
    rcases hn with h | h | h | h <;> simp [h] at this

theorem getVals_opt {arg : String} (h : arg ≠ "var" ∧ arg ≠ "len_scale" ∧ arg ≠ "nugget" ∧ arg ≠ "anis") :
    getVals sp s arg = [optGet s arg] := by
  unfold getVals
  split <;> simp_all

/-- what `storeBnd` maps over the optional arguments: the one called `arg` gets the bounds `b` -/
def setBndOf (arg : String) (b : Bnd α) (o : OptArg α) : OptArg α :=
  if o.name == arg then { o with bnd := b } else o

theorem setBndOf_name (arg : String) (b : Bnd α) (o : OptArg α) : (setBndOf arg b o).name = o.name := by
  unfold setBndOf; split <;> rfl

theorem setBndOf_val (arg : String) (b : Bnd α) (o : OptArg α) : (setBndOf arg b o).val = o.val := by
  unfold setBndOf; split <;> rfl

theorem optGet_setBnd (s : State α) (arg : String) (b : Bnd α) (n : String) :
    optGet ({ s with opt := s.opt.map (setBndOf arg b) } : State α) n = optGet s n := by
  refine optGet_congr ?_ n
  rw [List.map_map]
  exact List.map_congr_left fun o _ => by rw [Function.comp, setBndOf_name, setBndOf_val]

theorem var_setBnd (sp : ClassSpec α) (s : State α) (arg : String) (b : Bnd α) :
    var sp ({ s with opt := s.opt.map (setBndOf arg b) } : State α) = var sp s := by
  simp only [var, varFactor, optGet_setBnd]

theorem storeBnd_opt {arg : String} {b : Bnd α} (h : hasOpt s arg = true) :
    storeBnd s arg b = some { s with opt := s.opt.map (setBndOf arg b) } := by
  unfold storeBnd
  rw [if_pos h]
  rfl

/-- new bounds that the stored value of their argument satisfies leave a model inside its bounds -/
theorem inBounds_storeBnd {s s1 : State α} {arg : String} {b : Bnd α}
    (hs : storeBnd s arg b = some s1) (hok : OptNamesOK s) (hin : InBounds sp s)
    (hc : errorCase b (getVals sp s1 arg) = 0) : InBounds sp s1 := by
  obtain ⟨hv, hl, hn, ha, ho⟩ := hin
  rw [errorCase_eq_zero_iff] at hc
  by_cases hopt : hasOpt s arg = true
  · rw [storeBnd_opt hopt] at hs
    cases hs
    obtain ⟨o0, ho0, hname⟩ := hasOpt_iff.mp hopt
    rw [getVals_opt (hname ▸ hok.2 o0 ho0)] at hc
    have hc' := hc _ (List.mem_singleton.mpr rfl)
    rw [optGet_setBnd] at hc'
    refine ⟨?_, hl, hn, ha, ?_⟩
    · show InBnd s.varB (var sp _)
      rw [var_setBnd]; exact hv
    · intro o' ho'
      obtain ⟨o, hmem, rfl⟩ := List.mem_map.mp ho'
      unfold setBndOf
      split
      · rename_i heq
        rw [← optGet_of_mem hok.1 hmem, beq_iff_eq.mp heq]
        exact hc'
      · exact ho o hmem
  · unfold storeBnd at hs
    rw [if_neg hopt] at hs
    split at hs
    · cases hs
      exact ⟨hv, hc _ (List.mem_singleton.mpr rfl), hn, ha, ho⟩
    · cases hs
      exact ⟨hv, hl, hc _ (List.mem_singleton.mpr rfl), ha, ho⟩
    · cases hs
      exact ⟨hv, hl, hn, hc, ho⟩
    · cases hs

theorem names_storeBnd {s s1 : State α} {arg : String} {b : Bnd α} (hs : storeBnd s arg b = some s1) :
    s1.opt.map (·.name) = s.opt.map (·.name) := by
  revert hs
  fun_cases storeBnd s arg b <;> intro hs <;> cases hs
  · rw [List.map_map]
    exact List.map_congr_left fun o _ => setBndOf_name arg b o
  all_goals rfl

/-- invariants of `set_arg_bounds` (either `check_args`, raising or not): `Q` holds of the final state if it survives
    storing bounds that passed `check_bounds` (`B`: what that check guarantees) and the default assignments -/
theorem argBoundsLoop_induct (sp : ClassSpec α) (check : Bool) (B : Bnd α → Prop) (Q : State α → Prop)
    (hB : ∀ {raw : RawBnd α} {b : Bnd α}, raw.toBnd? = some b → B b)
    (hvar : ∀ {s : State α} {b : Bnd α}, B b → Q s → Q { s with varB := b })
    (hstore : ∀ {s s1 : State α} {arg : String} {b : Bnd α}, B b → storeBnd s arg b = some s1 → Q s → Q s1)
    (hdef : ∀ {s : State α} (arg : String) (b : Bnd α), Q s → Q (assignDefault sp s arg b).st)
    (bs : List (String × RawBnd α)) (s : State α) (vb : Option (Bnd α)) (hvb : ∀ b, vb = some b → B b) (hs : Q s) :
    Q (argBoundsLoop sp check bs s vb).st := by
  fun_induction argBoundsLoop sp check bs s vb
  case case1 => exact hs  -- list exhausted, no `var` bounds
  case case2 b _ _ => exact hdef _ _ (hvar (hvb b rfl) hs)  -- `var` bounds stored, `var` outside: default
  case case3 b _ _ => exact hvar (hvb b rfl) hs  -- `var` bounds stored, `var` inside
  case case4 => exact hs  -- `check_bounds` raises
  case case5 ih => exact ih (fun _ h => Option.some.inj h ▸ hB ‹_›) hs  -- `var`: deferred
  case case6 => exact hs  -- unknown argument: raises
  case case7 => exact hdef _ _ (hstore (hB ‹_›) ‹_› hs)  -- value outside, the default assignment raises
  case case8 ih => exact ih hvb (hdef _ _ (hstore (hB ‹_›) ‹_› hs))  -- value outside, default assigned
  case case9 ih => exact ih hvb (hstore (hB ‹_›) ‹_› hs)  -- value inside

/-- the state carries the bounds a freshly constructed model of its dimension has, and its optional
    arguments are those of the class -/
def DefaultBounds (sp : ClassSpec α) (s : State α) : Prop :=
  s.varB = defVarB ∧ s.lenB = defLenB ∧ s.nugB = defNugB ∧ s.anisB = defAnisB ∧
  s.opt.map (fun o => (o.name, o.bnd)) = (sp.opts s.dim).map (fun o => (o.name, o.bnd)) ∧
  (s.opt.map (·.name)).Nodup

theorem find_of_mem {C : List (OptArg α)} (hn : (C.map (·.name)).Nodup) {o : OptArg α} (ho : o ∈ C) :
    (C.map (fun o => (o.name, o.val))).find? (fun p => p.1 == o.name) = some (o.name, o.val) := by
  rw [List.find?_map]
  exact congrArg (Option.map _) (find_name_of_mem hn ho)

/-- merging keywords `G` into defaults `A` gives `B` if `B` has the names and bounds of `A` and `G` holds the value of
    every entry of `B` under its name -/
theorem map_mergeOpt {G : List (String × α)} {A B : List (OptArg α)}
    (hG : ∀ b ∈ B, G.find? (fun p => p.1 == b.name) = some (b.name, b.val))
    (h : B.map (fun o => (o.name, o.bnd)) = A.map (fun o => (o.name, o.bnd))) : A.map (mergeOpt G) = B := by
  induction A generalizing B with
  | nil => simpa using h
  | cons a A ih =>
    cases B with
    | nil => simp at h
    | cons b B =>
      simp only [List.map_cons, List.cons.injEq, Prod.mk.injEq] at h
      obtain ⟨⟨hname, hbnd⟩, hrest⟩ := h
      have hf := hG b (List.mem_cons_self ..)
      rw [hname] at hf
      simp only [List.map_cons, mergeOpt, hf]
      congr 1
      · obtain ⟨n1, v1, b1⟩ := a
        obtain ⟨n2, v2, b2⟩ := b
        simp only at hname hbnd
        subst hname hbnd
        rfl
      · exact ih (fun o ho => hG o (List.mem_cons_of_mem _ ho)) hrest

theorem no_unknown_opts {A B : List (OptArg α)} (h : B.map (fun o => (o.name, o.bnd)) = A.map (fun o => (o.name, o.bnd))) :
    (B.map (fun o => (o.name, o.val))).any (fun p => !A.any (fun o => o.name == p.1)) = false := by
  rw [List.any_eq_false]
  intro p hp
  obtain ⟨o, ho, rfl⟩ := List.mem_map.mp hp
  have hmem : o.name ∈ A.map (·.name) := names_of_map_pair h ▸ List.mem_map_of_mem ho
  obtain ⟨a, ha, hae⟩ := List.mem_map.mp hmem
  rw [Bool.not_eq_true, Bool.not_eq_false', List.any_eq_true]
  exact ⟨a, ha, beq_iff_eq.mpr hae⟩

theorem mergeOpt_name_bnd (g : List (String × α)) (o : OptArg α) :
    ((mergeOpt g o).name, (mergeOpt g o).bnd) = (o.name, o.bnd) := by
  unfold mergeOpt; split <;> rfl

end lawfree

section field
variable {F : Type} [Field F] [LinearOrder F] [IsStrictOrderedRing F] [HasRPow F] {sp : ClassSpec F} {s s' : State F}

/-- the operation bundle of the model, filled with the field's own operations -/
@[reducible] def arithOfField : Arith F := {}
attribute [local instance] arithOfField

theorem zero_eq : (zero : F) = 0 := by simp [zero]
theorem one_eq : (one : F) = 1 := by simp [one]
theorem two_eq : (two : F) = 2 := by simp [two]

theorem arith_zero_lt_one : (zero : F) < (one : F) := by rw [zero_eq, one_eq]; exact zero_lt_one

theorem absA_eq_abs (x : F) : absA x = |x| := by
  unfold absA
  rw [zero_eq]
  split
  · rename_i h; exact (abs_of_neg h).symm
  · rename_i h; exact (abs_of_nonneg (not_lt.mp h)).symm

theorem absA_pos {x : F} (h : absA x ≠ (zero : F)) : (zero : F) < absA x := by
  rw [absA_eq_abs, zero_eq] at *
  exact lt_of_le_of_ne (abs_nonneg x) (Ne.symm h)

theorem absA_of_pos {x : F} (h : (zero : F) < x) : absA x = x := by
  rw [absA_eq_abs]; rw [zero_eq] at h; exact abs_of_pos h

theorem setAnisL_pos {d : Nat} {l : List F} (h : ∀ x ∈ l, (zero : F) < x) : ∀ x ∈ setAnisL d l, (zero : F) < x := by
  intro x hx
  simp only [setAnisL] at hx
  rcases List.mem_append.mp hx with h1 | h1
  · rw [(List.mem_replicate.mp h1).2]; exact arith_zero_lt_one
  · exact h x (List.mem_of_mem_take h1)

theorem finishAnis_wf {l0 l : F} {b a : List F} {ll : Bool} {n : Nat} (hb : b.length = n)
    (h : finishAnis l0 b ll = .ok (l, a)) :
    l = l0 ∧ a.length = n ∧ (∀ x ∈ a, (zero : F) < x) ∧
      (ll = true → a.take 2 = List.replicate (min 2 a.length) (one : F)) := by
  obtain ⟨h1, h2, h3⟩ := finishAnis_ok h
  subst h3
  refine ⟨h1, ?_, ?_, ?_⟩
  · split
    · rw [isoFirst2_length]; exact hb
    · exact hb
  · intro x hx
    split at hx
    · rcases mem_isoFirst2 hx with h | h
      · rw [h]; exact arith_zero_lt_one
      · exact h2 x h
    · exact h2 x hx
  · intro hll
    rw [if_pos hll]
    exact isoFirst2_take b

theorem setLenAnis_single {d : Nat} (hd : 1 ≤ d) (l : F) (anis : List F) (ll : Bool) :
    setLenAnis d [l] anis ll = finishAnis l (setAnisL d anis) ll := by
  unfold setLenAnis
  have : List.take d [l] = [l] := List.take_of_length_le (by simpa using hd)
  rw [this]

theorem setLenAnis_ok {d : Nat} {ls anis : List F} {ll : Bool} {l : F} {a : List F}
    (h : setLenAnis d ls anis ll = .ok (l, a)) :
    a.length = d - 1 ∧ (∀ x ∈ a, (zero : F) < x) ∧
      (ll = true → a.take 2 = List.replicate (min 2 a.length) (one : F)) := by
  unfold setLenAnis at h
  split at h
  · cases h
  · exact (finishAnis_wf (setAnisL_length d anis) h).2
  · rename_i l0 l2 rest heq
    split at h
    · cases h
    · have hlen : rest.length + 2 ≤ d := by
        have := congrArg List.length heq
        simp only [List.length_take, List.length_cons] at this
        omega
      refine (finishAnis_wf ?_ h).2
      simp only [List.length_map, List.length_append, List.length_replicate, List.length_cons]
      omega

/-- `set_len_anis` with a single length scale keeps a well-formed anisotropy (also the time ratio of a
    lat-lon + temporal model: D7) -/
theorem setLenAnis_scalar (h : WF s) (l : F) : setLenAnis s.dim [l] s.anis s.latlon = .ok (l, s.anis) := by
  rw [setLenAnis_single h.dim_pos, setAnisL_of_length h.anis_len, finishAnis_of_pos _ h.anis_pos]
  cases hl : s.latlon
  · rfl
  · rw [if_pos rfl, isoFirst2_fixed (h.latlon_iso hl)]

/-- a dimension that `set_dim` accepts is at least 1, and `3 (+1)` for a lat-lon model -/
theorem dimRule_ok {ll t : Bool} {d : Int} {n : Nat} {w : Bool}
    (h : dimRule sp ll t d = .ok (n, w)) : 1 ≤ n ∧ (ll = true → n = 3 + tNat t) := by
  revert h
  fun_cases dimRule sp ll t d
  case case1 | case2 => exact fun h => nomatch h  -- fixed dimension against lat-lon; `dim < 1`
  case case3 d2 hd2 =>
    intro h
    cases h
    refine ⟨by omega, fun hll => ?_⟩
    simp only [d2, hll, if_true, Int.toNat_natCast]

/-- `WF` only looks at dim, ratios, angles, flags and rescale -/
theorem WF.congr (h : WF s) (hd : s'.dim = s.dim) (ha : s'.anis = s.anis)
    (hang : s'.angles = s.angles) (hl : s'.latlon = s.latlon) (ht : s'.temporal = s.temporal)
    (hr : s'.rescale = s.rescale) : WF s' := by
  obtain ⟨d, l, t, vr, ls, an, ang, ng, rs, op, b1, b2, b3, b4⟩ := s'
  simp only at hd ha hang hl ht hr
  subst hd ha hang hl ht hr
  exact ⟨h.dim_pos, h.anis_len, h.angles_len, h.anis_pos, h.latlon_dim, h.latlon_iso, h.latlon_ang,
    h.temporal_ang, h.rescale_pos⟩

/-- what every setter of a value keeps, raising or not: structural well-formedness and all bounds -/
def Keeps (s s' : State F) : Prop := (WF s → WF s') ∧ SameBounds s s'

theorem Keeps.refl (s : State F) : Keeps s s := ⟨id, .refl s⟩

theorem Keeps.trans {s1 s2 s3 : State F} (h1 : Keeps s1 s2) (h2 : Keeps s2 s3) : Keeps s1 s3 :=
  ⟨fun h => h2.1 (h1.1 h), h1.2.trans h2.2⟩

/-- the result of a checking setter: it `Keeps` well-formedness and bounds, and a call that does not raise leaves all
    arguments inside the bounds.  Each such setter either raises before `check_arg_bounds` or stores a state and ends
    with the check (D13: the state stays stored when the check raises). -/
def Checked (sp : ClassSpec F) (s : State F) (r : Res F) : Prop :=
  Keeps s r.st ∧ (r.err = none → InBounds sp r.st)

theorem Checked.raised {e : Err} {w : Bool} (h : Keeps s s') : Checked sp s ⟨s', some e, w⟩ := ⟨h, fun he => nomatch he⟩

theorem Checked.chk {w : Bool} (h : Keeps s s') : Checked sp s (chk sp s' w) := ⟨h, chk_ok⟩

theorem Checked.trans {r1 r2 : Res F} (h1 : Checked sp s r1)
    (h2 : Checked sp r1.st r2) : Checked sp s r2 := ⟨h1.1.trans h2.1, h2.2⟩

/-- writing the variance or the nugget touches nothing that `WF` or the bounds look at -/
theorem keeps_varRaw (v : F) : Keeps s { s with varRaw := v } :=
  ⟨fun h => h.congr rfl rfl rfl rfl rfl rfl, rfl, rfl, rfl, rfl, rfl⟩

theorem keeps_nugget (v : F) : Keeps s { s with nugget := v } :=
  ⟨fun h => h.congr rfl rfl rfl rfl rfl rfl, rfl, rfl, rfl, rfl, rfl⟩

theorem keeps_lenAnis {ls anis : List F} {l : F} {a : List F}
    (heq : setLenAnis s.dim ls anis s.latlon = .ok (l, a)) : Keeps s { s with lenScale := l, anis := a } :=
  have ⟨h1, h2, h3⟩ := setLenAnis_ok heq
  ⟨fun h => ⟨h.dim_pos, h1, h.angles_len, h2, h.latlon_dim, h3, h.latlon_ang, h.temporal_ang, h.rescale_pos⟩,
    rfl, rfl, rfl, rfl, rfl⟩

variable (sp s)

theorem checked_doSetLenScale (ls : List F) : Checked sp s (doSetLenScale sp s ls) := by
  fun_cases doSetLenScale sp s ls
  exacts [.raised (.refl s), .chk (keeps_lenAnis ‹_›)]

theorem checked_doSetAnis (vs : List F) : Checked sp s (doSetAnis sp s vs) := by
  fun_cases doSetAnis sp s vs
  exacts [.raised (.refl s), .chk (keeps_lenAnis ‹_›)]

theorem checked_doSetVar (v : F) : Checked sp s (doSetVar sp s v) := by
  fun_cases doSetVar sp s v
  exacts [.raised (.refl s), .chk (keeps_varRaw _)]

theorem checked_doSetOpt (n : String) (v : F) : Checked sp s (doSetOpt sp s n v) := by
  fun_cases doSetOpt sp s n v
  case case1 | case2 => exact .raised (.refl s)
  case case3 =>
    refine .chk ⟨fun h => h.congr rfl rfl rfl rfl rfl rfl, rfl, rfl, rfl, rfl, ?_⟩
    simp only [List.map_map]
    refine List.map_congr_left fun o _ => ?_
    simp only [Function.comp]
    split <;> rfl

theorem checked_doSetDim (d : Int) : Checked sp s (doSetDim sp s d) := by
  unfold doSetDim
  split
  · exact .raised (.refl s)
  · rename_i n w heq
    obtain ⟨hn, hll⟩ := dimRule_ok heq
    rw [setLenAnis_single hn]
    split
    · -- dead for a well-formed state, whose ratios are positive
      rename_i he
      refine .raised ⟨fun h => ?_, rfl, rfl, rfl, rfl, rfl⟩
      rw [finishAnis_of_pos _ (setAnisL_pos h.anis_pos)] at he
      cases he
    · rename_i he
      refine .chk ⟨fun h => ?_, rfl, rfl, rfl, rfl, rfl⟩
      rw [finishAnis_of_pos _ (setAnisL_pos h.anis_pos)] at he
      cases he
      refine ⟨hn, setAnisL_length .., setModelAngles_length .., setAnisL_pos h.anis_pos, hll, fun hl => ?_,
        (setModelAngles_zero ..).1, (setModelAngles_zero ..).2, h.rescale_pos⟩
      -- a lat-lon model keeps its dimension, so the ratios are the old ones
      have hnd : n = s.dim := by rw [hll hl, h.latlon_dim hl]
      simp only [hnd, Bool.false_eq_true, if_false, setAnisL_of_length h.anis_len]
      exact h.latlon_iso hl

theorem checked_doSetIntegralScale (vs : List F) : Checked sp s (doSetIntegralScale sp s vs) := by
  have h1 := checked_doSetLenScale sp s vs
  have h2 := h1.trans (checked_doSetLenScale sp _ [(one : F)])
  fun_cases doSetIntegralScale sp s vs
  case case1 => exact .raised (.refl s)  -- class without `len_rescaled` integral scale
  case case2 => exact h1  -- `len_scale = vs` raised
  case case3 => exact h2  -- `len_scale = 1` raised
  case case4 => exact .raised h2.1  -- integral scale 0
  case case5 => exact h2.trans (checked_doSetLenScale sp _ _)  -- the third assignment to `len_scale`

theorem checked_assignDefault (arg : String) (b : Bnd F) : Checked sp s (assignDefault sp s arg b) := by
  unfold assignDefault
  split
  · exact checked_doSetVar sp s _
  · exact checked_doSetLenScale sp s _
  · exact .chk (keeps_nugget _)
  · exact checked_doSetAnis sp s _
  · exact checked_doSetOpt sp s _ _

/-- the `rescale` setter has no bounds check -/
theorem keeps_doSetRescale (v : Option F) : Keeps s (doSetRescale sp s v).st := by
  fun_cases doSetRescale sp s v
  case case1 | case2 => exact .refl s  -- no rational default; `rescale = 0`: raises
  case case3 hne =>
    exact ⟨fun h => ⟨h.dim_pos, h.anis_len, h.angles_len, h.anis_pos, h.latlon_dim, h.latlon_iso, h.latlon_ang,
      h.temporal_ang, absA_pos hne⟩, rfl, rfl, rfl, rfl, rfl⟩

/-- plain setters keep well-formedness and the bounds, and those that do not raise end inside the bounds (the unchecked
    `rescale` setter apart, which is plain for the classes without variance factor only) -/
theorem checked_step (op : Op F) (hp : Op.plain sp op = true)
    (hr : ∀ v, op ≠ .setRescale v) : Checked sp s (step sp s op) := by
  cases op with
  | setDim d => exact checked_doSetDim sp s d
  | setVar v => exact checked_doSetVar sp s v
  | setVarRaw v => exact .chk (keeps_varRaw v)
  | setNugget v => exact .chk (keeps_nugget v)
  | setLenScale vs => exact checked_doSetLenScale sp s vs
  | setAnis vs => exact checked_doSetAnis sp s vs
  | setAngles vs =>
    exact .chk ⟨fun h => ⟨h.dim_pos, h.anis_len, setModelAngles_length .., h.anis_pos, h.latlon_dim, h.latlon_iso,
      (setModelAngles_zero ..).1, (setModelAngles_zero ..).2, h.rescale_pos⟩, rfl, rfl, rfl, rfl, rfl⟩
  | setRescale v => exact absurd rfl (hr v)
  | setOpt n v => exact checked_doSetOpt sp s n v
  | setIntegralScale vs => exact checked_doSetIntegralScale sp s vs
  | setArgBounds check bs => cases hp
  | setBoundsProp arg b => cases hp

theorem keeps_step (op : Op F) (hp : Op.plain sp op = true) : Keeps s (step sp s op).st := by
  by_cases hr : ∃ v, op = .setRescale v
  · obtain ⟨v, rfl⟩ := hr
    exact keeps_doSetRescale sp s v
  · exact (checked_step sp s op hp fun v hv => hr ⟨v, hv⟩).1

variable {sp s}

theorem wf_storeBnd {s s1 : State F} {arg : String} {b : Bnd F} (hs : storeBnd s arg b = some s1) (h : WF s) : WF s1 := by
  revert hs
  fun_cases storeBnd s arg b <;> intro hs <;> cases hs <;> exact h.congr rfl rfl rfl rfl rfl rfl

theorem wf_doSetBoundsProp (arg : String) (raw : RawBnd F) (h : WF s) : WF (doSetBoundsProp s arg raw).st := by
  fun_cases doSetBoundsProp s arg raw <;> exact h.congr rfl rfl rfl rfl rfl rfl

/-- `set_arg_bounds` (either `check_args`, raising or not) keeps well-formedness and the names of the optional
    arguments -/
theorem argBoundsLoop_keeps (sp : ClassSpec F) (check : Bool) (bs : List (String × RawBnd F))
    (s : State F) (vb : Option (Bnd F)) :
    (WF s → WF (argBoundsLoop sp check bs s vb).st) ∧
      (argBoundsLoop sp check bs s vb).st.opt.map (·.name) = s.opt.map (·.name) :=
  argBoundsLoop_induct sp check (fun _ => True) (fun t => (WF s → WF t) ∧ t.opt.map (·.name) = s.opt.map (·.name))
    (fun _ => trivial)
    (fun _ h => ⟨fun hw => (h.1 hw).congr rfl rfl rfl rfl rfl rfl, h.2⟩)
    (fun _ hs h => ⟨fun hw => wf_storeBnd hs (h.1 hw), (names_storeBnd hs).trans h.2⟩)
    (fun arg b h =>
      have k := (checked_assignDefault sp _ arg b).1
      ⟨fun hw => k.1 (h.1 hw), (names_of_sameBounds k.2).trans h.2⟩)
    bs s vb (fun _ _ => trivial) ⟨id, rfl⟩

/-- `set_arg_bounds(check_args=True, …)` that does not raise, started inside the bounds, ends inside the new
    bounds (values outside new bounds were replaced by defaults through the checking setters) -/
theorem argBoundsLoop_ok (sp : ClassSpec F) (bs : List (String × RawBnd F)) (s : State F) (vb : Option (Bnd F))
    (hok : OptNamesOK s) (hin : InBounds sp s) (herr : (argBoundsLoop sp true bs s vb).err = none) :
    InBounds sp (argBoundsLoop sp true bs s vb).st := by
  fun_induction argBoundsLoop sp true bs s vb  -- the cases are those of `argBoundsLoop_induct`
  case case1 => exact hin
  case case2 => exact (checked_assignDefault sp _ _ _).2 herr
  case case3 b s1 hc =>
    have hc0 : errorCase b [var sp s1] = 0 := by simpa using hc
    exact ⟨(errorCase_eq_zero_iff _ _).mp hc0 _ (List.mem_singleton.mpr rfl), hin.2⟩
  case case4 => cases herr
  case case5 ih => exact ih hok hin herr
  case case6 => cases herr
  case case7 he =>
    rw [herr] at he
    cases he
  case case8 s1 hst _ r he ih =>
    have hd : Checked sp s1 r := checked_assignDefault ..
    exact ih (optNamesOK_of_names (names_of_sameBounds hd.1.2) (optNamesOK_of_names (names_storeBnd hst) hok))
      (hd.2 (by simpa using he)) herr
  case case9 hst hc ih =>
    exact ih (optNamesOK_of_names (names_storeBnd hst) hok) (inBounds_storeBnd hst hok hin (by simpa using hc)) herr

/-- every setter — also one that raises — leaves a structurally well-formed state -/
theorem wf_step (sp : ClassSpec F) (op : Op F) (h : WF s) : WF (step sp s op).st := by
  cases op with
  | setRescale v => exact (keeps_doSetRescale sp s v).1 h
  | setArgBounds check bs => exact (argBoundsLoop_keeps sp check bs s none).1 h
  | setBoundsProp arg b => exact wf_doSetBoundsProp arg b h
  | _ => exact (keeps_step sp s _ rfl).1 h

/-- the `var` / `var_raw` step of `__init__` only writes the variance -/
theorem initVar_keeps {cfg : Cfg F} (h : initVar sp cfg s = .ok s') : Keeps s s' := by
  revert h
  fun_cases initVar sp cfg s
  case case1 | case4 => exact fun h => Except.ok.inj h ▸ keeps_varRaw _  -- `var_raw` given; `var` given and in bounds
  case case2 | case3 => exact fun h => nomatch h  -- `var_factor = 0`; out of bounds

/-- a successfully constructed model is structurally well-formed, inside its bounds, and carries the default bounds and
    the optional arguments of its class at the dimension `d` the constructor settled on -/
theorem construct_ok {cfg : Cfg F} {w : Bool} (h : construct sp cfg = .ok (s, w)) :
    WF s ∧ checkArgBounds sp s = none ∧
      ∃ d, s.varB = defVarB ∧ s.lenB = defLenB ∧ s.nugB = defNugB ∧ s.anisB = defAnisB ∧
        s.opt.map (fun o => (o.name, o.bnd)) = (sp.opts d).map (fun o => (o.name, o.bnd)) := by
  revert h
  fun_cases construct sp cfg
  -- the one path of `__init__` that does not raise; its equations in the order of `construct`: `hdim` the dimension
  -- rule, `hr` `rescale ≠ 0`, `hla` `set_len_anis`, `hs1` the first variance step (giving `s1`), `r2` the integral-scale
  -- step, `hs` the second variance step, `hc` the final `check_arg_bounds`
  case case11 d _ hdim _ _ _ _ hr _ _ hla _ _ s1 hs1 r2 _ _ hs hc =>
    intro h
    cases h
    obtain ⟨hd, hll⟩ := dimRule_ok hdim
    obtain ⟨ha1, ha2, ha3⟩ := setLenAnis_ok hla
    -- once the state is assembled, only the variance is written (twice) and, in between, the integral scale is set
    have k2 : Keeps s1 r2.st := by
      simp only [r2]
      split
      · exact .refl s1
      · exact (checked_doSetIntegralScale sp s1 _).1
    obtain ⟨hw, e1, e2, e3, e4, e5⟩ := (initVar_keeps hs1).trans (k2.trans (initVar_keeps hs))
    refine ⟨hw ⟨hd, ha1, setModelAngles_length .., ha2, hll, ha3, (setModelAngles_zero ..).1,
      (setModelAngles_zero ..).2, absA_pos hr⟩, hc, d, e1, e2, e3, e4, e5.trans ?_⟩
    show ((sp.opts d).map (mergeOpt cfg.opt)).map _ = _
    rw [List.map_map]
    exact List.map_congr_left fun o _ => mergeOpt_name_bnd _ o
  all_goals exact fun h => nomatch h

theorem construct_bounds {sp : ClassSpec F} {cfg : Cfg F} {s : State F} {w : Bool}
    (h : construct sp cfg = .ok (s, w)) :
    ∃ d, s.varB = defVarB ∧ s.lenB = defLenB ∧ s.nugB = defNugB ∧ s.anisB = defAnisB ∧
      s.opt.map (fun o => (o.name, o.bnd)) = (sp.opts d).map (fun o => (o.name, o.bnd)) :=
  (construct_ok h).2.2

theorem dimRule_self (h : WF s) (hfix : sp.fixDim = none ∨ sp.fixDim = some s.dim) :
    dimRule sp s.latlon s.temporal (s.dim : Int) = .ok (s.dim, !sp.checkDim s.dim) := by
  have hd := h.dim_pos
  unfold dimRule
  rcases hfix with hf | hf <;> simp only [hf] <;> cases hl : s.latlon
  · simp; omega
  · have := h.latlon_dim hl
    simp [← this]; omega
  · simp; omega
  · have := h.latlon_dim hl
    simp [← this]; omega

theorem initVar_cfgOf (v0 : F) (hvf : varFactor sp s ≠ 0) (hin : checkArgBounds sp s = none) :
    initVar sp (cfgOf sp s) { s with varRaw := v0 } = .ok s := by
  have hvf' : ¬ (varFactor sp ({ s with varRaw := v0 } : State F) = (zero : F)) := by
    rw [zero_eq]; exact hvf
  have hs : ({ s with varRaw := var sp s / varFactor sp s } : State F) = s := by
    have : var sp s / varFactor sp s = s.varRaw := by
      unfold var; exact mul_div_cancel_right₀ _ hvf
    rw [this]
  unfold initVar
  simp only [cfgOf]
  rw [if_neg hvf']
  have h2 : ({ ({ s with varRaw := v0 } : State F) with
      varRaw := var sp s / varFactor sp ({ s with varRaw := v0 } : State F) } : State F) = s := hs
  rw [h2, hin]

/-- the model equals one constructed directly with the values read off it -/
theorem construct_cfgOf (h : WF s) (hfix : sp.fixDim = none ∨ sp.fixDim = some s.dim) (hb : DefaultBounds sp s)
    (hin : checkArgBounds sp s = none) (hvf : varFactor sp s ≠ 0)
    (hh : sp.tpl = true → optGet s "hurst" ≠ 0) :
    construct sp (cfgOf sp s) = .ok (s, !sp.checkDim s.dim || optWarn sp s) := by
  obtain ⟨hb1, hb2, hb3, hb4, hb5, hb6⟩ := hb
  have hmerge := map_mergeOpt (fun _ hb => find_of_mem hb6 hb) hb5
  have hunk := no_unknown_opts hb5
  have hs0 : (⟨s.dim, s.latlon, s.temporal, (zero : F), s.lenScale, s.anis, s.angles, s.nugget, s.rescale,
      s.opt, defVarB, defLenB, defNugB, defAnisB⟩ : State F) = { s with varRaw := (zero : F) } := by
    rw [← hb1, ← hb2, ← hb3, ← hb4]
  have hhurst : (sp.tpl && decide (optGet ({ s with varRaw := (zero : F) } : State F) "hurst" = (zero : F))) = false := by
    cases ht : sp.tpl
    · rfl
    · have := hh ht
      rw [← zero_eq] at this
      simp only [Bool.true_and, decide_eq_false_iff_not]
      exact this
  have hresc : ¬ (s.rescale = (zero : F)) := ne_of_gt h.rescale_pos
  unfold construct
  simp only [cfgOf]
  rw [dimRule_self h hfix]
  simp only [hunk, Bool.false_eq_true, if_false, hmerge, if_neg hresc, setLenAnis_scalar h,
    setModelAngles_fixed h.angles_len h.latlon_ang h.temporal_ang, absA_of_pos h.rescale_pos, hs0, hhurst]
  have hi := initVar_cfgOf (sp := sp) (s := s) (zero : F) hvf hin
  simp only [cfgOf] at hi
  rw [hi]
  simp only
  have hi2 := initVar_cfgOf (sp := sp) (s := s) s.varRaw hvf hin
  simp only [cfgOf] at hi2
  rw [hi2]
  simp only [hin]

/-- class tables whose optional-argument names are distinct and whose default bounds do not depend on
    the dimension (all shipped classes except JBessel, SuperSpherical, TPLSimple — D8) -/
def SpecOK (sp : ClassSpec F) : Prop :=
  (∀ d d', (sp.opts d).map (fun o => (o.name, o.bnd)) = (sp.opts d').map (fun o => (o.name, o.bnd))) ∧
  ∀ d, ((sp.opts d).map (·.name)).Nodup

/-- without variance factor nothing that `check_arg_bounds` looks at depends on `rescale` -/
theorem checkArgBounds_doSetRescale (htpl : sp.tpl = false) (s : State F) (v : Option F) :
    checkArgBounds sp (doSetRescale sp s v).st = checkArgBounds sp s := by
  unfold doSetRescale
  split
  · rfl
  · split
    · rfl
    · simp only [checkArgBounds, argList, var, varFactor, htpl, Bool.false_eq_true, if_false]

theorem varFactor_nontpl (htpl : sp.tpl = false) (s : State F) : varFactor sp s = 1 := by
  simp [varFactor, htpl, one_eq]

/-- what holds in every state reached by a history of plain setters none of which raised
    (dimension-independent bounds; for TPL classes the unchecked `rescale` setter is not plain) -/
theorem reachOk_invariants (hsp : SpecOK sp) {s : State F}
    (h : ReachOk sp s) : WF s ∧ checkArgBounds sp s = none ∧ DefaultBounds sp s := by
  induction h with
  | init hc =>
    obtain ⟨hw, hin, d, e1, e2, e3, e4, e5⟩ := construct_ok hc
    refine ⟨hw, hin, e1, e2, e3, e4, e5.trans (hsp.1 _ _), ?_⟩
    rw [names_of_map_pair e5]; exact hsp.2 d
  | @step s0 op _ hp herr ih =>
    obtain ⟨hw, hin, d1, d2, d3, d4, d5, d6⟩ := ih
    obtain ⟨hw', e1, e2, e3, e4, e5⟩ := keeps_step sp s0 op hp
    refine ⟨hw' hw, ?_, e1.trans d1, e2.trans d2, e3.trans d3, e4.trans d4, (e5.trans d5).trans (hsp.1 _ _), ?_⟩
    · by_cases hr : ∃ v, op = .setRescale v
      · obtain ⟨v, rfl⟩ := hr
        have htpl : sp.tpl = false := by simpa [Op.plain] using hp
        exact (checkArgBounds_doSetRescale htpl s0 v).trans hin
      · exact (checkArgBounds_eq_none_iff sp _).mpr
          ((checked_step sp s0 op hp fun v hv => hr ⟨v, hv⟩).2 herr)
    · rw [names_of_map_pair e5]; exact d6

/-- optional-argument names of the class table are distinct and do not shadow a standard argument -/
def SpecNamesOK (sp : ClassSpec F) : Prop :=
  ∀ d, ((sp.opts d).map (·.name)).Nodup ∧
    ∀ o ∈ sp.opts d, o.name ≠ "var" ∧ o.name ≠ "len_scale" ∧ o.name ≠ "nugget" ∧ o.name ≠ "anis"

/-- bounds invariant along histories that also contain `set_arg_bounds(check_args=True)` calls -/
theorem reachOkB_inBounds (hsp : SpecNamesOK sp) (h : ReachOkB sp s) : OptNamesOK s ∧ InBounds sp s := by
  induction h with
  | init hc =>
    obtain ⟨-, hin, d, -, -, -, -, e5⟩ := construct_ok hc
    exact ⟨optNamesOK_iff.mpr (names_of_map_pair e5 ▸ (namesOK_map _).mpr (hsp d)),
      (checkArgBounds_eq_none_iff sp _).mp hin⟩
  | @step s0 op _ hp hr herr ih =>
    have hc := checked_step sp s0 op hp hr
    exact ⟨optNamesOK_of_names (names_of_sameBounds hc.1.2) ih.1, hc.2 herr⟩
  | @bounds s0 bs _ herr ih =>
    exact ⟨optNamesOK_of_names (argBoundsLoop_keeps sp true bs s0 none).2 ih.1,
      argBoundsLoop_ok sp bs s0 none ih.1 ih.2 herr⟩

end field

end GSV.Lemmas.CovState
