/-
  Helper lemmas for C03: the ℝ-reading of the closed forms of `GSV.Model.CovFn` (`fmin/fmax`, the compactly supported
  kernels as a clamped expression, the terminating hypergeometric series, the `np.isclose` dispatch) and the integrals
  over the half line behind the integral-scale theorems, each stated with the constant the model reports.
-/
import GSV.RealInst
import GSV.Model.CovFn
import GSV.Lemmas.Sum
import Mathlib.Analysis.SpecialFunctions.Gaussian.GaussianIntegral
import Mathlib.Analysis.SpecialFunctions.Integrals.Basic
import Mathlib.MeasureTheory.Integral.Gamma
import Mathlib.MeasureTheory.Integral.IntegralEqImproper
import Mathlib.Analysis.SpecialFunctions.Trigonometric.InverseDeriv
import Mathlib.Analysis.SpecialFunctions.ImproperIntegrals
import Mathlib.Analysis.SpecialFunctions.OrdinaryHypergeometric
import Mathlib.RingTheory.Polynomial.Pochhammer
import Mathlib.Algebra.Order.Round
namespace GSV.Lemmas.CovFn
open GSV GSV.Transc GSV.Model.CovFn MeasureTheory Set Filter Topology Polynomial

theorem fmin_real (a b : ℝ) : fmin a b = min a b := by
  unfold fmin; split_ifs with h
  · exact (min_eq_left h.le).symm
  · exact (min_eq_right (not_lt.mp h)).symm

theorem fmax_real (a b : ℝ) : fmax a b = max a b := by
  unfold fmax; split_ifs with h
  · exact (max_eq_right h.le).symm
  · exact (max_eq_left (not_lt.mp h)).symm

/-! ### kernels with compact support

Each is `P (min |h| 1)` for an expression `P` with `P 1 = 0`: it is `P |h|` inside the support and `0` outside, and
its integral over the half line is `∫₀¹ P`. -/

theorem integral_Ioi_clamp {P : ℝ → ℝ} (h1 : P 1 = 0) :
    ∫ x in Ioi (0:ℝ), P (min |x| 1) = ∫ x in (0:ℝ)..1, P x := by
  have hout : ∀ x ∈ Ioi (0:ℝ) \ Ioc 0 1, P (min |x| 1) = 0 := fun x hx => by
    rw [min_eq_right ((not_le.mp fun h => hx.2 ⟨hx.1, h⟩).le.trans (le_abs_self x)), h1]
  rw [intervalIntegral.integral_of_le zero_le_one,
    setIntegral_eq_of_subset_of_forall_sdiff_eq_zero measurableSet_Ioi (fun x hx => hx.1) hout]
  exact setIntegral_congr_fun measurableSet_Ioc fun x hx => by rw [abs_of_pos hx.1, min_eq_left hx.2]

/-- a test `x < 1` in front of such an expression is the clamp -/
theorem ite_lt_one_eq_clamp {P : ℝ → ℝ} (h1 : P 1 = 0) (x : ℝ) : (if x < 1 then P x else 0) = P (min x 1) := by
  split_ifs with hx
  · rw [min_eq_left hx.le]
  · rw [min_eq_right (not_lt.mp hx), h1]

theorem sphericalPoly_real (x : ℝ) : sphericalPoly x = 1 - 1.5 * x + 0.5 * x ^ 3 := by
  simp only [sphericalPoly, npow_real, Nat.cast_one]

theorem cubicPoly_real (x : ℝ) : cubicPoly x = 1 - 7 * x ^ 2 + 8.75 * x ^ 3 - 3.5 * x ^ 5 + 0.75 * x ^ 7 := by
  simp only [cubicPoly, npow_real, Nat.cast_one, Nat.cast_ofNat]

theorem circularInner_real (h : ℝ) :
    circularInner h = 2 / Real.pi * (Real.arccos h - h * Real.sqrt (1 - h ^ 2)) := by
  simp only [circularInner, acos_real, sqrt_real, npow_real, pi_real, Nat.cast_one, Nat.cast_ofNat]

theorem sphericalPoly_one : sphericalPoly (1:ℝ) = 0 := by rw [sphericalPoly_real]; norm_num
theorem cubicPoly_one : cubicPoly (1:ℝ) = 0 := by rw [cubicPoly_real]; norm_num
theorem circularInner_one : circularInner (1:ℝ) = 0 := by simp [circularInner_real]
theorem circularInner_zero : circularInner (0:ℝ) = 1 := by simp [circularInner_real, Real.arccos_zero]

theorem sphericalCor_eq (h : ℝ) : sphericalCor h = sphericalPoly (min |h| 1) := by
  simp only [sphericalCor, fmin_real, fabs_real, Nat.cast_one]

theorem cubicCor_eq (h : ℝ) : cubicCor h = cubicPoly (min |h| 1) := by
  simp only [cubicCor, fmin_real, fabs_real, Nat.cast_one]

theorem tplSimpleCor_eq (nu h : ℝ) : tplSimpleCor nu h = (1 - min |h| 1) ^ nu := by
  simp only [tplSimpleCor, fmax_real, fabs_real, rpow_real, Nat.cast_one, Nat.cast_zero, ← max_sub_sub_left, sub_self]

theorem linearCor_eq (h : ℝ) : linearCor h = 1 - min |h| 1 := by
  simp only [linearCor, fmax_real, fabs_real, Nat.cast_one, Nat.cast_zero, ← max_sub_sub_left, sub_self]

/-- the strict test `|h| < 1` of the code and the clamp describe the same function -/
theorem circularCor_eq (h : ℝ) : circularCor h = circularInner (min |h| 1) := by
  simp only [circularCor, fabs_real, Nat.cast_one, Nat.cast_zero]
  exact ite_lt_one_eq_clamp circularInner_one _

theorem linearCor_eq_tplSimpleCor (h : ℝ) : linearCor h = tplSimpleCor 1 h := by
  rw [linearCor_eq, tplSimpleCor_eq, Real.rpow_one]

theorem integral_tplSimpleCor (nu : ℝ) (hnu : 0 < nu) :
    ∫ h in Ioi (0:ℝ), tplSimpleCor nu h = tplSimpleCorIntegral nu := by
  have h1 : nu + 1 ≠ 0 := (add_pos hnu one_pos).ne'
  simp only [tplSimpleCor_eq]
  rw [integral_Ioi_clamp (P := fun x => (1 - x) ^ nu) (by rw [sub_self, Real.zero_rpow hnu.ne']),
    intervalIntegral.integral_comp_sub_left (fun x : ℝ => x ^ nu) 1, integral_rpow (Or.inl (neg_one_lt_zero.trans hnu)),
    sub_self, sub_zero, Real.one_rpow, Real.zero_rpow h1, sub_zero]
  simp only [tplSimpleCorIntegral, Nat.cast_one]

theorem integral_linearCor : ∫ h in Ioi (0:ℝ), linearCor h = linearCorIntegral := by
  simp only [linearCor_eq_tplSimpleCor]
  rw [integral_tplSimpleCor 1 one_pos]
  norm_num [tplSimpleCorIntegral, linearCorIntegral]

theorem integral_sphericalCor : ∫ h in Ioi (0:ℝ), sphericalCor h = sphericalCorIntegral := by
  simp only [sphericalCor_eq]
  rw [integral_Ioi_clamp sphericalPoly_one]
  simp (disch := exact Continuous.intervalIntegrable (by fun_prop) _ _) only [sphericalPoly_real,
    intervalIntegral.integral_add, intervalIntegral.integral_sub, intervalIntegral.integral_const_mul,
    intervalIntegral.integral_const_mul _ (fun x : ℝ => x), integral_pow, integral_one, integral_id]
  norm_num [sphericalCorIntegral]

theorem integral_cubicCor : ∫ h in Ioi (0:ℝ), cubicCor h = cubicCorIntegral := by
  simp only [cubicCor_eq]
  rw [integral_Ioi_clamp cubicPoly_one]
  simp (disch := exact Continuous.intervalIntegrable (by fun_prop) _ _) only [cubicPoly_real,
    intervalIntegral.integral_add, intervalIntegral.integral_sub, intervalIntegral.integral_const_mul, integral_pow,
    integral_one]
  norm_num [cubicCorIntegral]

/-- antiderivative of `arccos x - x √(1-x²)` on `(-1, 1)` -/
theorem hasDerivAt_circular_prim (x : ℝ) (h0 : -1 < x) (h1 : x < 1) :
    HasDerivAt (fun x : ℝ => x * Real.arccos x - Real.sqrt (1 - x ^ 2) + (1 - x ^ 2) * Real.sqrt (1 - x ^ 2) / 3)
      (Real.arccos x - x * Real.sqrt (1 - x ^ 2)) x := by
  have hpos : 0 < 1 - x ^ 2 := sub_pos.mpr ((sq_lt_one_iff_abs_lt_one x).mpr (abs_lt.mpr ⟨h0, h1⟩))
  have hq : HasDerivAt (fun x : ℝ => 1 - x ^ 2) (-(2 * x)) x := by
    simpa using ((hasDerivAt_pow 2 x).const_sub 1)
  have hs := hq.sqrt hpos.ne'
  have h := (((hasDerivAt_id' x).fun_mul (Real.hasDerivAt_arccos h0.ne' h1.ne)).fun_sub hs).fun_add
    ((hq.fun_mul hs).div_const 3)
  refine h.congr_deriv ?_
  -- with `s = √(1-x²)`, `s² = 1 - x²`, an identity of rational functions of `x` and `s`
  have hs0 := (Real.sqrt_pos.mpr hpos).ne'
  have hsq := Real.mul_self_sqrt hpos.le
  generalize Real.sqrt (1 - x ^ 2) = s at hs0 hsq ⊢
  rw [← hsq]
  field_simp
  ring

theorem integral_circularCor : ∫ h in Ioi (0:ℝ), circularCor h = circularCorIntegral := by
  simp only [circularCor_eq]
  rw [integral_Ioi_clamp circularInner_one]
  simp only [circularInner_real]
  rw [intervalIntegral.integral_const_mul, intervalIntegral.integral_eq_sub_of_hasDerivAt_of_le zero_le_one
    (Continuous.continuousOn (by fun_prop)) (fun x hx => hasDerivAt_circular_prim x (neg_one_lt_zero.trans hx.1) hx.2)
    (Continuous.intervalIntegrable (by fun_prop) _ _)]
  norm_num [Real.arccos_one, circularCorIntegral]
  ring

/-! ### kernels on the whole half line -/

theorem integral_comp_mul_abs (g : ℝ → ℝ) (a : ℝ) (ha : 0 < a) :
    ∫ h in Ioi (0:ℝ), g (a * |h|) = a⁻¹ * ∫ x in Ioi (0:ℝ), g x :=
  (setIntegral_congr_fun measurableSet_Ioi fun r hr => by rw [abs_of_pos hr]).trans
    (by rw [integral_comp_mul_left_Ioi g 0 ha, mul_zero, smul_eq_mul])

theorem integral_gaussianCor : ∫ h in Ioi (0:ℝ), gaussianCor h = gaussianCorIntegral := by
  simpa [gaussianCor, gaussianCorIntegral] using integral_gaussian_Ioi 1

theorem integral_exponentialCor : ∫ h in Ioi (0:ℝ), exponentialCor h = exponentialCorIntegral := by
  simpa [exponentialCor, exponentialCorIntegral] using integral_exp_neg_Ioi_zero

theorem integral_stableCor (a : ℝ) (ha : 0 < a) :
    ∫ h in Ioi (0:ℝ), stableCor a h = Real.Gamma (1 + 1 / a) := by
  rw [add_comm]
  simpa [stableCor] using _root_.integral_exp_neg_rpow ha

theorem integral_rationalCor_one : ∫ h in Ioi (0:ℝ), rationalCor 1 h = Real.pi / 2 := by
  have := integral_Ioi_inv_one_add_sq (i := 0)
  simp only [Real.arctan_zero, sub_zero] at this
  rw [← this]
  refine setIntegral_congr_fun measurableSet_Ioi (fun x _ => ?_)
  simp [rationalCor, Real.rpow_neg_one]

/-! Matern slices: `(c₀ + c₁ x + c₂ x²) e⁻ˣ` at `x = √ν |h|` -/

/-- `∫₀^∞ (c₀ + c₁ x + c₂ x²) e⁻ˣ dx = c₀ + c₁ + 2 c₂`, with the antiderivative
    `-(c₀ + c₁ + 2 c₂ + (c₁ + 2 c₂) x + c₂ x²) e⁻ˣ` -/
theorem integral_quadratic_mul_exp_neg (c0 c1 c2 : ℝ) (h0 : 0 ≤ c0) (h1 : 0 ≤ c1) (h2 : 0 ≤ c2) :
    ∫ x in Ioi (0:ℝ), (c0 + c1 * x + c2 * x ^ 2) * Real.exp (-x) = c0 + c1 + 2 * c2 := by
  have hd : ∀ x ∈ Ici (0:ℝ), HasDerivAt
      (fun x : ℝ => -((c0 + c1 + 2 * c2 + (c1 + 2 * c2) * x + c2 * x ^ 2) * Real.exp (-x)))
      ((c0 + c1 * x + c2 * x ^ 2) * Real.exp (-x)) x := by
    intro x _
    have he : HasDerivAt (fun x : ℝ => Real.exp (-x)) (-Real.exp (-x)) x := by
      simpa using (hasDerivAt_neg x).exp
    have hp := (((hasDerivAt_id' x).const_mul (c1 + 2 * c2)).const_add (c0 + c1 + 2 * c2)).fun_add
      ((hasDerivAt_pow 2 x).const_mul c2)
    exact (hp.fun_mul he).fun_neg.congr_deriv (by ring)
  have hlim := ((((Real.tendsto_pow_mul_exp_neg_atTop_nhds_zero 0).const_mul (c0 + c1 + 2 * c2)).add
    ((Real.tendsto_pow_mul_exp_neg_atTop_nhds_zero 1).const_mul (c1 + 2 * c2))).add
    ((Real.tendsto_pow_mul_exp_neg_atTop_nhds_zero 2).const_mul c2)).neg
  simp only [mul_zero, add_zero, neg_zero] at hlim
  rw [integral_Ioi_of_hasDerivAt_of_nonneg' hd (fun x hx => by have : (0:ℝ) < x := hx; positivity)
    (hlim.congr fun x => by ring)]
  simp

theorem integral_quadratic_mul_exp_neg_abs (a c0 c1 c2 : ℝ) (ha : 0 < a) (h0 : 0 ≤ c0) (h1 : 0 ≤ c1) (h2 : 0 ≤ c2) :
    ∫ h in Ioi (0:ℝ), (c0 + c1 * (a * |h|) + c2 * (a * |h|) ^ 2) * Real.exp (-(a * |h|))
      = (c0 + c1 + 2 * c2) / a := by
  rw [integral_comp_mul_abs (fun x => (c0 + c1 * x + c2 * x ^ 2) * Real.exp (-x)) a ha,
    integral_quadratic_mul_exp_neg c0 c1 c2 h0 h1 h2, inv_mul_eq_div]

theorem integral_matern12Cor : ∫ h in Ioi (0:ℝ), matern12Cor h = matern12CorIntegral := by
  simpa [matern12Cor, matern12CorIntegral] using integral_quadratic_mul_exp_neg_abs (Real.sqrt 0.5) 1 0 0
    (Real.sqrt_pos.mpr (by norm_num)) zero_le_one le_rfl le_rfl

theorem integral_matern32Cor : ∫ h in Ioi (0:ℝ), matern32Cor h = matern32CorIntegral := by
  simpa [matern32Cor, matern32CorIntegral, one_add_one_eq_two] using
    integral_quadratic_mul_exp_neg_abs (Real.sqrt 1.5) 1 1 0 (Real.sqrt_pos.mpr (by norm_num)) zero_le_one zero_le_one le_rfl

theorem integral_matern52Cor : ∫ h in Ioi (0:ℝ), matern52Cor h = matern52CorIntegral := by
  have := integral_quadratic_mul_exp_neg_abs (Real.sqrt 2.5) 1 1 (1 / 3) (Real.sqrt_pos.mpr (by norm_num))
    zero_le_one zero_le_one (by norm_num)
  rw [show (1:ℝ) + 1 + 2 * (1 / 3) = 8 / 3 by norm_num] at this
  simpa [matern52Cor, matern52CorIntegral, div_eq_inv_mul] using this

/-! ### the terminating hypergeometric series of the Super/HyperSpherical slices -/

theorem choose_eq (n k : ℕ) : choose n k = Nat.choose n k := by
  induction n generalizing k with
  | zero => cases k <;> simp [choose]
  | succ n ih => cases k with
    | zero => simp [choose]
    | succ k => simp [choose, ih, Nat.choose_succ_succ]

theorem hyp2f1HalfNegNat_eq_sum (n : ℕ) (x : ℝ) :
    hyp2f1HalfNegNat n x = ∑ k ∈ Finset.range (n + 1), (Nat.choose n k : ℝ) * (-x) ^ k / (2 * (k:ℝ) + 1) := by
  unfold hyp2f1HalfNegNat
  rw [forRange_cast_zero_add_eq_sum]
  refine Finset.sum_congr rfl (fun k _ => ?_)
  simp only [npow_real, choose_eq]
  push_cast
  ring

theorem superSphericalNatCor_real (n : ℕ) (h : ℝ) :
    superSphericalNatCor n h
      = if h < 1 then 1 - h * (1 / hyp2f1HalfNegNat n 1) * hyp2f1HalfNegNat n (h ^ 2) else 0 := by
  simp only [superSphericalNatCor, npow_real, Nat.cast_one, Nat.cast_zero]

theorem hyp_zero (x : ℝ) : hyp2f1HalfNegNat 0 x = 1 := by
  rw [hyp2f1HalfNegNat_eq_sum, Finset.sum_range_one, Nat.choose_self, pow_zero, Nat.cast_one, Nat.cast_zero, mul_zero,
    zero_add, mul_one, div_one]

theorem hyp_one (x : ℝ) : hyp2f1HalfNegNat 1 x = 1 - x / 3 := by
  rw [hyp2f1HalfNegNat_eq_sum, Finset.sum_range_succ, Finset.sum_range_one, Nat.choose_self, Nat.choose_zero_right,
    pow_zero, pow_one, Nat.cast_one, Nat.cast_zero, mul_zero, zero_add, mul_one, div_one, one_mul, mul_one]
  ring

theorem pochhammer_half (k : ℕ) :
    (ascPochhammer ℝ k).eval (1 / 2) * (2 * (k:ℝ) + 1) = (ascPochhammer ℝ k).eval (3 / 2) := by
  induction k with
  | zero => simp
  | succ k ih => rw [ascPochhammer_succ_eval, ascPochhammer_succ_eval, ← ih]; push_cast; ring

theorem hyp_coeff (n k : ℕ) :
    ((k.factorial : ℝ)⁻¹ * (ascPochhammer ℝ k).eval (1 / 2) * (ascPochhammer ℝ k).eval (-(n:ℝ)) *
      ((ascPochhammer ℝ k).eval (3 / 2))⁻¹) = (Nat.choose n k : ℝ) * (-1) ^ k / (2 * (k:ℝ) + 1) := by
  have h12 : (ascPochhammer ℝ k).eval (1 / 2) ≠ 0 := (ascPochhammer_pos k _ (by norm_num)).ne'
  have hfac : (k.factorial : ℝ) ≠ 0 := Nat.cast_ne_zero.mpr k.factorial_ne_zero
  rw [ascPochhammer_eval_neg_eq_descPochhammer, descPochhammer_eval_eq_descFactorial,
    Nat.descFactorial_eq_factorial_mul_choose, ← pochhammer_half k, Nat.cast_mul]
  -- `k!` and `(1/2)_k` cancel
  rw [mul_inv, mul_comm _ ((-1) ^ k * _), mul_assoc, mul_assoc, mul_mul_mul_comm, mul_inv_cancel_left₀ hfac,
    mul_left_comm _ (n.choose k : ℝ), mul_inv_cancel_left₀ h12, mul_left_comm, ← mul_assoc, div_eq_mul_inv]

/-- the terminating series of the model *is* Gauss' hypergeometric function `₂F₁(1/2, -n; 3/2; x)` -/
theorem hyp2f1HalfNegNat_eq (n : ℕ) (x : ℝ) :
    hyp2f1HalfNegNat n x = ordinaryHypergeometric (1 / 2 : ℝ) (-(n:ℝ)) (3 / 2) x := by
  rw [hyp2f1HalfNegNat_eq_sum, ordinaryHypergeometric_eq_tsum]
  simp only
  rw [tsum_eq_sum (s := Finset.range (n + 1))]
  · refine Finset.sum_congr rfl (fun k _ => ?_)
    rw [hyp_coeff, smul_eq_mul, neg_pow]
    ring
  · intro k hk
    have hk' : n < k := by simpa using hk
    have : (ascPochhammer ℝ k).eval (-(n:ℝ)) = 0 := by
      rw [ascPochhammer_eval_eq_zero_iff]; exact ⟨n, hk', by simp⟩
    simp [this]

/-! ### `tools/special.py`: the dispatch and the affine expansion at `ℝ` -/

/-- at `ℝ` the nearest integer is Mathlib's `round` (ties up; `np.around` ties to even).  A tie is `1/2` away from both
    neighbours, outside the `np.isclose` band `1e-8 + 1e-5 |m|` of every integer `|m| ≤ 40000`, so on that range (the one
    the theorems about the dispatch assume) both roundings give the same dispatch; from `|m| ≈ 5·10⁴` on a band contains
    ties and they can differ -/
noncomputable instance instHasRoundReal : HasRound ℝ := ⟨fun s => round s⟩

@[simp] theorem around_real (s : ℝ) : (HasRound.around s : ℤ) = round s := rfl

theorem iscloseTo_iff (a b : ℝ) : iscloseTo a b = true ↔ |a - b| ≤ 1e-8 + 1e-5 * |b| := by
  simp [iscloseTo]

theorem round_eq_of_abs_sub_lt {s : ℝ} {m : ℤ} (h : |s - m| < 1 / 2) : round s = m :=
  round_eq_iff.mpr ⟨(sub_lt_comm.mp (abs_sub_lt_iff.mp h).2).le, sub_lt_iff_lt_add'.mp (abs_sub_lt_iff.mp h).1⟩

theorem Aff.eval_eq (E : ℝ → ℝ → ℝ) (f : Aff ℝ) :
    Aff.eval E f = f.const + (f.terms.map fun t => t.1 * E t.2.1 t.2.2).sum := by
  obtain ⟨c, ts⟩ := f
  unfold Aff.eval
  simp only
  induction ts generalizing c with
  | nil => simp
  | cons t ts ih => simp only [List.foldl_cons, List.map_cons, List.sum_cons]; rw [ih]; ring

end GSV.Lemmas.CovFn
