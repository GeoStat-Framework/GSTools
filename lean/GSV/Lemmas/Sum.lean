/-
  Accumulating loops as finite sums (needs commutative-monoid laws, so: ℝ, ℚ, ℤ — not Float).
-/
import GSV.Lemmas.Ctl
import GSV.RealInst
import Mathlib.Algebra.BigOperators.Intervals
namespace GSV
open Finset

/-- a loop that leaves the part `fr` of the state alone and adds `g (fr s) k` to the part `acc` in iteration `k` -/
theorem forRange_acc_eq_sum {σ φ M : Type} [AddCommMonoid M] (fr : σ → φ) (acc : σ → M) (body : Nat → σ → σ)
    (g : φ → Nat → M) (hfr : ∀ k s, fr (body k s) = fr s) (hacc : ∀ k s, acc (body k s) = acc s + g (fr s) k)
    (lo hi : Nat) (st : σ) :
    acc (forRange lo hi st body) = acc st + ∑ k ∈ Finset.Ico lo hi, g (fr st) k := by
  obtain h | h := Nat.le_total hi lo
  · rw [forRange_empty h, Finset.Ico_eq_empty_of_le h, Finset.sum_empty, add_zero]
  · induction hi, h using Nat.le_induction with
    | base => rw [forRange_empty (Nat.le_refl lo), Finset.Ico_self, Finset.sum_empty, add_zero]
    | succ hi hle ih =>
      rw [forRange_succ hle, hacc, ih, forRange_keep fr body hfr, Finset.sum_Ico_succ_top hle, add_assoc]

theorem forRange_add_eq_sum {M : Type} [AddCommMonoid M] (lo hi : Nat) (a : M) (g : Nat → M) :
    forRange lo hi a (fun i acc => acc + g i) = a + ∑ i ∈ Finset.Ico lo hi, g i :=
  forRange_acc_eq_sum (fun _ => ()) id _ (fun _ => g) (fun _ _ => rfl) (fun _ _ => rfl) lo hi a

/-- the loops of the kernels start from the literal zero `((0:Nat):ℝ)` -/
theorem forRange_cast_zero_add_eq_sum (n : Nat) (g : Nat → ℝ) :
    forRange 0 n (((0:Nat):ℝ)) (fun i acc => acc + g i) = ∑ i ∈ Finset.range n, g i := by
  rw [Nat.cast_zero, forRange_add_eq_sum, zero_add, Finset.range_eq_Ico]

/-- a left fold that adds `h t` for every list element is the sum of the mapped list -/
theorem foldl_add_eq_sum {β M : Type} [AddCommMonoid M] (l : List β) (h : β → M) (a : M) :
    l.foldl (fun a t => a + h t) a = a + (l.map h).sum := by
  induction l generalizing a with
  | nil => exact (add_zero a).symm
  | cons t l ih => rw [List.foldl_cons, ih, List.map_cons, List.sum_cons, add_assoc]

end GSV
