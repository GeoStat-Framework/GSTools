/-
  For C04: the real-number `Special` instance (`erf` *defined* as `2/√π ∫₀ˣ e^{-t²}`, `Γ` = `Real.Gamma`) with its calculus,
  `atan2 x 1 = arctan x`, `gammaHalf n = Γ(n/2)`, and `integral_pdf_Ioi`: a function `F` that tends to `1` and has a
  non-negative derivative `p` on `(a, ∞)` has `∫_a^∞ p = 1 − F a`.
-/
import GSV.RealInst
import GSV.Model.Spectral
import Mathlib.Analysis.SpecialFunctions.Gaussian.GaussianIntegral
import Mathlib.Analysis.SpecialFunctions.Gamma.Basic
import Mathlib.Analysis.SpecialFunctions.Trigonometric.ArctanDeriv
import Mathlib.MeasureTheory.Integral.IntegralEqImproper
import Mathlib.Tactic.Ring
import Mathlib.Tactic.Linarith
import Mathlib.Tactic.FieldSimp

namespace GSV.Lemmas.Spectral
open Real MeasureTheory Filter Topology Set GSV GSV.Model.Spectral

noncomputable def erfR (x : ℝ) : ℝ := 2 / √π * ∫ t in (0:ℝ)..x, Real.exp (-(t ^ 2))

theorem sqrt_pi_pos : 0 < √π := Real.sqrt_pos.mpr Real.pi_pos
theorem sqrt_pi_ne : √π ≠ 0 := sqrt_pi_pos.ne'
theorem sqrt_pi_sq : √π ^ 2 = π := Real.sq_sqrt Real.pi_pos.le

theorem continuous_gauss : Continuous fun t : ℝ => Real.exp (-(t ^ 2)) := by fun_prop

theorem erfR_zero : erfR 0 = 0 := by simp [erfR]

/-- `erf' x = 2/√π · e^{-x²}` (fundamental theorem of calculus) -/
theorem hasDerivAt_erfR (x : ℝ) : HasDerivAt erfR (2 / √π * Real.exp (-(x ^ 2))) x := by
  have h := intervalIntegral.integral_hasDerivAt_right (continuous_gauss.intervalIntegrable 0 x)
    (continuous_gauss.stronglyMeasurableAtFilter _ _) continuous_gauss.continuousAt
  exact h.const_mul _

theorem continuous_erfR : Continuous erfR :=
  continuous_iff_continuousAt.mpr fun x => (hasDerivAt_erfR x).continuousAt

theorem integral_gauss_Ioi : ∫ t in Ioi (0:ℝ), Real.exp (-(t ^ 2)) = √π / 2 := by
  simpa using integral_gaussian_Ioi 1

theorem integrableOn_gauss_Ioi : IntegrableOn (fun t : ℝ => Real.exp (-(t ^ 2))) (Ioi 0) := by
  simpa using (integrable_exp_neg_mul_sq (b := 1) one_pos).integrableOn (s := Ioi (0:ℝ))

/-- `erf x → 1` as `x → ∞` (Gaussian integral) -/
theorem tendsto_erfR_atTop : Tendsto erfR atTop (𝓝 1) := by
  have h := intervalIntegral_tendsto_integral_Ioi (0:ℝ) integrableOn_gauss_Ioi tendsto_id
  rw [integral_gauss_Ioi] at h
  have h2 := h.const_mul (2 / √π)
  rwa [div_mul_div_comm, mul_comm, div_self (mul_ne_zero sqrt_pi_ne two_ne_zero)] at h2

theorem erfR_strictMono : StrictMono erfR := by
  apply strictMono_of_deriv_pos
  intro x
  rw [(hasDerivAt_erfR x).deriv]
  have := sqrt_pi_pos
  positivity

theorem erfR_surj_Ico (u : ℝ) (h0 : 0 ≤ u) (h1 : u < 1) : ∃ x, erfR x = u := by
  have hev : ∀ᶠ x in atTop, u < erfR x := (tendsto_order.1 tendsto_erfR_atTop).1 u h1
  obtain ⟨x1, hx1, hx0⟩ := (hev.and (eventually_ge_atTop (0:ℝ))).exists
  have hu : u ∈ Icc (erfR 0) (erfR x1) := ⟨by rw [erfR_zero]; exact h0, hx1.le⟩
  obtain ⟨x, _, hx⟩ := intermediate_value_Icc hx0 continuous_erfR.continuousOn hu
  exact ⟨x, hx⟩

/-- the real `Special` instance: `erf` by its integral, `erfinv` its (abstract) inverse, Mathlib's `Γ` -/
noncomputable def specialR : Special ℝ :=
  ⟨erfR, Function.invFun erfR, Real.Gamma, fun x => Real.log (Real.Gamma x)⟩

@[simp] theorem specialR_erf : specialR.erf = erfR := rfl
@[simp] theorem specialR_erfinv : specialR.erfinv = Function.invFun erfR := rfl
@[simp] theorem specialR_gamma : specialR.gamma = Real.Gamma := rfl
@[simp] theorem specialR_lgamma (x : ℝ) : specialR.lgamma x = Real.log (Real.Gamma x) := rfl

theorem atan_real (x : ℝ) : (atan x : ℝ) = Real.arctan x := by
  unfold atan
  simp only [atan2_real, Nat.cast_one]
  rw [Complex.arg_of_re_nonneg (by simp), Real.arctan_eq_arcsin]
  congr 1
  have : ‖(⟨1, x⟩ : ℂ)‖ = √(1 + x ^ 2) := by
    rw [Complex.norm_def, Complex.normSq_mk]; congr 1; ring
  rw [this]

theorem gammaHalf_eq : ∀ n : ℕ, 1 ≤ n → (gammaHalf n : ℝ) = Real.Gamma ((n:ℝ) / 2)
  | 0, h => absurd h (by norm_num)
  | 1, _ => by
    rw [Nat.cast_one, Real.Gamma_one_half_eq]
    rfl
  | 2, _ => by simp [gammaHalf]
  | n + 3, _ => by
    have ih := gammaHalf_eq (n + 1) (Nat.le_add_left 1 n)
    have hpos : ((n + 1 : ℕ) : ℝ) / 2 ≠ 0 := by positivity
    have e : ((n + 3 : ℕ) : ℝ) / 2 = ((n + 1 : ℕ) : ℝ) / 2 + 1 := by push_cast; ring
    show ((n + 1 : ℕ) : ℝ) / ((2:ℕ):ℝ) * gammaHalf (n + 1) = _
    rw [e, Real.Gamma_add_one hpos, ih, Nat.cast_ofNat]

/-- A function with non-negative derivative `p` on `(a, ∞)` that tends to `1` has `∫_a^∞ p = 1 − F a`. -/
theorem integral_pdf_Ioi {F p : ℝ → ℝ} (a : ℝ) (hd : ∀ x, HasDerivAt F (p x) x)
    (hp : ∀ x ∈ Ioi a, 0 ≤ p x) (hlim : Tendsto F atTop (𝓝 1)) :
    IntegrableOn p (Ioi a) ∧ ∫ x in Ioi a, p x = 1 - F a :=
  ⟨integrableOn_Ioi_deriv_of_nonneg' (fun x _ => hd x) hp hlim,
    integral_Ioi_of_hasDerivAt_of_nonneg' (fun x _ => hd x) hp hlim⟩

end GSV.Lemmas.Spectral
