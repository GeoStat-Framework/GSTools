/-
  Helper lemmas for C14 path independence in the presence of bounds operations
  (`set_arg_bounds`, the `*_bounds` property setters): a state is rebuilt from a directly constructed model by
  setting the same bounds.  Section `lawfree` needs no laws; section `field` works over a linearly ordered field.
-/
import GSV.Lemmas.CovState

set_option linter.unusedSectionVars false
namespace GSV.Lemmas.CovState
open GSV GSV.Model.CovState

section lawfree
variable {α : Type} [Arith α] [DecidableLT α] [DecidableLE α] [DecidableEq α] [HasRPow α]

/-- the lower end lies below the upper end (what `check_bounds` demands of user-given bounds) -/
def BndOrdered (b : Bnd α) : Prop :=
  match b.lo, b.hi with
  | some l, some h => l < h
  | _, _ => True

/-- stored bounds as a user writes them: `[lo, hi, "cc" | "co" | "oc" | "oo"]` -/
def rawOf (b : Bnd α) : RawBnd α :=
  ⟨b.lo, b.hi, if b.loC then (if b.hiC then "cc" else "co") else (if b.hiC then "oc" else "oo")⟩

/-- the ends are ordered iff `check_bounds` accepts them -/
theorem bndOrdered_iff {lo hi : Option α} {c1 c2 : Bool} :
    BndOrdered ⟨lo, hi, c1, c2⟩ ↔
      ¬ (!(match lo, hi with | some l, some h => decide (l < h) | _, _ => true)) = true := by
  cases lo <;> cases hi <;> simp [BndOrdered]

theorem toBnd_rawOf {b : Bnd α} (h : BndOrdered b) : (rawOf b).toBnd? = some b := by
  obtain ⟨lo, hi, loC, hiC⟩ := b
  cases loC <;> cases hiC <;> exact if_neg (bndOrdered_iff.mp h)

theorem toBnd_ordered {r : RawBnd α} {b : Bnd α} (h : r.toBnd? = some b) : BndOrdered b := by
  -- whatever the type string, the stored ends are the given ones, and `check_bounds` has compared them
  revert h
  fun_cases RawBnd.toBnd? r
  case case1 | case7 => exact fun h => nomatch h  -- unordered ends; unknown type string
  all_goals exact fun h => Option.some.inj h ▸ bndOrdered_iff.mpr ‹_›

/-- `model.arg_bounds` as keyword arguments of `set_arg_bounds` (dict order) -/
def boundsArgs (s : State α) : List (String × RawBnd α) :=
  [("var", rawOf s.varB), ("len_scale", rawOf s.lenB), ("nugget", rawOf s.nugB), ("anis", rawOf s.anisB)]
    ++ s.opt.map (fun o => (o.name, rawOf o.bnd))

/-- the state a freshly constructed model with the same values carries: default bounds of the standard arguments,
    the class's default bounds of the optional ones -/
def resetBounds (sp : ClassSpec α) (s : State α) : State α :=
  { s with varB := defVarB, lenB := defLenB, nugB := defNugB, anisB := defAnisB,
           opt := List.zipWith (fun o c => { o with bnd := c.bnd }) s.opt (sp.opts s.dim) }

/-- all stored bounds are ordered -/
def AllOrdered (s : State α) : Prop :=
  BndOrdered s.varB ∧ BndOrdered s.lenB ∧ BndOrdered s.nugB ∧ BndOrdered s.anisB ∧ ∀ o ∈ s.opt, BndOrdered o.bnd

theorem ordered_of_map_pair {A B : List (OptArg α)}
    (h : A.map (fun o => (o.name, o.bnd)) = B.map (fun o => (o.name, o.bnd))) (hB : ∀ o ∈ B, BndOrdered o.bnd) :
    ∀ o ∈ A, BndOrdered o.bnd := by
  intro o hmem
  have : (o.name, o.bnd) ∈ B.map (fun o => (o.name, o.bnd)) := h ▸ List.mem_map_of_mem hmem
  obtain ⟨o', h', heq⟩ := List.mem_map.mp this
  rw [← (Prod.mk.inj heq).2]
  exact hB o' h'

theorem allOrdered_of_sameBounds {s s' : State α} (h : SameBounds s s') (ho : AllOrdered s) : AllOrdered s' :=
  let ⟨e1, e2, e3, e4, e5⟩ := h
  let ⟨o1, o2, o3, o4, o5⟩ := ho
  ⟨e1 ▸ o1, e2 ▸ o2, e3 ▸ o3, e4 ▸ o4, ordered_of_map_pair e5 o5⟩

theorem allOrdered_storeBnd {s s1 : State α} {arg : String} {b : Bnd α} (hs : storeBnd s arg b = some s1)
    (hb : BndOrdered b) (ho : AllOrdered s) : AllOrdered s1 := by
  obtain ⟨o1, o2, o3, o4, o5⟩ := ho
  revert hs
  fun_cases storeBnd s arg b <;> intro hs <;> cases hs
  · refine ⟨o1, o2, o3, o4, fun o hmem => ?_⟩
    obtain ⟨o', h', rfl⟩ := List.mem_map.mp hmem
    split
    · exact hb
    · exact o5 o' h'
  · exact ⟨o1, hb, o3, o4, o5⟩
  · exact ⟨o1, o2, hb, o4, o5⟩
  · exact ⟨o1, o2, o3, hb, o5⟩

/-- resetting the bounds keeps names and values of the optional arguments and installs the class's default bounds,
    name by name -/
theorem resetBounds_opt (sp : ClassSpec α) (s : State α)
    (hnames : s.opt.map (·.name) = (sp.opts s.dim).map (·.name)) :
    (resetBounds sp s).opt.map (fun o => (o.name, o.val)) = s.opt.map (fun o => (o.name, o.val)) ∧
      (resetBounds sp s).opt.map (fun o => (o.name, o.bnd)) = (sp.opts s.dim).map (fun o => (o.name, o.bnd)) := by
  unfold resetBounds
  simp only
  generalize sp.opts s.dim = C at hnames
  generalize s.opt = L at hnames
  induction L generalizing C with
  | nil =>
    cases C with
    | nil => simp
    | cons c C => simp at hnames
  | cons a L ih =>
    cases C with
    | nil => simp at hnames
    | cons c C =>
      simp only [List.map_cons, List.cons.injEq] at hnames
      simp [ih C hnames.2, hnames.1]

/-- the optional-argument part of the loop: bounds are stored one name after the other -/
theorem argBoundsLoop_opts (sp : ClassSpec α) (vb : Option (Bnd α)) :
    ∀ (todo todo' done : List (OptArg α)) (c : State α),
      c.opt = done ++ todo' →
      todo'.map (fun o => (o.name, o.val)) = todo.map (fun o => (o.name, o.val)) →
      ((done ++ todo).map (·.name)).Nodup →
      (∀ o ∈ todo, BndOrdered o.bnd) →
      argBoundsLoop sp false (todo.map (fun o => (o.name, rawOf o.bnd))) c vb
        = argBoundsLoop sp false [] ({ c with opt := done ++ todo } : State α) vb := by
  intro todo
  induction todo with
  | nil =>
    intro todo' done c hc hmap _ _
    obtain rfl : todo' = [] := List.map_eq_nil_iff.mp hmap
    rw [← hc]
    rfl
  | cons o rest ih =>
    intro todo' done c hc hmap hnd hord
    cases todo' with
    | nil => simp at hmap
    | cons o' rest' =>
      simp only [List.map_cons, List.cons.injEq, Prod.mk.injEq] at hmap
      obtain ⟨⟨hname, hval⟩, hrest⟩ := hmap
      have hhas : hasOpt c o.name = true := hasOpt_iff.mpr ⟨o', by rw [hc]; simp, hname⟩
      rw [List.map_cons, argBoundsLoop]
      simp only [toBnd_rawOf (hord o (List.mem_cons_self ..)), hhas, Bool.not_true, Bool.false_and, Bool.false_eq_true,
        if_false, storeBnd_opt hhas]
      -- names in `done` and in `rest` differ from `o.name`
      have hnot : o.name ∉ done.map (·.name) ++ rest.map (·.name) := by
        rw [List.map_append, List.map_cons, List.nodup_append] at hnd
        intro h
        rcases List.mem_append.mp h with h | h
        · exact hnd.2.2 _ h _ (List.mem_cons_self ..) rfl
        · exact (List.nodup_cons.mp hnd.2.1).1 h
      have hdone : ∀ x ∈ done, x.name ≠ o.name := fun x hx heq =>
        hnot (List.mem_append_left _ (heq ▸ List.mem_map_of_mem hx))
      have hrestn : ∀ x ∈ rest', x.name ≠ o.name := fun x hx heq =>
        hnot (List.mem_append_right _ (names_of_map_pair hrest ▸ heq ▸ List.mem_map_of_mem hx))
      have hmapped : c.opt.map (setBndOf o.name o.bnd) = (done ++ [o]) ++ rest' := by
        rw [hc, List.map_append, List.map_cons]
        have keep : ∀ l : List (OptArg α), (∀ x ∈ l, x.name ≠ o.name) → l.map (setBndOf o.name o.bnd) = l := by
          intro l hl
          conv_rhs => rw [← List.map_id l]
          exact List.map_congr_left fun x hx => by simp [setBndOf, hl x hx]
        have h3 : setBndOf o.name o.bnd o' = o := by
          obtain ⟨n', v', b'⟩ := o'
          obtain ⟨n, v, b⟩ := o
          simp only at hname hval
          subst hname hval
          simp [setBndOf]
        rw [keep done hdone, keep rest' hrestn, h3]; simp
      rw [ih rest' (done ++ [o]) _ hmapped hrest (by simpa using hnd) fun x hx => hord x (List.mem_cons_of_mem _ hx)]
      simp

/-- `set_arg_bounds(check_args=False, **s.arg_bounds)` applied to the freshly constructed counterpart of `s` gives `s` -/
theorem setArgBounds_resetBounds (sp : ClassSpec α) (s : State α) (hok : OptNamesOK s) (ho : AllOrdered s)
    (hzip : (resetBounds sp s).opt.map (fun o => (o.name, o.val)) = s.opt.map (fun o => (o.name, o.val))) :
    argBoundsLoop sp false (boundsArgs s) (resetBounds sp s) none = ⟨s, none, false⟩ := by
  obtain ⟨o1, o2, o3, o4, o5⟩ := ho
  have hno : ∀ n, n = "var" ∨ n = "len_scale" ∨ n = "nugget" ∨ n = "anis" →
      (resetBounds sp s).opt.any (fun o => o.name == n) = false :=
    fun n hn => hasOpt_std (optNamesOK_of_names (names_of_map_pair hzip) hok) hn
  unfold boundsArgs
  -- `var` is deferred, the bounds of `len_scale`, `nugget`, `anis` are stored, then those of the optional arguments
  simp only [List.cons_append, List.nil_append, argBoundsLoop, hasOpt, storeBnd, toBnd_rawOf o1, toBnd_rawOf o2,
    toBnd_rawOf o3, toBnd_rawOf o4, hno _ (.inl rfl), hno _ (.inr (.inl rfl)), hno _ (.inr (.inr (.inl rfl))),
    hno _ (.inr (.inr (.inr rfl))), Bool.not_false, Bool.true_and, Bool.false_and, beq_self_eq_true,
    Bool.false_eq_true, beq_iff_eq, String.reduceEq, ↓reduceIte]
  rw [argBoundsLoop_opts sp (some s.varB) s.opt (resetBounds sp s).opt [] _ (by simp [resetBounds]) hzip
    (by simpa using hok.1) o5, argBoundsLoop]
  simp only [Bool.false_and, Bool.false_eq_true, if_false, List.nil_append, resetBounds]

end lawfree

section field
variable {F : Type} [Field F] [LinearOrder F] [IsStrictOrderedRing F] [HasRPow F]
attribute [local instance] arithOfField

theorem defBounds_ordered :
    BndOrdered (defVarB : Bnd F) ∧ BndOrdered (defLenB : Bnd F) ∧ BndOrdered (defNugB : Bnd F) ∧
      BndOrdered (defAnisB : Bnd F) := by
  simp [BndOrdered, defVarB, defLenB, defNugB, defAnisB]

/-- `set_arg_bounds` (either `check_args`, raising or not) keeps all stored bounds ordered -/
theorem allOrdered_argBoundsLoop (sp : ClassSpec F) (check : Bool) (bs : List (String × RawBnd F))
    (s : State F) (vb : Option (Bnd F)) (ho : AllOrdered s) (hvb : ∀ b, vb = some b → BndOrdered b) :
    AllOrdered (argBoundsLoop sp check bs s vb).st :=
  argBoundsLoop_induct sp check BndOrdered AllOrdered toBnd_ordered (fun hb h => ⟨hb, h.2⟩)
    (fun hb hs h => allOrdered_storeBnd hs hb h)
    (fun arg b h => allOrdered_of_sameBounds (checked_assignDefault sp _ arg b).1.2 h) bs s vb hvb ho

/-- every operation — plain setters, `rescale`, both forms of `set_arg_bounds`, the `*_bounds` properties, raising or
    not — keeps the names of the optional arguments and the orderedness of all stored bounds -/
theorem names_ordered_step (sp : ClassSpec F) (s : State F) (op : Op F) (ho : AllOrdered s) :
    (step sp s op).st.opt.map (·.name) = s.opt.map (·.name) ∧ AllOrdered (step sp s op).st := by
  have plain : ∀ {s' : State F}, SameBounds s s' → s'.opt.map (·.name) = s.opt.map (·.name) ∧ AllOrdered s' :=
    fun h => ⟨names_of_sameBounds h, allOrdered_of_sameBounds h ho⟩
  cases op with
  | setRescale v => exact plain (keeps_doSetRescale sp s v).2
  | setArgBounds check bs =>
    exact ⟨(argBoundsLoop_keeps sp check bs s none).2, allOrdered_argBoundsLoop sp check bs s none ho nofun⟩
  | setBoundsProp arg raw =>
    obtain ⟨o1, o2, o3, o4, o5⟩ := ho
    simp only [step]
    fun_cases doSetBoundsProp s arg raw
    case case1 | case6 => exact ⟨rfl, o1, o2, o3, o4, o5⟩  -- the call raises, nothing is stored
    case case2 hraw => exact ⟨rfl, toBnd_ordered hraw, o2, o3, o4, o5⟩
    case case3 hraw => exact ⟨rfl, o1, toBnd_ordered hraw, o3, o4, o5⟩
    case case4 hraw => exact ⟨rfl, o1, o2, toBnd_ordered hraw, o4, o5⟩
    case case5 hraw => exact ⟨rfl, o1, o2, o3, toBnd_ordered hraw, o5⟩
  | _ => exact plain (keeps_step sp s _ rfl).2

/-- class tables whose optional-argument NAMES do not depend on the dimension (all shipped classes) and whose
    default bounds are ordered at every dimension (not so JBessel, SuperSpherical, TPLSimple: their lower bound of `nu`
    grows with `d` and reaches the upper bound 50 near `d = 100`) -/
def SpecBoundsOK (sp : ClassSpec F) : Prop :=
  (∀ d d', (sp.opts d).map (·.name) = (sp.opts d').map (·.name)) ∧ ∀ d, ∀ o ∈ sp.opts d, BndOrdered o.bnd

/-- invariants of EVERY reachable state (any history: plain setters, `rescale`, bounds operations, raising calls) -/
theorem reach_names_ordered {sp : ClassSpec F} (hsp : SpecBoundsOK sp) {s : State F} (h : Reach sp s) :
    s.opt.map (·.name) = (sp.opts s.dim).map (·.name) ∧ AllOrdered s := by
  have key : (∃ d, s.opt.map (·.name) = (sp.opts d).map (·.name)) ∧ AllOrdered s := by
    induction h with
    | init hc =>
      obtain ⟨d, e1, e2, e3, e4, e5⟩ := construct_bounds hc
      obtain ⟨b1, b2, b3, b4⟩ := defBounds_ordered (F := F)
      exact ⟨⟨d, names_of_map_pair e5⟩, e1 ▸ b1, e2 ▸ b2, e3 ▸ b3, e4 ▸ b4, ordered_of_map_pair e5 (hsp.2 d)⟩
    | @step s0 op _ ih =>
      obtain ⟨⟨d, hd⟩, ho⟩ := ih
      obtain ⟨r1, r2⟩ := names_ordered_step sp s0 op ho
      exact ⟨⟨d, r1.trans hd⟩, r2⟩
  obtain ⟨⟨d, hd⟩, ho⟩ := key
  exact ⟨hd.trans (hsp.1 d s.dim), ho⟩

end field

end GSV.Lemmas.CovState
