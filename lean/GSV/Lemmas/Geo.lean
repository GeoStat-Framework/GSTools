/-
  Helper lemmas for C12: the bridge from the executable `Nat → Nat → ℝ` matrices of `GSV.Model.Geo`
  to Mathlib's `Matrix (Fin d) (Fin d) ℝ`, the algebra of Givens rotations, and list facts about
  `rotation_planes` / padding.
-/
import GSV.Model.Geo
import GSV.Lemmas.Sum
import GSV.RealInst
import Mathlib.LinearAlgebra.UnitaryGroup
import Mathlib.Analysis.SpecialFunctions.Trigonometric.Basic
import Mathlib.Tactic.Ring
namespace GSV.Lemmas.Geo
open GSV GSV.Model.Geo Matrix

/-- the `d × d` block of a model matrix as a Mathlib matrix -/
def toM (d : Nat) (A : Nat → Nat → ℝ) : Matrix (Fin d) (Fin d) ℝ := Matrix.of fun i j => A i j

/-- the first `d` entries of a model vector -/
def toV (d : Nat) (x : Nat → ℝ) : Fin d → ℝ := fun i => x i

@[simp] theorem toM_apply (d : Nat) (A : Nat → Nat → ℝ) (i j : Fin d) : toM d A i j = A i j := rfl
@[simp] theorem toV_apply (d : Nat) (x : Nat → ℝ) (i : Fin d) : toV d x i = x i := rfl

section
variable (d : Nat)

theorem toV_surjective : Function.Surjective (toV d) := fun v =>
  ⟨fun k => if h : k < d then v ⟨k, h⟩ else 0, funext fun i => dif_pos i.2⟩

theorem toM_eye : toM d (eye : Nat → Nat → ℝ) = 1 := by
  ext i j
  simp only [toM_apply, eye, Matrix.one_apply, Fin.ext_iff, Nat.cast_zero, Nat.cast_one]

/-- the accumulation loops of `matmul`, `applyMat`, `norm2`, `phase` are sums over the axes -/
theorem forRange_eq_sum (f : Nat → ℝ) :
    forRange 0 d ((0:Nat):ℝ) (fun k acc => acc + f k) = ∑ i : Fin d, f i := by
  rw [forRange_cast_zero_add_eq_sum, Fin.sum_univ_eq_sum_range]

theorem toM_matmul (A B : Nat → Nat → ℝ) :
    toM d (matmul d A B) = toM d A * toM d B := by
  ext i j
  exact forRange_eq_sum d _

theorem toM_transpose (A : Nat → Nat → ℝ) :
    toM d (Model.Geo.transpose A) = (toM d A)ᵀ := rfl

theorem toV_applyMat (M : Nat → Nat → ℝ) (x : Nat → ℝ) :
    toV d (applyMat d M x) = toM d M *ᵥ toV d x := by
  ext i
  exact forRange_eq_sum d _

theorem norm2_eq (v : Nat → ℝ) :
    norm2 d v = Real.sqrt (toV d v ⬝ᵥ toV d v) :=
  congrArg Real.sqrt (forRange_eq_sum d _)

theorem phase_eq (k x : Nat → ℝ) : phase d k x = toV d k ⬝ᵥ toV d x :=
  forRange_eq_sum d _

theorem toM_diag (l : List ℝ) :
    toM d (Model.Geo.diag l) = Matrix.diagonal fun i : Fin d => l[(i : Nat)]?.getD 0 := by
  ext i j
  simp only [toM_apply, Model.Geo.diag, Matrix.diagonal_apply, Fin.ext_iff, Nat.cast_zero]

theorem toM_two (A : Nat → Nat → ℝ) : toM 2 A = !![A 0 0, A 0 1; A 1 0, A 1 1] :=
  Matrix.eta_fin_two _

theorem toM_three (A : Nat → Nat → ℝ) :
    toM 3 A = !![A 0 0, A 0 1, A 0 2; A 1 0, A 1 1, A 1 2; A 2 0, A 2 1, A 2 2] :=
  Matrix.eta_fin_three _

end

/-- the `i`-th main axis is the `i`-th column of the rotation matrix -/
theorem toV_mainAxes {d : Nat} {angles : List ℝ} {R : Matrix (Fin d) (Fin d) ℝ} (h : toM d (matrixRotate d angles) = R)
    (i : Fin d) : toV d (mainAxes d angles i) = Rᵀ i :=
  h ▸ rfl

theorem ofArr_tabArr {d : Nat} (f : Nat → Nat → ℝ) {i j : Nat} (hi : i < d) (hj : j < d) :
    ofArr d (tabArr d f) i j = f i j := by
  have hsz : (tabArr d f).size = d * d := Array.size_ofFn
  have hlt : j + i * d < d * d := by
    have := Nat.mul_le_mul_right d (Nat.succ_le_of_lt hi)
    rw [Nat.succ_mul] at this
    omega
  unfold ofArr
  rw [dif_pos ⟨hj, hsz ▸ hlt⟩]
  simp only [tabArr, Array.getElem_ofFn]
  rw [Nat.add_mul_div_right _ _ (Nat.zero_lt_of_lt hj), Nat.add_mul_mod_self_right, Nat.div_eq_of_lt hj,
    Nat.mod_eq_of_lt hj, Nat.zero_add]

theorem toM_ofArr_tabArr (d : Nat) (f : Nat → Nat → ℝ) : toM d (ofArr d (tabArr d f)) = toM d f := by
  ext i j
  exact ofArr_tabArr f i.2 j.2

/-- entries of `givens_rotation(dim, (p, q), a)` with `p ≠ q`: the four writes do not overlap -/
theorem givens_apply {p q : Nat} (hpq : p ≠ q) (a : ℝ) (i j : Nat) :
    givens (p, q) a i j =
      if i = p ∧ j = p then Real.cos a else if i = q ∧ j = q then Real.cos a
      else if i = p ∧ j = q then -Real.sin a else if i = q ∧ j = p then Real.sin a
      else if i = j then 1 else 0 := by
  have hqp := hpq.symm
  simp only [givens, upd2, eye, cos_real, sin_real, Nat.cast_one, Nat.cast_zero]
  by_cases h1 : i = p ∧ j = p
  · simp [h1, hpq]
  by_cases h2 : i = q ∧ j = q
  · simp [h2, hqp]
  by_cases h3 : i = p ∧ j = q
  · simp [h3, hpq, hqp]
  by_cases h4 : i = q ∧ j = p
  · simp [h4, hpq, hqp]
  simp [h1, h2, h3, h4]

section
variable {d : Nat} {p q : Fin d}

/-- the projection onto the plane of the axes `p`, `q` -/
def planeP (p q : Fin d) : Matrix (Fin d) (Fin d) ℝ := single p p 1 + single q q 1

/-- the quarter turn in that plane: `e_p ↦ e_q`, `e_q ↦ -e_p` -/
def planeJ (p q : Fin d) : Matrix (Fin d) (Fin d) ℝ := single q p 1 - single p q 1

/-- the Givens rotation in the plane of the axes `p`, `q`: `1 + (cos a - 1) P + sin a J`.  With `P² = P`,
    `PJ = JP = J`, `J² = -P`, `Pᵀ = P`, `Jᵀ = -J` its algebra is that of `cos a + i sin a`, the transpose
    being the conjugate. -/
noncomputable def givM (p q : Fin d) (a : ℝ) : Matrix (Fin d) (Fin d) ℝ :=
  1 + (Real.cos a - 1) • planeP p q + Real.sin a • planeJ p q

theorem planeP_mul_planeP (hpq : p ≠ q) : planeP p q * planeP p q = planeP p q := by
  simp [planeP, add_mul, mul_add, hpq, hpq.symm]

theorem planeP_mul_planeJ (hpq : p ≠ q) : planeP p q * planeJ p q = planeJ p q := by
  simp [planeP, planeJ, add_mul, mul_sub, hpq, hpq.symm]

theorem planeJ_mul_planeP (hpq : p ≠ q) : planeJ p q * planeP p q = planeJ p q := by
  simp [planeP, planeJ, sub_mul, mul_add, hpq, hpq.symm]
  abel

theorem planeJ_mul_planeJ (hpq : p ≠ q) : planeJ p q * planeJ p q = -planeP p q := by
  simp [planeP, planeJ, sub_mul, mul_sub, hpq, hpq.symm]
  abel

theorem planeP_transpose : (planeP p q)ᵀ = planeP p q := by
  simp [planeP]

theorem planeJ_transpose : (planeJ p q)ᵀ = -planeJ p q := by
  simp [planeJ]

theorem givM_zero (p q : Fin d) : givM p q 0 = 1 := by
  simp [givM]

theorem givM_mul (hpq : p ≠ q) (a b : ℝ) : givM p q a * givM p q b = givM p q (a + b) := by
  simp only [givM, mul_add, add_mul, mul_one, one_mul, smul_mul_smul_comm, planeP_mul_planeP hpq,
    planeP_mul_planeJ hpq, planeJ_mul_planeP hpq, planeJ_mul_planeJ hpq, Real.cos_add, Real.sin_add]
  module

theorem givM_transpose (a : ℝ) : (givM p q a)ᵀ = givM p q (-a) := by
  simp only [givM, transpose_add, transpose_smul, transpose_one, planeP_transpose, planeJ_transpose, Real.cos_neg,
    Real.sin_neg, neg_smul, smul_neg]

theorem givM_mul_transpose (hpq : p ≠ q) (a : ℝ) : givM p q a * (givM p q a)ᵀ = 1 := by
  rw [givM_transpose, givM_mul hpq, add_neg_cancel, givM_zero]

/-- `det = 1` by the half-angle trick: `G(a) = G(a/2)²` and `det G(a/2)² = det (G Gᵀ) = 1` -/
theorem givM_det (hpq : p ≠ q) (a : ℝ) : (givM p q a).det = 1 := by
  have h1 := congrArg Matrix.det (givM_mul_transpose hpq (a / 2))
  rw [Matrix.det_mul, Matrix.det_transpose, Matrix.det_one] at h1
  rw [← add_halves a, ← givM_mul hpq, Matrix.det_mul, h1]

theorem toM_givens {d p q : Nat} (hp : p < d) (hq : q < d) (hpq : p ≠ q) (a : ℝ) :
    toM d (givens (p, q) a) = givM ⟨p, hp⟩ ⟨q, hq⟩ a := by
  have hqp := hpq.symm
  ext ⟨i, hi⟩ ⟨j, hj⟩
  rw [toM_apply, givens_apply hpq]
  simp only [givM, planeP, planeJ, Matrix.add_apply, Matrix.smul_apply, Matrix.sub_apply, Matrix.one_apply,
    Matrix.single_apply, Fin.mk.injEq, smul_eq_mul, eq_comm (a := p), eq_comm (a := q)]
  by_cases h1 : i = p ∧ j = p
  · simp [h1, hpq]
  by_cases h2 : i = q ∧ j = q
  · simp [h2, hqp]
  by_cases h3 : i = p ∧ j = q
  · simp [h3, hpq, hqp]
  by_cases h4 : i = q ∧ j = p
  · simp [h4, hpq, hqp]
  simp [h1, h2, h3, h4]

end

theorem rotationPlanes_succ {d : Nat} (h : 1 ≤ d) :
    rotationPlanes (d + 1) = rotationPlanes d ++ (idxRange 0 d).map fun i => (i, d) := by
  simp [rotationPlanes, idxRange_succ h, List.flatMap_append]

theorem mem_rotationPlanes {d : Nat} {p : Nat × Nat} :
    p ∈ rotationPlanes d ↔ p.1 < p.2 ∧ p.2 < d := by
  obtain ⟨i, j⟩ := p
  simp only [rotationPlanes, List.mem_flatMap, List.mem_map, mem_idxRange, Prod.mk.injEq]
  constructor
  · rintro ⟨a, ⟨ha1, ha2⟩, b, ⟨_, hb⟩, rfl, rfl⟩; exact ⟨hb, ha2⟩
  · rintro ⟨h1, h2⟩; exact ⟨j, ⟨by omega, h2⟩, i, ⟨Nat.zero_le _, h1⟩, rfl, rfl⟩

theorem length_rotationPlanes_two_mul (d : Nat) : 2 * (rotationPlanes d).length = d * (d - 1) := by
  induction d with
  | zero => rfl
  | succ d ih =>
    cases d with
    | zero => rfl
    | succ e =>
      rw [rotationPlanes_succ (Nat.le_add_left 1 e), List.length_append, List.length_map, Nat.mul_add, ih, idxRange,
        List.length_range', Nat.sub_zero, Nat.add_sub_cancel, Nat.add_sub_cancel]
      ring

/-- there are exactly `no_of_angles(dim)` rotation planes, so `zip(angles, planes)` drops nothing -/
theorem length_rotationPlanes (d : Nat) : (rotationPlanes d).length = noOfAngles d := by
  unfold noOfAngles
  rw [← length_rotationPlanes_two_mul, Nat.mul_div_cancel_left _ (by norm_num : 0 < 2)]

theorem nodup_rotationPlanes (d : Nat) : (rotationPlanes d).Nodup := by
  unfold rotationPlanes
  rw [List.nodup_flatMap]
  refine ⟨fun j _ => (nodup_idxRange _ _).map (fun a b h => by simpa using h), ?_⟩
  refine List.Pairwise.imp_of_mem ?_ (nodup_idxRange 1 d)
  intro a b _ _ hab x hx1 hx2
  simp only [List.mem_map] at hx1 hx2
  obtain ⟨_, _, rfl⟩ := hx1
  obtain ⟨_, _, h⟩ := hx2
  exact hab (by simpa using (congrArg Prod.snd h).symm)

theorem mem_signedSeq {d : Nat} {as : List ℝ} {p : (Nat × Nat) × ℝ} (hp : p ∈ signedSeq d as) :
    p.1 ∈ rotationPlanes d ∧ ∃ a ∈ as, ∃ k : Nat, p.2 = (((-1:Int) ^ k : Int) : ℝ) * a := by
  simp only [signedSeq, List.mem_map] at hp
  obtain ⟨⟨⟨a, pl⟩, i⟩, hmem, rfl⟩ := hp
  have h := List.of_mem_zip (List.fst_mem_of_mem_zipIdx hmem)
  exact ⟨h.2, a, h.1, i, rfl⟩

/-- every plane the loops visit has two different axes inside the dimension -/
theorem signedSeq_valid {d : Nat} {as : List ℝ} {p : (Nat × Nat) × ℝ} (hp : p ∈ signedSeq d as) :
    p.1.1 < d ∧ p.1.2 < d ∧ p.1.1 ≠ p.1.2 :=
  have h := mem_rotationPlanes.1 (mem_signedSeq hp).1
  ⟨h.1.trans h.2, h.2, h.1.ne⟩

theorem signedSeq_neg (d : Nat) (as : List ℝ) :
    signedSeq d (as.map fun a => -a) = (signedSeq d as).map fun p => (p.1, -p.2) := by
  simp only [signedSeq, List.zip_map_left, List.zipIdx_map, List.map_map]
  exact List.map_congr_left fun p _ => Prod.ext rfl (mul_neg _ _)

theorem toM_foldl_rotate (d : Nat) (l : List ((Nat × Nat) × ℝ)) (R0 : Array ℝ) :
    toM d (ofArr d (l.foldl (fun r p => tabArr d (matmul d (givens p.1 p.2) (ofArr d r))) R0))
      = ((l.map fun p => toM d (givens p.1 p.2)).reverse).prod * toM d (ofArr d R0) := by
  induction l generalizing R0 with
  | nil => simp
  | cons p l ih =>
    rw [List.foldl_cons, ih, toM_ofArr_tabArr, toM_matmul]
    simp [Matrix.mul_assoc]

theorem toM_foldl_derotate (d : Nat) (l : List ((Nat × Nat) × ℝ)) (D0 : Array ℝ) :
    toM d (ofArr d (l.foldl (fun r p => tabArr d (matmul d (ofArr d r) (givens p.1 p.2))) D0))
      = toM d (ofArr d D0) * (l.map fun p => toM d (givens p.1 p.2)).prod := by
  induction l generalizing D0 with
  | nil => simp
  | cons p l ih =>
    rw [List.foldl_cons, ih, toM_ofArr_tabArr, toM_matmul]
    simp [Matrix.mul_assoc]

section
variable {α : Type} [Arith α]

theorem length_setAngles (d : Nat) (as : List α) : (setAngles d as).length = noOfAngles d := by
  simp only [setAngles, List.length_append, List.length_take, List.length_replicate]
  omega

theorem setAngles_of_length_le {d : Nat} {as : List α} (h : as.length ≤ noOfAngles d) :
    setAngles d as = as ++ List.replicate (noOfAngles d - as.length) ((0:Nat):α) := by
  rw [setAngles, List.take_of_length_le h]

theorem setAngles_of_le_length {d : Nat} {as : List α} (h : noOfAngles d ≤ as.length) :
    setAngles d as = as.take (noOfAngles d) := by
  rw [setAngles, List.length_take, Nat.min_eq_left h, Nat.sub_self, List.replicate_zero, List.append_nil]

theorem setAnis_of_length_le {d : Nat} {an : List α} (h : an.length ≤ d - 1) :
    setAnis d an = List.replicate (d - 1 - an.length) ((1:Nat):α) ++ an := by
  rw [setAnis, List.take_of_length_le h, Nat.sub_right_comm]
  split
  · rfl
  · rw [Nat.sub_eq_zero_of_le (by omega), List.replicate_zero, List.nil_append]

theorem setAnis_of_le_length {d : Nat} {an : List α} (h : d - 1 ≤ an.length) :
    setAnis d an = an.take (d - 1) := by
  rw [setAnis, List.length_take, Nat.min_eq_left h, if_neg (Nat.lt_irrefl _)]

theorem length_setAnis (d : Nat) (an : List α) : (setAnis d an).length = d - 1 := by
  rcases Nat.le_total an.length (d - 1) with h | h
  · rw [setAnis_of_length_le h, List.length_append, List.length_replicate, Nat.sub_add_cancel h]
  · rw [setAnis_of_le_length h, List.length_take, Nat.min_eq_left h]

end

theorem mem_setAnis {d : Nat} {an : List ℝ} {a : ℝ} (h : a ∈ setAnis d an) : a = 1 ∨ a ∈ an := by
  rcases Nat.le_total an.length (d - 1) with hl | hl
  · rw [setAnis_of_length_le hl, List.mem_append, List.mem_replicate, Nat.cast_one] at h
    exact h.imp And.right id
  · rw [setAnis_of_le_length hl] at h
    exact Or.inr (List.mem_of_mem_take h)

theorem setAnis_pos {d : Nat} {an : List ℝ} (h : ∀ a ∈ an, 0 < a) : ∀ a ∈ setAnis d an, 0 < a := by
  intro a ha
  rcases mem_setAnis ha with rfl | ha
  · exact one_pos
  · exact h a ha

/-- the stretching factors `[1] ++ set_anis(dim, anis)` as a function on the axes -/
noncomputable def stretch (d : Nat) (an : List ℝ) : Fin d → ℝ :=
  fun i => (1 :: setAnis d an)[(i : Nat)]?.getD 0

section
variable (d : Nat) (an : List ℝ)

theorem stretch_eq_getElem (i : Fin d) :
    stretch d an i = (1 :: setAnis d an)[(i : Nat)]'(by
      have := i.2; simp only [List.length_cons, length_setAnis]; omega) := by
  unfold stretch
  rw [List.getElem?_eq_getElem]; rfl

theorem stretch_mem (i : Fin d) : stretch d an i = 1 ∨ stretch d an i ∈ an := by
  rw [stretch_eq_getElem]
  rcases List.mem_cons.1 (List.getElem_mem (l := (1 : ℝ) :: setAnis d an) _) with h | h
  · exact Or.inl h
  · exact mem_setAnis h

theorem toM_anisotropify :
    toM d (matrixAnisotropify d an) = Matrix.diagonal (stretch d an) := by
  rw [matrixAnisotropify, toM_diag, Nat.cast_one]
  rfl

theorem toM_isotropify :
    toM d (matrixIsotropify d an) = Matrix.diagonal fun i => 1 / stretch d an i := by
  have h : (((1:Nat):ℝ) :: (setAnis d an).map fun a => ((1:Nat):ℝ) / a) = ((1:ℝ) :: setAnis d an).map (1 / ·) := by
    rw [List.map_cons, Nat.cast_one, one_div_one]
  rw [matrixIsotropify, toM_diag, h]
  congr 1
  funext i
  -- `1 / 0 = 0`: the default value passes through the map
  rw [List.getElem?_map, stretch, ← div_zero (1:ℝ), Option.getD_map (1 / ·), div_zero]

end

theorem stretch_pos {d : Nat} {an : List ℝ} (h : ∀ a ∈ an, 0 < a) (i : Fin d) : 0 < stretch d an i := by
  rcases stretch_mem d an i with h1 | h1
  · rw [h1]; exact one_pos
  · exact h _ h1

theorem prodL_eq (l : List ℝ) : prodL l = l.prod := by
  rw [prodL, Nat.cast_one, List.prod_eq_foldl]

/-- the components of `ang2dir` after the first one, by recursion on the angle list -/
noncomputable def dirRest : List ℝ → List ℝ
  | [] => []
  | a :: t => (t.map Real.sin).prod * Real.cos a :: dirRest t

theorem length_dirRest (l : List ℝ) : (dirRest l).length = l.length := by
  induction l with
  | nil => rfl
  | cons a t ih => simp [dirRest, ih]

theorem dirRest_eq (angles : List ℝ) :
    (idxRange 1 (angles.length + 1)).map (fun i =>
        prodL ((angles.map Transc.sin).drop i) * Transc.cos (angles[i - 1]?.getD ((0:Nat):ℝ)))
      = dirRest angles := by
  -- with the indices counted from `0` both sides obey the same recursion on the angle list
  rw [idxRange, Nat.add_sub_cancel, List.range'_eq_map_range, List.map_map]
  simp only [Function.comp_def, Nat.add_comm 1, Nat.add_sub_cancel]
  induction angles with
  | nil => rfl
  | cons a t ih =>
    rw [List.length_cons, List.range_succ_eq_map, List.map_cons, List.map_map, dirRest, ← ih, prodL_eq]
    rfl

theorem sqSum_dir (l : List ℝ) :
    (((l.map Real.sin).prod :: dirRest l).map fun v => v * v).sum = 1 := by
  induction l with
  | nil => simp [dirRest]
  | cons a t ih =>
    simp only [List.map_cons, List.prod_cons, List.sum_cons, dirRest] at ih ⊢
    linear_combination ih + (t.map Real.sin).prod * (t.map Real.sin).prod * Real.sin_sq_add_cos_sq a

theorem dirVec_perm (angles : List ℝ) : (dirVec angles).Perm ((angles.map Real.sin).prod :: dirRest angles) := by
  unfold dirVec
  simp only []
  rw [dirRest_eq, prodL_eq]
  split
  · split
    · rename_i h
      exact (List.Perm.swap _ _ _).trans (.of_eq h.symm)
    · exact .refl _
  · exact .refl _

end GSV.Lemmas.Geo
