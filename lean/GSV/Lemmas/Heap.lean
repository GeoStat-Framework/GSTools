/-
  Soundness of the ownership analysis `safeFrom` of GSV/Model/Heap.lean:
  for EVERY program and EVERY heap, if the analysis accepts the program then every buffer written
  was allocated during the run — so no buffer that existed before (caller arrays, stored fields,
  anything reachable or not) changes.  Law-free: holds verbatim for the executed model.
-/
import GSV.Model.Heap
namespace GSV.Model.Heap

/-! ### association lists and the abstract owned-set -/

@[simp] theorem get_nil (x : Nat) : get [] x = Obj.scalar := rfl
@[simp] theorem get_cons (k : Nat) (o : Obj) (t : List (Nat × Obj)) (x : Nat) :
    get ((k, o) :: t) x = if x = k then o else get t x := rfl

@[simp] theorem scalar_all : Obj.scalar.all = [] := rfl
@[simp] theorem arr_all (b : BufId) : (Obj.arr b).all = [b] := rfl
@[simp] theorem marr_all (b m : BufId) : (Obj.marr b m).all = [b, m] := rfl

theorem mem_drop {A : List Var} {d x : Var} : x ∈ drop A d ↔ x ∈ A ∧ x ≠ d := by
  simp [drop, List.mem_filter]

/-- `A` is a set of variables all of whose buffers were allocated at or after `n0` -/
def Owned (n0 : Nat) (A : List Var) (σ : St) : Prop :=
  n0 ≤ σ.next ∧ ∀ x, x ∈ A → ∀ b, b ∈ (get σ.env x).all → n0 ≤ b

theorem owned_mono {n0 : Nat} {A B : List Var} {σ : St} (h : Owned n0 A σ) (hBA : ∀ x, x ∈ B → x ∈ A) :
    Owned n0 B σ := ⟨h.1, fun x hx => h.2 x (hBA x hx)⟩

theorem owned_nil (σ : St) : Owned σ.next [] σ := ⟨Nat.le_refl _, fun _ hx => nomatch hx⟩

/-- `σ'` differs from `σ` on no buffer below `n0` -/
structure Frame (n0 : Nat) (σ σ' : St) : Prop where
  next_le : σ.next ≤ σ'.next
  written : ∀ b, b ∈ σ'.written → b ∈ σ.written ∨ n0 ≤ b
  ver : ∀ b, b < n0 → σ'.ver b = σ.ver b

/-- a step that neither writes nor gives ids back -/
theorem Frame.of_eq {n0 : Nat} {σ σ' : St} (hn : σ.next ≤ σ'.next) (hw : σ'.written = σ.written)
    (hv : σ'.ver = σ.ver) : Frame n0 σ σ' :=
  ⟨hn, fun _ hb => .inl (hw ▸ hb), fun _ _ => by rw [hv]⟩

theorem Frame.refl (n0 : Nat) (σ : St) : Frame n0 σ σ := .of_eq (Nat.le_refl _) rfl rfl

theorem Frame.trans {n0 : Nat} {a b c : St} (h1 : Frame n0 a b) (h2 : Frame n0 b c) : Frame n0 a c :=
  ⟨Nat.le_trans h1.next_le h2.next_le,
   fun x hx => (h2.written x hx).elim (fun h => h1.written x h) .inr,
   fun x hx => (h2.ver x hx).trans (h1.ver x hx)⟩

theorem Frame.mono {n0 m : Nat} {σ σ' : St} (h : Frame n0 σ σ') (hm : m ≤ n0) : Frame m σ σ' :=
  ⟨h.next_le, fun b hb => (h.written b hb).imp_right (Nat.le_trans hm),
   fun b hb => h.ver b (Nat.lt_of_lt_of_le hb hm)⟩

/-! ### well-formed heaps: everything reachable exists -/

/-- every buffer referenced by a variable, an attribute or a returned value has been allocated -/
structure WF (σ : St) : Prop where
  env : ∀ x b, b ∈ (get σ.env x).all → b < σ.next
  attrs : ∀ n b, b ∈ (get σ.attrs n).all → b < σ.next
  rets : ∀ o, o ∈ σ.rets → ∀ b, b ∈ o.all → b < σ.next

theorem lt_of_mem_get {l : List (Nat × Obj)} {n : Nat} (h : ∀ p, p ∈ l → ∀ b, b ∈ p.2.all → b < n)
    (x : Nat) (b : BufId) (hb : b ∈ (get l x).all) : b < n := by
  induction l with
  | nil => cases hb
  | cons p t ih =>
    obtain ⟨k, o⟩ := p
    rw [get_cons] at hb
    split at hb
    · exact h (k, o) (List.mem_cons_self ..) b hb
    · exact ih (fun q hq => h q (List.mem_cons_of_mem _ hq)) hb

/-- a heap written out as lists is well formed when every listed object references existing buffers only -/
theorem wf_of_forall {σ : St} (he : ∀ p, p ∈ σ.env → ∀ b, b ∈ p.2.all → b < σ.next)
    (ha : ∀ p, p ∈ σ.attrs → ∀ b, b ∈ p.2.all → b < σ.next) (hr : ∀ o, o ∈ σ.rets → ∀ b, b ∈ o.all → b < σ.next) :
    WF σ :=
  ⟨lt_of_mem_get he, lt_of_mem_get ha, hr⟩

/-! ### what one operation has to guarantee -/

/-- `σ'` is an acceptable result of an operation on `σ` whose transfer function in the analysis is `tr`, which
    re-binds at most the variables `dst` and stores under at most the names `sts` -/
structure StepOk (σ σ' : St) (tr : List Var → Option (List Var)) (dst : List Var) (sts : List Name) : Prop where
  /-- accepted ⇒ the next owned set is owned and nothing below `n0` is touched -/
  sound : ∀ {n0 : Nat} {A A' : List Var}, Owned n0 A σ → tr A = some A' → Owned n0 A' σ' ∧ Frame n0 σ σ'
  env : ∀ x, x ∉ dst → get σ'.env x = get σ.env x
  attrs : ∀ n, n ∉ sts → get σ'.attrs n = get σ.attrs n
  wf : WF σ → WF σ'

/-! ### binding a variable

Every conversion, view, copy and allocation hands out `k ≥ 0` new buffer ids and binds its destination to an
object made of buffers of its source and of those new ids; nothing else changes. -/

def Binds (σ σ' : St) (d : Var) (src : List BufId) : Prop :=
  ∃ k o, σ' = { σ with next := σ.next + k, env := (d, o) :: σ.env } ∧
    ∀ b, b ∈ o.all → b ∈ src ∨ σ.next ≤ b ∧ b < σ.next + k

theorem binds_bind (σ : St) (d : Var) {o : Obj} {src : List BufId} (ho : ∀ b, b ∈ o.all → b ∈ src) :
    Binds σ (σ.bind d o) d src :=
  ⟨0, o, rfl, fun b hb => .inl (ho b hb)⟩

theorem binds_alloc (σ : St) (d : Var) (m : Bool) (src : List BufId) : Binds σ (σ.alloc d m) d src := by
  cases m
  · refine ⟨1, Obj.arr σ.next, rfl, fun b hb => .inr ?_⟩
    rw [List.mem_singleton.mp hb]
    exact ⟨Nat.le_refl _, Nat.lt_succ_self _⟩
  · refine ⟨2, Obj.marr σ.next (σ.next + 1), rfl, fun b hb => .inr ?_⟩
    rcases List.mem_cons.mp hb with rfl | hb
    · exact ⟨Nat.le_refl _, Nat.lt_add_of_pos_right (by decide)⟩
    · rw [List.mem_singleton.mp hb]
      exact ⟨Nat.le_succ _, Nat.lt_succ_self _⟩

/-- `np.asarray`, `reshape`, `np.ma.array`, `filled`: the source itself when it already has the wanted form,
    else a new array -/
theorem binds_conv (σ : St) (d : Var) {c m : Bool} {o : Obj} {src : List BufId}
    (ho : ∀ b, b ∈ o.all → b ∈ src) : Binds σ (if c = true then σ.bind d o else σ.alloc d m) d src := by
  cases c
  · exact binds_alloc σ d m src
  · exact binds_bind σ d ho

section
variable {n0 : Nat} {A : List Var} {σ σ' : St} {d : Var} {src : List BufId}

theorem Binds.get_env (hb : Binds σ σ' d src) {x : Var} (hx : x ≠ d) : get σ'.env x = get σ.env x := by
  obtain ⟨k, o, rfl, -⟩ := hb
  exact (get_cons ..).trans (if_neg hx)

theorem Binds.get_dst (hb : Binds σ σ' d src) {b : BufId} (h : b ∈ (get σ'.env d).all) :
    b ∈ src ∨ σ.next ≤ b ∧ b < σ'.next := by
  obtain ⟨k, o, rfl, ho⟩ := hb
  rw [get_cons, if_pos rfl] at h
  exact ho b h

theorem Binds.frame (hb : Binds σ σ' d src) (n0 : Nat) : Frame n0 σ σ' := by
  obtain ⟨k, o, rfl, -⟩ := hb
  exact .of_eq (Nat.le_add_right _ _) rfl rfl

/-- `d` is owned afterwards when the buffers it may share with its source are owned -/
theorem Binds.owned_cons (hb : Binds σ σ' d src) (h : Owned n0 A σ) (hsrc : ∀ b, b ∈ src → n0 ≤ b) :
    Owned n0 (d :: A) σ' := by
  refine ⟨Nat.le_trans h.1 (hb.frame n0).next_le, fun x hx b hbx => ?_⟩
  by_cases hxd : x = d
  · subst hxd
    exact (hb.get_dst hbx).elim (hsrc b) fun hn => Nat.le_trans h.1 hn.1
  · rw [hb.get_env hxd] at hbx
    exact h.2 x ((List.mem_cons.mp hx).resolve_left hxd) b hbx

/-- binding `d` to anything is fine once `d` is removed from the owned set -/
theorem Binds.owned_drop (hb : Binds σ σ' d src) (h : Owned n0 A σ) : Owned n0 (drop A d) σ' := by
  refine ⟨Nat.le_trans h.1 (hb.frame n0).next_le, fun x hx b hbx => ?_⟩
  have ⟨hxA, hxd⟩ := mem_drop.mp hx
  rw [hb.get_env hxd] at hbx
  exact h.2 x hxA b hbx

theorem Binds.wf (hb : Binds σ σ' d src) (h : WF σ) (hsrc : ∀ b, b ∈ src → b < σ.next) : WF σ' := by
  have hn := (hb.frame 0).next_le
  refine ⟨fun x b hbx => ?_, ?_, ?_⟩
  · by_cases hxd : x = d
    · subst hxd
      exact (hb.get_dst hbx).elim (fun hs => Nat.lt_of_lt_of_le (hsrc b hs) hn) fun hn => hn.2
    · rw [hb.get_env hxd] at hbx
      exact Nat.lt_of_lt_of_le (h.env x b hbx) hn
  · obtain ⟨k, o, rfl, -⟩ := hb
    exact fun n b hbn => Nat.lt_of_lt_of_le (h.attrs n b hbn) hn
  · obtain ⟨k, o, rfl, -⟩ := hb
    exact fun o' ho' b hbo => Nat.lt_of_lt_of_le (h.rets o' ho' b hbo) hn

/-- a binding is acceptable once the analysis' next owned set is owned and the source exists -/
theorem Binds.stepOk {tr : List Var → Option (List Var)} (hb : Binds σ σ' d src)
    (hsrc : WF σ → ∀ b, b ∈ src → b < σ.next)
    (hown : ∀ {n0 : Nat} {A A' : List Var}, Owned n0 A σ → tr A = some A' → Owned n0 A' σ') :
    StepOk σ σ' tr [d] [] where
  sound h hs := ⟨hown h hs, hb.frame _⟩
  env x hx := hb.get_env (List.ne_of_not_mem_cons hx)
  attrs n _ := by
    obtain ⟨k, o, rfl, -⟩ := hb
    rfl
  wf h := hb.wf h (hsrc h)

/-- the conversion / view family: `d` inherits ownership from its source `s` -/
theorem Binds.ok_inherit {s : Var} (hb : Binds σ σ' d (get σ.env s).all) :
    StepOk σ σ' (fun A => some (if A.contains s then d :: A else drop A d)) [d] [] :=
  hb.stepOk (fun h => h.env s) fun h hs => by
    cases hs
    split
    next hs => exact hb.owned_cons h (h.2 s (List.contains_iff_mem.mp hs))
    next => exact hb.owned_drop h

/-- copies and allocations: `d` shares nothing -/
theorem Binds.ok_fresh (hb : Binds σ σ' d []) : StepOk σ σ' (fun A => some (d :: A)) [d] [] :=
  hb.stepOk (fun _ _ hm => nomatch hm) fun h hs => by
    cases hs
    exact hb.owned_cons h fun _ hm => nomatch hm

/-- `d = self[name]` may share anything that is stored -/
theorem Binds.ok_load {n : Name} (hb : Binds σ σ' d (get σ.attrs n).all) :
    StepOk σ σ' (fun A => some (drop A d)) [d] [] :=
  hb.stepOk (fun h => h.attrs n) fun h hs => by
    cases hs
    exact hb.owned_drop h

end

/-! ### writing in place -/

theorem frame_write {n0 : Nat} (σ : St) (bs : List BufId) (h : ∀ b, b ∈ bs → n0 ≤ b) :
    Frame n0 σ (σ.write bs) := by
  refine ⟨Nat.le_refl _, fun b hb => ?_, fun b hb => ?_⟩
  · exact (List.mem_append.mp hb).elim (fun hb => .inr (h b hb)) .inl
  · exact if_neg fun hmem => Nat.lt_irrefl b (Nat.lt_of_lt_of_le hb (h b hmem))

/-- the analysis accepts a write through `x` only when `x` is owned, and then keeps the owned set -/
theorem accepts_write {A A' : List Var} {x : Var} (hs : (if A.contains x then some A else none) = some A') :
    x ∈ A ∧ A' = A := by
  split at hs
  next hx => exact ⟨List.contains_iff_mem.mp hx, (Option.some.inj hs).symm⟩
  next => cases hs

theorem stepOk_write {σ : St} {x : Var} {bs : List BufId} (hbs : ∀ b, b ∈ bs → b ∈ (get σ.env x).all)
    (dst : List Var) : StepOk σ (σ.write bs) (fun A => if A.contains x then some A else none) dst [] where
  sound h hs := by
    obtain ⟨hx, rfl⟩ := accepts_write hs
    exact ⟨h, frame_write σ bs fun b hb => h.2 x hx b (hbs b hb)⟩
  env _ _ := rfl
  attrs _ _ := rfl
  wf h := ⟨h.env, h.attrs, h.rets⟩

/-- what `x op= …` and `x.mask = …` do: write through `x`, or re-bind `x` (a python scalar to the new array, a
    MaskedArray without mask to itself with a new mask) -/
def InPlace (σ σ' : St) (x : Var) : Prop :=
  (∃ bs, σ' = σ.write bs ∧ ∀ b, b ∈ bs → b ∈ (get σ.env x).all) ∨ Binds σ σ' x (get σ.env x).all

theorem inplace_augName (σ : St) (x : Var) : InPlace σ (step σ (.augName x)) x := by
  show InPlace σ (if (get σ.env x).all.isEmpty then _ else _) x
  split
  · exact .inr (binds_alloc σ x false _)
  · exact .inl ⟨_, rfl, fun _ hb => List.mem_append_left _ hb⟩

theorem inplace_setMask (σ : St) (x : Var) : InPlace σ (step σ (.setMask x)) x := by
  show InPlace σ (if (get σ.env x).mask.isEmpty then _ else _) x
  split
  · refine .inr ⟨1, _, rfl, fun b hb => ?_⟩
    rcases List.mem_append.mp hb with hb | hb
    · exact .inl (List.mem_append_left _ hb)
    · rw [List.mem_singleton.mp hb]
      exact .inr ⟨Nat.le_refl _, Nat.lt_succ_self _⟩
  · exact .inl ⟨_, rfl, fun _ hb => List.mem_append_right _ hb⟩

theorem InPlace.stepOk {σ σ' : St} {x : Var} (hw : InPlace σ σ' x) :
    StepOk σ σ' (fun A => if A.contains x then some A else none) [x] [] := by
  rcases hw with ⟨bs, rfl, hbs⟩ | hb
  · exact stepOk_write hbs [x]
  · exact hb.stepOk (fun h => h.env x) fun h hs => by
      obtain ⟨hx, rfl⟩ := accepts_write hs
      exact owned_mono (hb.owned_cons h (h.2 x hx)) fun y hy => List.mem_cons_of_mem _ hy

/-! ### `setattr` and `return` -/

theorem stepOk_store (σ : St) (n : Name) (s : Var) :
    StepOk σ { σ with attrs := (n, get σ.env s) :: σ.attrs } some [] [n] where
  sound h hs := by
    cases hs
    exact ⟨h, .of_eq (Nat.le_refl _) rfl rfl⟩
  env _ _ := rfl
  attrs m hm := (get_cons ..).trans (if_neg (List.ne_of_not_mem_cons hm))
  wf h := by
    refine ⟨h.env, fun m b hb => ?_, h.rets⟩
    rw [get_cons] at hb
    split at hb
    · exact h.env s b hb
    · exact h.attrs m b hb

theorem stepOk_ret (σ : St) (s : Var) : StepOk σ { σ with rets := get σ.env s :: σ.rets } some [] [] where
  sound h hs := by
    cases hs
    exact ⟨h, .of_eq (Nat.le_refl _) rfl rfl⟩
  env _ _ := rfl
  attrs _ _ := rfl
  wf h := by
    refine ⟨h.env, h.attrs, fun o ho b hb => ?_⟩
    rcases List.mem_cons.mp ho with rfl | ho
    · exact h.env s b hb
    · exact h.rets o ho b hb

/-! ### one step, then whole programs -/

/-- the variable (re)bound by an operation, if any -/
def dstOf : Op → List Var
  | .asarray d _ | .reshape d _ | .view d _ _ | .copy d _ | .fresh d | .scalar d | .wrapList d _
  | .maArray d _ | .maCopy d _ | .filled d _ | .load d _ => [d]
  | .augName x | .setMask x => [x]
  | .setItem _ | .store _ _ | .ret _ => []

/-- `np.asarray` drops the mask: what remains is part of the source -/
theorem mem_all_of_dropMask (o : Obj) (b : BufId) (hb : b ∈ ({ o with mask := [] } : Obj).all) : b ∈ o.all :=
  List.mem_append_left _ (List.append_nil o.bufs ▸ hb)

/-- every operation is acceptable: accepted by the analysis ⇒ it keeps the ownership invariant (with the analysis'
    next owned set) and touches nothing below `n0`; it re-binds only its destination, stores only under its own name
    and keeps the heap well formed -/
theorem step_ok (σ : St) (op : Op) : StepOk σ (step σ op) (transfer · op) (dstOf op) (storesOf [op]) := by
  cases op with
  | asarray d s => exact (binds_conv σ d (mem_all_of_dropMask _)).ok_inherit
  | reshape d s | maArray d s | filled d s => exact (binds_conv σ d fun _ hb => hb).ok_inherit
  | view d s _ | wrapList d s => exact Binds.ok_inherit (binds_bind σ d fun _ hb => hb)
  | copy d _ | maCopy d _ | fresh d => exact (binds_alloc σ d _ []).ok_fresh
  | scalar d => exact Binds.ok_fresh (binds_bind σ d fun _ hb => hb)
  | load d n => exact Binds.ok_load (binds_bind σ d fun _ hb => hb)
  | augName x => exact (inplace_augName σ x).stepOk
  | setItem x => exact stepOk_write (fun _ hb => List.mem_append_left _ hb) []
  | setMask x => exact (inplace_setMask σ x).stepOk
  | store n s => exact stepOk_store σ n s
  | ret s => exact stepOk_ret σ s

theorem run_cons (σ : St) (op : Op) (t : List Op) : run σ (op :: t) = run (step σ op) t := rfl
@[simp] theorem run_nil (σ : St) : run σ [] = σ := rfl
theorem run_append (σ : St) (p q : List Op) : run σ (p ++ q) = run (run σ p) q :=
  List.foldl_append

/-- soundness of the ownership analysis, generic in the program, the heap and the owned set -/
theorem run_sound {n0 : Nat} (p : List Op) {A : List Var} {σ : St} (h : Owned n0 A σ) (hs : safeFrom A p = true) :
    Frame n0 σ (run σ p) := by
  induction p generalizing A σ with
  | nil => exact Frame.refl _ _
  | cons op t ih =>
    rw [safeFrom] at hs
    split at hs
    next A' ht =>
      have ⟨h', hf⟩ := (step_ok σ op).sound h ht
      exact hf.trans (ih h' hs)
    next => cases hs

/-- a safe program leaves every pre-existing buffer untouched -/
theorem safe_frame {p : List Op} (hp : safe p = true) (σ : St) : Frame σ.next σ (run σ p) :=
  run_sound p (owned_nil σ) hp

/-- after an allocation bound to `d`, a program that is accepted once `d` is owned touches nothing below `n0` -/
theorem alloc_run_frame {n0 : Nat} {σ : St} (hn : n0 ≤ σ.next) (d : Var) (m : Bool) {p : List Op}
    (hp : safeFrom [d] p = true) : Frame n0 σ (run (σ.alloc d m) p) :=
  have r := (binds_alloc σ d m []).ok_fresh.sound (A := []) ⟨hn, fun _ hx => nomatch hx⟩ rfl
  r.2.trans (run_sound p r.1 hp)

theorem storesOf_cons (op : Op) (t : List Op) : storesOf (op :: t) = storesOf [op] ++ storesOf t := by
  cases op <;> rfl

/-- only `store` changes the attributes, and only under its own name -/
theorem run_attrs_other (p : List Op) (σ : St) (n : Name) (h : n ∉ storesOf p) :
    get (run σ p).attrs n = get σ.attrs n := by
  induction p generalizing σ with
  | nil => rfl
  | cons op t ih =>
    rw [storesOf_cons, List.mem_append, not_or] at h
    rw [run_cons, ih _ h.2, (step_ok σ op).attrs n h.1]

/-- variables a program does not assign keep their binding -/
theorem run_env_other (p : List Op) (σ : St) (x : Var) (h : x ∉ p.flatMap dstOf) : get (run σ p).env x = get σ.env x := by
  induction p generalizing σ with
  | nil => rfl
  | cons op t ih =>
    rw [List.flatMap_cons, List.mem_append, not_or] at h
    rw [run_cons, ih _ h.2, (step_ok σ op).env x h.1]

theorem run_wf (p : List Op) {σ : St} (h : WF σ) : WF (run σ p) := by
  induction p generalizing σ with
  | nil => exact h
  | cons op t ih => exact ih ((step_ok σ op).wf h)

/-! ### structured programs: the analysis is sound for every execution -/

theorem mem_inter {A B : List Var} {x : Var} : x ∈ inter A B ↔ x ∈ A ∧ x ∈ B := by
  simp [inter, List.mem_filter]

theorem subsetB_mem {A B : List Var} (h : subsetB A B = true) {x : Var} (hx : x ∈ A) : x ∈ B :=
  List.contains_iff_mem.mp (List.all_eq_true.mp h x hx)

theorem inter_eq_self {A B : List Var} (h : subsetB A B = true) : inter A B = A :=
  List.filter_eq_self.mpr (List.all_eq_true.mp h)

theorem anaS_ite {A A' : List Var} {a b : List Stmt} (hs : anaS A (.ite a b) = some A') :
    ∃ A1 A2, anaL A a = some A1 ∧ anaL A b = some A2 ∧ A' = inter A1 A2 := by
  simp only [anaS] at hs
  split at hs
  next A1 A2 h1 h2 => exact ⟨A1, A2, h1, h2, (Option.some.inj hs).symm⟩
  next => cases hs

theorem anaL_cons {A A' : List Var} {s : Stmt} {t : List Stmt} (hs : anaL A (s :: t) = some A') :
    ∃ A1, anaS A s = some A1 ∧ anaL A1 t = some A' := by
  simp only [anaL] at hs
  split at hs
  next A1 h1 => exact ⟨A1, h1, hs⟩
  next => cases hs

/-- an accepted loop comes with an invariant: the owned set `I` the analysis answers is part of what was owned
    before the loop, one iteration from `I` owns at least `I` again, and the analysis started from `I` answers `I` -/
theorem anaS_loop {A I : List Var} {b : List Stmt} (hs : anaS A (.loop b) = some I) :
    (∀ x, x ∈ I → x ∈ A) ∧ anaS I (.loop b) = some I ∧ ∃ A2, anaL I b = some A2 ∧ ∀ x, x ∈ I → x ∈ A2 := by
  simp only [anaS] at hs
  split at hs
  next => cases hs
  next A1 _ =>
    split at hs
    next => cases hs
    next A2 h2 =>
      split at hs
      next hsub =>
        cases hs
        refine ⟨fun x hx => (mem_inter.mp hx).1, ?_, A2, h2, fun x hx => subsetB_mem hsub hx⟩
        simp only [anaS, h2, inter_eq_self hsub, hsub, if_true]
      next =>
        split at hs
        next A3 h3 =>
          cases hs
          refine ⟨fun x hx => (nomatch hx), ?_, A3, h3, fun x hx => (nomatch hx)⟩
          simp only [anaS, h3, show inter [] A3 = [] from rfl, ite_self]
        next => cases hs

/-- the analysis is sound for every execution of a statement (`.inl`) or a statement list (`.inr`).  By induction on
    the execution: a loop iteration from the invariant `I` re-establishes `I`, and what follows is again an execution
    of the loop, accepted from `I` -/
theorem exec_sound {n0 : Nat} {p : Stmt ⊕ List Stmt} {σ σ' : St} (he : Exec p σ σ') {A A' : List Var}
    (hs : Sum.elim (anaS A) (anaL A) p = some A') (h : Owned n0 A σ) : Owned n0 A' σ' ∧ Frame n0 σ σ' := by
  induction he generalizing A A' with
  | op o σ => exact (step_ok σ o).sound h hs
  | iteL _ ih =>
    obtain ⟨A1, A2, h1, h2, rfl⟩ := anaS_ite hs
    exact (ih h1 h).imp_left fun r => owned_mono r fun x hx => (mem_inter.mp hx).1
  | iteR _ ih =>
    obtain ⟨A1, A2, h1, h2, rfl⟩ := anaS_ite hs
    exact (ih h2 h).imp_left fun r => owned_mono r fun x hx => (mem_inter.mp hx).2
  | loopDone => exact ⟨owned_mono h (anaS_loop hs).1, Frame.refl _ _⟩
  | loopStep _ _ ih1 ih2 =>
    obtain ⟨hA, hI, A2, h2, hinv⟩ := anaS_loop hs
    have r1 := ih1 h2 (owned_mono h hA)
    exact (ih2 hI (owned_mono r1.1 hinv)).imp_right r1.2.trans
  | nil =>
    cases hs
    exact ⟨h, Frame.refl _ _⟩
  | cons _ _ ih1 ih2 =>
    obtain ⟨A1, h1, h2⟩ := anaL_cons hs
    have r1 := ih1 h1 h
    exact (ih2 h2 r1.1).imp_right r1.2.trans

/-- `exec_sound` for a single statement -/
theorem anaS_sound {n0 : Nat} : ∀ (s : Stmt) {A A' : List Var} {σ σ' : St},
    anaS A s = some A' → Owned n0 A σ → ExecS s σ σ' → Owned n0 A' σ' ∧ Frame n0 σ σ' :=
  fun _ _ _ _ _ hs h he => exec_sound he hs h

/-- soundness for structured programs: accepted from the owned set `A0` ⇒ no execution writes below `n0` -/
theorem safeB_sound {n0 : Nat} {A0 : List Var} {b : List Stmt} (hb : safeB A0 b = true) {σ σ' : St}
    (h : Owned n0 A0 σ) (he : ExecL b σ σ') : Frame n0 σ σ' := by
  obtain ⟨A', hA⟩ := Option.isSome_iff_exists.mp hb
  exact (exec_sound he hA h).2

/-! ### histories: a sequence of calls, the caller re-binding arguments in between -/

/-- run a list of calls; before each call the caller chooses the argument binding from what exists -/
def runCalls (args : St → List (Var × Obj)) (σ : St) : List (List Op) → St
  | [] => σ
  | p :: ps => runCalls args (run { σ with env := args σ } p) ps

theorem runCalls_append (args : St → List (Var × Obj)) (ps qs : List (List Op)) (σ : St) :
    runCalls args σ (ps ++ qs) = runCalls args (runCalls args σ ps) qs := by
  induction ps generalizing σ with
  | nil => rfl
  | cons p t ih => exact ih _

theorem runCalls_frame (args : St → List (Var × Obj)) (ps : List (List Op)) (σ : St)
    (h : ∀ p, p ∈ ps → safe p = true) : Frame σ.next σ (runCalls args σ ps) := by
  induction ps generalizing σ with
  | nil => exact Frame.refl _ _
  | cons p t ih =>
    -- re-binding the arguments changes `env` only, so the three fields of the call's frame are those of a frame from `σ`
    have h1 : Frame σ.next { σ with env := args σ } (run { σ with env := args σ } p) :=
      safe_frame (h p (List.mem_cons_self ..)) { σ with env := args σ }
    have h2 := ih (run { σ with env := args σ } p) fun q hq => h q (List.mem_cons_of_mem _ hq)
    exact Frame.trans ⟨h1.next_le, h1.written, h1.ver⟩ (h2.mono h1.next_le)

end GSV.Model.Heap
