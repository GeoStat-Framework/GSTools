/-
  Lemmas about the control combinators (core Lean only).
-/
import GSV.Ctl
namespace GSV

variable {σ τ β : Type}

theorem ite_iff_congr {p q : Prop} [Decidable p] [Decidable q] {a b : β} (h : p ↔ q) :
    (if p then a else b) = if q then a else b := by
  by_cases hq : q
  · rw [if_pos hq, if_pos (h.mpr hq)]
  · rw [if_neg hq, if_neg (mt h.mp hq)]

@[simp] theorem upd_same (a : Nat → β) (i : Nat) (v : β) : upd a i v i = v := by simp [upd]
theorem upd_other (a : Nat → β) {i k : Nat} (v : β) (h : k ≠ i) : upd a i v k = a k := by simp [upd, h]
theorem upd_apply (a : Nat → β) (i k : Nat) (v : β) : upd a i v k = if k = i then v else a k := rfl
theorem upd2_apply (a : Nat → Nat → β) (i j i' j' : Nat) (v : β) :
    upd2 a i j v i' j' = if i' = i ∧ j' = j then v else a i' j' := rfl
theorem setRow_apply (a : Nat → Nat → β) (i i' : Nat) (r : Nat → β) :
    setRow a i r i' = if i' = i then r else a i' := rfl

@[simp] theorem foldIdx_nil (st : σ) (body : Nat → σ → σ) : foldIdx [] st body = st := rfl

@[simp] theorem foldIdx_cons (i : Nat) (l : List Nat) (st : σ) (body : Nat → σ → σ) :
    foldIdx (i :: l) st body = foldIdx l (body i st) body := rfl

theorem foldIdx_append (l₁ l₂ : List Nat) (st : σ) (body : Nat → σ → σ) :
    foldIdx (l₁ ++ l₂) st body = foldIdx l₂ (foldIdx l₁ st body) body := by
  simp [foldIdx, List.foldl_append]

theorem idxRange_succ {lo hi : Nat} (h : lo ≤ hi) : idxRange lo (hi + 1) = idxRange lo hi ++ [hi] := by
  rw [idxRange, idxRange, Nat.succ_sub h, List.range'_1_concat, Nat.add_sub_cancel' h]

theorem idxRange_cons {lo hi : Nat} (h : lo < hi) : idxRange lo hi = lo :: idxRange (lo + 1) hi := by
  unfold idxRange
  rw [show hi - lo = (hi - (lo + 1)) + 1 by omega, List.range'_succ]

theorem idxRange_empty {lo hi : Nat} (h : hi ≤ lo) : idxRange lo hi = [] := by
  rw [idxRange, Nat.sub_eq_zero_of_le h]
  rfl

theorem mem_idxRange {lo hi k : Nat} : k ∈ idxRange lo hi ↔ lo ≤ k ∧ k < hi := by
  unfold idxRange
  rw [List.mem_range'_1]
  omega

theorem nodup_idxRange (lo hi : Nat) : (idxRange lo hi).Nodup := by
  unfold idxRange; exact List.nodup_range' ..

@[simp] theorem forRange_empty {lo hi : Nat} (h : hi ≤ lo) (st : σ) (body : Nat → σ → σ) :
    forRange lo hi st body = st := by
  simp [forRange, idxRange_empty h]

theorem forRange_succ {lo hi : Nat} (h : lo ≤ hi) (st : σ) (body : Nat → σ → σ) :
    forRange lo (hi + 1) st body = body hi (forRange lo hi st body) := by
  simp [forRange, idxRange_succ h, foldIdx_append]

/-- projection rule: if `π` commutes with every iteration that is run, it commutes with the loop -/
theorem foldIdx_proj_mem (π : σ → τ) (body : Nat → σ → σ) (body' : Nat → τ → τ) (l : List Nat)
    (h : ∀ i ∈ l, ∀ s, π (body i s) = body' i (π s)) (st : σ) :
    π (foldIdx l st body) = foldIdx l (π st) body' := by
  induction l generalizing st with
  | nil => rfl
  | cons i l ih =>
    simp only [foldIdx_cons]
    rw [ih (fun j hj s => h j (List.mem_cons_of_mem _ hj) s), h i (List.mem_cons_self ..)]

theorem foldIdx_proj (π : σ → τ) (body : Nat → σ → σ) (body' : Nat → τ → τ)
    (h : ∀ i s, π (body i s) = body' i (π s)) (l : List Nat) (st : σ) :
    π (foldIdx l st body) = foldIdx l (π st) body' :=
  foldIdx_proj_mem π body body' l (fun i _ => h i) st

theorem forRange_proj (π : σ → τ) (body : Nat → σ → σ) (body' : Nat → τ → τ)
    (h : ∀ i s, π (body i s) = body' i (π s)) (lo hi : Nat) (st : σ) :
    π (forRange lo hi st body) = forRange lo hi (π st) body' :=
  foldIdx_proj π body body' h _ st

theorem forRange_proj_mem (π : σ → τ) (body : Nat → σ → σ) (body' : Nat → τ → τ) (lo hi : Nat)
    (h : ∀ i, lo ≤ i → i < hi → ∀ s, π (body i s) = body' i (π s)) (st : σ) :
    π (forRange lo hi st body) = forRange lo hi (π st) body' :=
  foldIdx_proj_mem π body body' _ (fun i hi' s => h i (mem_idxRange.1 hi').1 (mem_idxRange.1 hi').2 s) st

theorem foldIdx_congr (l : List Nat) (body body' : Nat → σ → σ) (h : ∀ i ∈ l, ∀ s, body i s = body' i s)
    (st : σ) : foldIdx l st body = foldIdx l st body' :=
  foldIdx_proj_mem id body body' l h st

theorem forRange_congr (lo hi : Nat) (body body' : Nat → σ → σ)
    (h : ∀ i, lo ≤ i → i < hi → ∀ s, body i s = body' i s) (st : σ) :
    forRange lo hi st body = forRange lo hi st body' :=
  forRange_proj_mem id body body' lo hi h st

theorem foldIdx_inv (P : σ → Prop) (body : Nat → σ → σ) (l : List Nat)
    (h : ∀ i ∈ l, ∀ s, P s → P (body i s)) (st : σ) (h0 : P st) : P (foldIdx l st body) :=
  List.foldlRecOn l _ h0 fun s hs i hi => h i hi s hs

/-- a component no iteration changes is unchanged by the loop -/
theorem foldIdx_keep (π : σ → τ) (body : Nat → σ → σ) (h : ∀ i s, π (body i s) = π s)
    (l : List Nat) (st : σ) : π (foldIdx l st body) = π st :=
  foldIdx_inv (fun s => π s = π st) body l (fun i _ s hs => (h i s).trans hs) st rfl

theorem forRange_keep (π : σ → τ) (body : Nat → σ → σ) (h : ∀ i s, π (body i s) = π s)
    (lo hi : Nat) (st : σ) : π (forRange lo hi st body) = π st :=
  foldIdx_keep π body h _ st

/-! ### Ownership: schedule independence of `prange` loops (C15) -/

/-- If iteration `i` changes only cell `i` of the observed array, and the new value of that cell is a function `g i` of its
    old value alone (not of any other part of the state — in particular not of the scalars inherited from the previous
    iteration), then running the iterations of a duplicate-free index list in any order yields the same array.  No law of
    `+` or `*` is used: the conclusion is bit-identity on `Float`.  The two ownership facts are required only for the
    indices that are visited. -/
theorem foldIdx_owned_mem (get : σ → Nat → β) (g : Nat → β → β) (body : Nat → σ → σ)
    (l : List Nat)
    (hother : ∀ i ∈ l, ∀ s k, k ≠ i → get (body i s) k = get s k)
    (hown : ∀ i ∈ l, ∀ s, get (body i s) i = g i (get s i))
    (hl : l.Nodup) (st : σ) (k : Nat) :
    get (foldIdx l st body) k = if k ∈ l then g k (get st k) else get st k := by
  induction l generalizing st with
  | nil => rfl
  | cons i l ih =>
    have hnd := List.nodup_cons.1 hl
    rw [foldIdx_cons,
      ih (fun j hj => hother j (List.mem_cons_of_mem _ hj)) (fun j hj => hown j (List.mem_cons_of_mem _ hj)) hnd.2]
    by_cases hki : k = i
    · -- `i` is not visited again, so cell `i` keeps what iteration `i` wrote
      subst hki
      rw [if_neg hnd.1, if_pos (List.mem_cons_self ..), hown k (List.mem_cons_self ..)]
    · rw [hother i (List.mem_cons_self ..) _ _ hki]
      exact ite_iff_congr (List.mem_cons.trans (or_iff_right hki)).symm

theorem foldIdx_owned (get : σ → Nat → β) (g : Nat → β → β) (body : Nat → σ → σ)
    (hother : ∀ i s k, k ≠ i → get (body i s) k = get s k)
    (hown : ∀ i s, get (body i s) i = g i (get s i))
    (l : List Nat) (hl : l.Nodup) (st : σ) (k : Nat) :
    get (foldIdx l st body) k = if k ∈ l then g k (get st k) else get st k :=
  foldIdx_owned_mem get g body l (fun i _ => hother i) (fun i _ => hown i) hl st k

/-- ownership with a frame: iteration `i` may also read a part `fr` of the state that no iteration changes -/
theorem foldIdx_owned_frame {φ : Type} (get : σ → Nat → β) (fr : σ → φ) (g : φ → Nat → β → β) (body : Nat → σ → σ)
    (hfr : ∀ i s, fr (body i s) = fr s)
    (hother : ∀ i s k, k ≠ i → get (body i s) k = get s k)
    (hown : ∀ i s, get (body i s) i = g (fr s) i (get s i))
    (l : List Nat) (hl : l.Nodup) (st : σ) (k : Nat) :
    get (foldIdx l st body) k = if k ∈ l then g (fr st) k (get st k) else get st k := by
  have h := congrArg Prod.snd (foldIdx_owned (fun s k => (fr s, get s k)) (fun i v => (v.1, g v.1 i v.2)) body
    (fun i s k hk => Prod.ext (hfr i s) (hother i s k hk)) (fun i s => Prod.ext (hfr i s) (hown i s)) l hl st k)
  rwa [apply_ite Prod.snd] at h

theorem parRange_owned (get : σ → Nat → β) (g : Nat → β → β) (body : Nat → σ → σ)
    (hother : ∀ i s k, k ≠ i → get (body i s) k = get s k)
    (hown : ∀ i s, get (body i s) i = g i (get s i))
    (sched : Sched) (hs : sched.Admissible) (lo hi : Nat) (st : σ) (k : Nat) :
    get (parRange sched lo hi st body) k = if lo ≤ k ∧ k < hi then g k (get st k) else get st k := by
  unfold parRange
  have hp := hs (idxRange lo hi)
  rw [foldIdx_owned get g body hother hown _ (hp.nodup_iff.2 (nodup_idxRange lo hi))]
  exact ite_iff_congr (hp.mem_iff.trans mem_idxRange)

theorem sched_id_admissible : Sched.Admissible (id : Sched) := fun _ => List.Perm.refl _

/-- a sequential loop is a `prange` run in order: its iterations own their cells just the same -/
theorem forRange_owned (get : σ → Nat → β) (g : Nat → β → β) (body : Nat → σ → σ)
    (hother : ∀ i s k, k ≠ i → get (body i s) k = get s k) (hown : ∀ i s, get (body i s) i = g i (get s i))
    (lo hi : Nat) (st : σ) (k : Nat) :
    get (forRange lo hi st body) k = if lo ≤ k ∧ k < hi then g k (get st k) else get st k :=
  parRange_owned get g body hother hown id sched_id_admissible lo hi st k

/-- under ownership, every admissible schedule gives the sequential result -/
theorem parRange_sched_indep (get : σ → Nat → β) (g : Nat → β → β) (body : Nat → σ → σ)
    (hother : ∀ i s k, k ≠ i → get (body i s) k = get s k)
    (hown : ∀ i s, get (body i s) i = g i (get s i))
    (sched : Sched) (hs : sched.Admissible) (lo hi : Nat) (st : σ) :
    get (parRange sched lo hi st body) = get (parRange id lo hi st body) := by
  funext k
  rw [parRange_owned get g body hother hown sched hs, parRange_owned get g body hother hown id sched_id_admissible]

/-! ### loops with `break` -/

/-- once `break` has been executed the remaining iterations do nothing -/
theorem foldl_brk_stopped (body : Nat → σ → σ × Bool) (l : List Nat) (st : σ) :
    l.foldl (fun (sb : σ × Bool) i => if sb.2 then sb else body i sb.1) (st, true) = (st, true) := by
  induction l with
  | nil => rfl
  | cons i l ih => exact ih

theorem forRangeBrk_first {lo hi : Nat} (h : lo < hi) (st : σ) (body : Nat → σ → σ × Bool) :
    forRangeBrk lo hi st body =
      if (body lo st).2 then (body lo st).1 else forRangeBrk (lo + 1) hi (body lo st).1 body := by
  unfold forRangeBrk
  rw [idxRange_cons h, List.foldl_cons]
  show ((idxRange (lo + 1) hi).foldl _ (body lo st)).1 = _
  cases hb : (body lo st).2
  · rw [if_neg Bool.false_ne_true, show body lo st = ((body lo st).1, false) from Prod.ext rfl hb]
  · rw [if_pos rfl, show body lo st = ((body lo st).1, true) from Prod.ext rfl hb, foldl_brk_stopped]

/-- "first hit" semantics of the direction loop, started at any `lo`: iteration `d` runs `B d` iff `P · d` holds,
    and after a hit the loop stops when `sep` is set.  `P` may read the state, but only parts no `B` changes.  If
    `B d` owns cell `d`, cell `k` is updated iff `P k` and (when `sep`) no earlier index of the range satisfied `P`. -/
theorem forRangeBrk_first_hit_from (get : σ → Nat → β) (P : σ → Nat → Prop) [∀ s, DecidablePred (P s)] (sep : Bool)
    (B : Nat → σ → σ) (g : Nat → β → β)
    (hother : ∀ d s k, k ≠ d → get (B d s) k = get s k)
    (hown : ∀ d s, get (B d s) d = g d (get s d))
    (hP : ∀ d s d', P (B d s) d' ↔ P s d') (k n : Nat) : ∀ (lo : Nat) (st : σ),
    get (forRangeBrk lo (lo + n) st (fun d st => if ¬ P st d then (st, false) else (B d st, sep))) k =
      if lo ≤ k ∧ k < lo + n ∧ P st k ∧ (sep = true → ∀ d', d' < k → lo ≤ d' → ¬ P st d') then g k (get st k)
      else get st k := by
  induction n with
  | zero =>
    intro lo st
    rw [Nat.add_zero, forRangeBrk, idxRange_empty (Nat.le_refl lo), if_neg fun h => Nat.lt_irrefl _ (Nat.lt_of_le_of_lt h.1 h.2.1)]
    rfl
  | succ n ih =>
    intro lo st
    have hlt : lo < lo + 1 + n := Nat.lt_add_right n (Nat.lt_succ_self lo)
    rw [← Nat.succ_add_eq_add_succ, forRangeBrk_first hlt]
    by_cases hPl : P st lo
    · -- a hit at `lo`: cell `lo` is updated; with `sep` the loop stops, else it goes on with `P` unchanged
      rw [if_neg (not_not_intro hPl)]
      cases sep
      · rw [if_neg Bool.false_ne_true, ih]
        by_cases hk : k = lo
        · subst hk
          rw [if_neg fun h => Nat.not_succ_le_self k h.1, hown, if_pos ⟨Nat.le_refl k, hlt, hPl, nofun⟩]
        · rw [hother _ _ _ hk]
          exact ite_iff_congr ⟨fun h => ⟨Nat.le_of_succ_le h.1, h.2.1, (hP _ _ _).1 h.2.2.1, nofun⟩,
            fun h => ⟨Nat.lt_of_le_of_ne h.1 (Ne.symm hk), h.2.1, (hP _ _ _).2 h.2.2.1, nofun⟩⟩
      · rw [if_pos rfl]
        by_cases hk : k = lo
        · subst hk
          rw [hown, if_pos ⟨Nat.le_refl k, hlt, hPl, fun _ d' h1 h2 => absurd h1 (Nat.not_lt.2 h2)⟩]
        · rw [hother _ _ _ hk,
            if_neg fun h => h.2.2.2 rfl lo (Nat.lt_of_le_of_ne h.1 (Ne.symm hk)) (Nat.le_refl lo) hPl]
    · -- no hit at `lo`: nothing happens, and `lo` can be left out of the range
      rw [if_pos hPl, if_neg Bool.false_ne_true, ih]
      exact ite_iff_congr ⟨fun h => ⟨Nat.le_of_succ_le h.1, h.2.1, h.2.2.1, fun hs d' h5 h6 hp =>
          (Nat.eq_or_lt_of_le h6).elim (fun e => hPl (e ▸ hp)) fun h7 => h.2.2.2 hs d' h5 h7 hp⟩,
        fun h => ⟨Nat.lt_of_le_of_ne h.1 fun e => hPl (e ▸ h.2.2.1), h.2.1, h.2.2.1,
          fun hs d' h5 h6 => h.2.2.2 hs d' h5 (Nat.le_of_succ_le h6)⟩⟩

theorem forRangeBrk_first_hit (get : σ → Nat → β) (P : σ → Nat → Prop) [∀ s, DecidablePred (P s)] (sep : Bool)
    (B : Nat → σ → σ) (g : Nat → β → β)
    (hother : ∀ d s k, k ≠ d → get (B d s) k = get s k)
    (hown : ∀ d s, get (B d s) d = g d (get s d))
    (hP : ∀ d s d', P (B d s) d' ↔ P s d') (D : Nat) (st : σ) (k : Nat) :
    get (forRangeBrk 0 D st (fun d st => if ¬ P st d then (st, false) else (B d st, sep))) k =
      if k < D ∧ P st k ∧ (sep = true → ∀ d', d' < k → ¬ P st d') then g k (get st k) else get st k := by
  have h := forRangeBrk_first_hit_from get P sep B g hother hown hP k D 0 st
  simpa only [Nat.zero_add, Nat.zero_le, true_and, true_implies] using h

/-- a component the `break` loop's iterations do not change -/
theorem forRangeBrk_keep (π : σ → τ) (body : Nat → σ → σ × Bool) (h : ∀ i s, π (body i s).1 = π s)
    (lo hi : Nat) (st : σ) : π (forRangeBrk lo hi st body) = π st :=
  List.foldlRecOn (motive := fun sb : σ × Bool => π sb.1 = π st) _ _ rfl fun sb hsb i _ => by
    split
    · exact hsb
    · exact (h i sb.1).trans hsb

end GSV
