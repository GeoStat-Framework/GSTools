/-
  Positive semi-definite kernels and functions: the closure toolkit behind C02.
  `IsPSDKernel K`: every finite matrix `[K (x i) (x j)]` is `Matrix.PosSemidef`; `IsPSDFun ρ := IsPSDKernel fun x y => ρ (x - y)`.
  Closure (pull-back, scaling, sums, Schur products, pointwise limits, entrywise `exp`, integrals), conditionally negative
  definite kernels with Schoenberg's `exp (−ψ)`, and the Bernstein representation of `s ^ β`.
-/
import Mathlib.LinearAlgebra.Matrix.PosDef
import Mathlib.Analysis.Matrix.Order
import Mathlib.Analysis.InnerProductSpace.GramMatrix
import Mathlib.Analysis.SpecialFunctions.Exponential
import Mathlib.Analysis.SpecialFunctions.Trigonometric.Basic
import Mathlib.Topology.Algebra.Order.LiminfLimsup
import Mathlib.MeasureTheory.Integral.Bochner.Basic
import Mathlib.MeasureTheory.Integral.IntegralEqImproper
import Mathlib.Analysis.SpecialFunctions.ImproperIntegrals
import Mathlib.Analysis.SpecialFunctions.Integrability.Basic

namespace GSV.Lemmas.Psd
open Matrix

/-- `K` is a positive semi-definite kernel on `X`: all its finite matrices are PSD. -/
def IsPSDKernel {X : Type*} (K : X → X → ℝ) : Prop :=
  ∀ (n : ℕ) (x : Fin n → X), (Matrix.of fun i j => K (x i) (x j)).PosSemidef

/-- `ρ` is a positive semi-definite (stationary covariance) function: `[ρ (x i - x j)]` is PSD for every
    finite family of points. -/
def IsPSDFun {E : Type*} [Sub E] (ρ : E → ℝ) : Prop := IsPSDKernel fun x y => ρ (x - y)

section kernel
variable {X Y : Type*} {K L : X → X → ℝ}

theorem quadForm_eq {n : ℕ} (M : Matrix (Fin n) (Fin n) ℝ) (c : Fin n → ℝ) :
    star c ⬝ᵥ M *ᵥ c = ∑ i, ∑ j, c i * M i j * c j := by
  simp only [dotProduct, mulVec, star_trivial, Finset.mul_sum, mul_assoc]

theorem isPSDKernel_iff :
    IsPSDKernel K ↔ (∀ a b, K a b = K b a) ∧
      ∀ (n : ℕ) (x : Fin n → X) (c : Fin n → ℝ), 0 ≤ ∑ i, ∑ j, c i * K (x i) (x j) * c j := by
  constructor
  · intro h
    refine ⟨fun a b => ?_, fun n x c => ?_⟩
    · exact (congrFun (congrFun (h 2 ![a, b]).isHermitian 0) 1).symm
    · exact (quadForm_eq _ c).symm ▸ (h n x).dotProduct_mulVec_nonneg c
  · rintro ⟨hs, hq⟩ n x
    refine PosSemidef.of_dotProduct_mulVec_nonneg (Matrix.ext fun i j => hs (x j) (x i)) fun c => ?_
    rw [quadForm_eq]
    exact hq n x c

theorem IsPSDKernel.symm (h : IsPSDKernel K) (a b : X) : K a b = K b a := (isPSDKernel_iff.1 h).1 a b

theorem IsPSDKernel.quad_nonneg (h : IsPSDKernel K) {n : ℕ} (x : Fin n → X) (c : Fin n → ℝ) :
    0 ≤ ∑ i, ∑ j, c i * K (x i) (x j) * c j := (isPSDKernel_iff.1 h).2 n x c

theorem IsPSDKernel.posSemidef (h : IsPSDKernel K) {ι : Type*} [Finite ι] (x : ι → X) :
    (Matrix.of fun i j => K (x i) (x j)).PosSemidef := by
  obtain ⟨n, ⟨e⟩⟩ := Finite.exists_equiv_fin ι
  exact (posSemidef_submatrix_equiv e.symm).1 (h n (x ∘ e.symm))

theorem IsPSDKernel.congr (h : IsPSDKernel K) (e : ∀ a b, L a b = K a b) : IsPSDKernel L :=
  (funext₂ e : L = K) ▸ h

/-- pull-back along an arbitrary map (re-indexing of the points) -/
theorem IsPSDKernel.comp (h : IsPSDKernel K) (f : Y → X) : IsPSDKernel fun a b => K (f a) (f b) :=
  fun n x => h n (f ∘ x)

theorem IsPSDKernel.of_feature (φ : X → ℝ) : IsPSDKernel fun a b => φ a * φ b :=
  fun n x => posSemidef_vecMulVec_self_star fun i : Fin n => φ (x i)

theorem IsPSDKernel.one : IsPSDKernel fun (_ _ : X) => (1 : ℝ) := by
  simpa using IsPSDKernel.of_feature fun _ : X => (1 : ℝ)

theorem IsPSDKernel.smul (h : IsPSDKernel K) {c : ℝ} (hc : 0 ≤ c) : IsPSDKernel fun a b => c * K a b :=
  fun n x => by
    convert (h n x).smul hc using 1
    ext i j; simp

theorem IsPSDKernel.add (h : IsPSDKernel K) (h' : IsPSDKernel L) : IsPSDKernel fun a b => K a b + L a b :=
  fun n x => (h n x).add (h' n x)

theorem IsPSDKernel.sum {ι : Type*} (s : Finset ι) {F : ι → X → X → ℝ} (h : ∀ i ∈ s, IsPSDKernel (F i)) :
    IsPSDKernel fun a b => ∑ i ∈ s, F i a b := fun n x => by
  convert posSemidef_sum s fun i hi => h i hi n x using 1
  ext j k
  simp only [of_apply, Matrix.sum_apply]

/-- Schur product -/
theorem IsPSDKernel.mul (h : IsPSDKernel K) (h' : IsPSDKernel L) : IsPSDKernel fun a b => K a b * L a b :=
  fun n x => PosSemidef.hadamard (𝕜 := ℝ) (h n x) (h' n x)

theorem IsPSDKernel.pow (h : IsPSDKernel K) (k : ℕ) : IsPSDKernel fun a b => K a b ^ k := by
  induction k with
  | zero => simpa using IsPSDKernel.one
  | succ k ih => simpa [pow_succ] using ih.mul h

/-- conjugation by a diagonal: `φ a · K a b · φ b` -/
theorem IsPSDKernel.conj (h : IsPSDKernel K) (φ : X → ℝ) : IsPSDKernel fun a b => φ a * K a b * φ b :=
  ((IsPSDKernel.of_feature φ).mul h).congr fun _ _ => mul_right_comm _ _ _

theorem IsPSDKernel.inner {E : Type*} [SeminormedAddCommGroup E] [InnerProductSpace ℝ E] :
    IsPSDKernel fun a b : E => (inner ℝ a b : ℝ) := fun _ x => posSemidef_gram (𝕜 := ℝ) x

theorem IsPSDKernel.of_tendsto {F : ℕ → X → X → ℝ} (h : ∀ m, IsPSDKernel (F m))
    (hl : ∀ a b, Filter.Tendsto (fun m => F m a b) Filter.atTop (nhds (K a b))) : IsPSDKernel K := by
  rw [isPSDKernel_iff]
  refine ⟨fun a b => ?_, fun n x c => ?_⟩
  · refine tendsto_nhds_unique (hl a b) ?_
    simpa [fun m => (h m).symm b a] using hl b a
  · refine ge_of_tendsto' (x := Filter.atTop) (f := fun m => ∑ i, ∑ j, c i * F m (x i) (x j) * c j) ?_
      fun m => (h m).quad_nonneg x c
    refine tendsto_finsetSum _ fun i _ => tendsto_finsetSum _ fun j _ => ?_
    exact ((hl (x i) (x j)).const_mul (c i)).mul_const (c j)

/-- entrywise exponential of a PSD kernel is PSD (power series + Schur products + limit) -/
theorem IsPSDKernel.exp (h : IsPSDKernel K) : IsPSDKernel fun a b => Real.exp (K a b) := by
  refine IsPSDKernel.of_tendsto (F := fun m a b => ∑ k ∈ Finset.range m, K a b ^ k / (k.factorial : ℝ)) (fun m => ?_)
    fun a b => ?_
  · exact IsPSDKernel.sum _ fun k _ =>
      ((h.pow k).smul (inv_nonneg.2 (Nat.cast_nonneg _))).congr fun _ _ => div_eq_inv_mul _ _
  · rw [Real.exp_eq_exp_ℝ]
    exact (NormedSpace.expSeries_div_hasSum_exp (K a b)).tendsto_sum_nat

theorem IsPSDKernel.diag_nonneg (h : IsPSDKernel K) (a : X) : 0 ≤ K a a := by
  simpa using (h 1 ![a]).diag_nonneg (i := 0)

theorem IsPSDKernel.sq_le (h : IsPSDKernel K) (a b : X) : K a b ^ 2 ≤ K a a * K b b := by
  -- the quadratic `t ↦ K a a t² + 2 K a b t + K b b` is non-negative, so its discriminant is not positive
  have hd := discrim_le_zero (a := K a a) (b := 2 * K a b) (c := K b b) fun t => by
    have := h.quad_nonneg ![a, b] ![t, 1]
    simp only [Fin.sum_univ_two, Matrix.cons_val_zero, Matrix.cons_val_one, ← h.symm a b] at this
    linarith
  rw [discrim, mul_pow] at hd
  linarith

theorem IsPSDKernel.abs_le (h : IsPSDKernel K) (a b : X) : |K a b| ≤ Real.sqrt (K a a * K b b) :=
  Real.abs_le_sqrt (h.sq_le a b)

/-- Kronecker delta (the nugget kernel) -/
theorem IsPSDKernel.delta [DecidableEq X] : IsPSDKernel fun a b : X => if a = b then (1 : ℝ) else 0 :=
  fun _ x => (PosSemidef.one (n := X) (R := ℝ)).submatrix x

/-- cosine of a difference of "phases": `cos (ω a − ω b) = cos ω a · cos ω b + sin ω a · sin ω b` -/
theorem IsPSDKernel.cos_sub (ω : X → ℝ) : IsPSDKernel fun a b => Real.cos (ω a - ω b) :=
  ((IsPSDKernel.of_feature fun a => Real.cos (ω a)).add (IsPSDKernel.of_feature fun a => Real.sin (ω a))).congr
    fun _ _ => Real.cos_sub _ _

open MeasureTheory in
theorem sum_sum_integral {T : Type*} [MeasurableSpace T] {μ : Measure T} {F : T → X → X → ℝ}
    (hint : ∀ a b, Integrable (fun t => F t a b) μ) {n : ℕ} (x : Fin n → X) (c : Fin n → ℝ) :
    ∑ i, ∑ j, c i * (∫ t, F t (x i) (x j) ∂μ) * c j = ∫ t, ∑ i, ∑ j, c i * F t (x i) (x j) * c j ∂μ := by
  rw [integral_finsetSum _ fun i _ => integrable_finsetSum _ fun j _ =>
    ((hint (x i) (x j)).const_mul (c i)).mul_const (c j)]
  refine Finset.sum_congr rfl fun i _ => ?_
  rw [integral_finsetSum _ fun j _ => ((hint (x i) (x j)).const_mul (c i)).mul_const (c j)]
  refine Finset.sum_congr rfl fun j _ => ?_
  rw [integral_mul_const, integral_const_mul]

open MeasureTheory in
/-- **Mixtures**: an integral of PSD kernels against a (positive) measure is PSD. -/
theorem IsPSDKernel.integral {T : Type*} [MeasurableSpace T] (μ : Measure T) {F : T → X → X → ℝ}
    (hF : ∀ᵐ t ∂μ, IsPSDKernel (F t)) (hint : ∀ a b, Integrable (fun t => F t a b) μ) :
    IsPSDKernel fun a b => ∫ t, F t a b ∂μ := by
  rw [isPSDKernel_iff]
  refine ⟨fun a b => ?_, fun n x c => ?_⟩
  · refine integral_congr_ae ?_
    filter_upwards [hF] with t ht using ht.symm a b
  · rw [sum_sum_integral hint]
    refine integral_nonneg_of_ae ?_
    filter_upwards [hF] with t ht using ht.quad_nonneg x c

end kernel

/-! ### conditionally negative definite kernels and Schoenberg's `exp (−ψ)` -/

/-- `ψ` is conditionally negative definite: symmetric, and `Σ c_i ψ(x_i, x_j) c_j ≤ 0` whenever `Σ c_i = 0`. -/
def IsCNDKernel {X : Type*} (ψ : X → X → ℝ) : Prop :=
  (∀ a b, ψ a b = ψ b a) ∧
    ∀ (n : ℕ) (x : Fin n → X) (c : Fin n → ℝ), ∑ i, c i = 0 → ∑ i, ∑ j, c i * ψ (x i) (x j) * c j ≤ 0

section cnd
variable {X : Type*} {ψ : X → X → ℝ}

theorem IsCNDKernel.psd_centered (h : IsCNDKernel ψ) (x0 : X) :
    IsPSDKernel fun a b => ψ a x0 + ψ x0 b - ψ a b - ψ x0 x0 := by
  rw [isPSDKernel_iff]
  refine ⟨fun a b => by rw [h.1 a x0, h.1 x0 b, h.1 a b]; ring, fun n x c => ?_⟩
  -- `ψ` is non-positive on the points `x0, x` with the coefficients `−Σ c, c`, which sum to zero
  have hc := h.2 (n + 1) (Fin.cons x0 x) (Fin.cons (-(∑ i, c i)) c) (by simp [Fin.sum_univ_succ])
  -- that form and the one of the goal consist of the same four sums, with opposite signs
  simp only [Fin.sum_univ_succ, Fin.cons_zero, Fin.cons_succ, mul_assoc, mul_add, add_mul, mul_sub, sub_mul,
    mul_neg, neg_mul, Finset.sum_neg_distrib, Finset.sum_add_distrib, Finset.sum_sub_distrib, ← Finset.mul_sum,
    ← Finset.sum_mul] at hc ⊢
  linear_combination hc

/-- **Schoenberg**: `exp (−ψ)` is PSD for a conditionally negative definite `ψ`. -/
theorem IsCNDKernel.exp_neg (h : IsCNDKernel ψ) (x0 : X) : IsPSDKernel fun a b => Real.exp (-ψ a b) := by
  have h1 := (h.psd_centered x0).exp
  have h2 := (h1.conj (fun a => Real.exp (-ψ a x0))).smul (Real.exp_pos (ψ x0 x0)).le
  refine h2.congr fun a b => ?_
  rw [← Real.exp_add, ← Real.exp_add, ← Real.exp_add]
  congr 1
  rw [h.1 x0 b]; ring

theorem IsCNDKernel.smul (h : IsCNDKernel ψ) {t : ℝ} (ht : 0 ≤ t) : IsCNDKernel fun a b => t * ψ a b := by
  refine ⟨fun a b => by show t * ψ a b = t * ψ b a; rw [h.1 a b], fun n x c hc => ?_⟩
  have := h.2 n x c hc
  simp only [mul_assoc, mul_left_comm _ t, ← Finset.mul_sum] at this ⊢
  exact mul_nonpos_of_nonneg_of_nonpos ht this

theorem IsPSDKernel.one_sub_cnd {K : X → X → ℝ} (h : IsPSDKernel K) {w : ℝ} (hw : 0 ≤ w) :
    IsCNDKernel fun a b => (1 - K a b) * w := by
  refine ⟨fun a b => by show (1 - K a b) * w = (1 - K b a) * w; rw [h.symm a b], fun n x c hc => ?_⟩
  have hq := mul_nonneg hw (h.quad_nonneg x c)
  -- the form is `w (Σ c)² − w Σ c K c`, and `Σ c = 0`
  simp only [mul_assoc, sub_mul, mul_sub, one_mul, mul_left_comm _ w, Finset.sum_sub_distrib, ← Finset.mul_sum,
    ← Finset.sum_mul, hc] at hq ⊢
  linarith

open MeasureTheory in
theorem IsCNDKernel.integral {T : Type*} [MeasurableSpace T] (μ : Measure T) {F : T → X → X → ℝ}
    (hF : ∀ᵐ t ∂μ, IsCNDKernel (F t)) (hint : ∀ a b, Integrable (fun t => F t a b) μ) :
    IsCNDKernel fun a b => ∫ t, F t a b ∂μ := by
  refine ⟨fun a b => ?_, fun n x c hc => ?_⟩
  · refine integral_congr_ae ?_
    filter_upwards [hF] with t ht using ht.1 a b
  · rw [sum_sum_integral hint]
    refine integral_nonpos_of_ae ?_
    filter_upwards [hF] with t ht using ht.2 n x c hc

end cnd

/-! ### Bernstein representation of `s ^ β`, `0 < β < 1`:  `s^β · I = ∫₀^∞ (1 − e^{−t s}) t^{−1−β} dt` with `I > 0` -/

section bernstein
open MeasureTheory Set

noncomputable def bernsteinG (β s t : ℝ) : ℝ := (1 - Real.exp (-(t * s))) * t ^ (-1 - β)

theorem bernsteinG_nonneg {β s t : ℝ} (hs : 0 ≤ s) (ht : 0 ≤ t) : 0 ≤ bernsteinG β s t := by
  unfold bernsteinG
  refine mul_nonneg ?_ (Real.rpow_nonneg ht _)
  have : Real.exp (-(t * s)) ≤ 1 := Real.exp_le_one_iff.2 (neg_nonpos.2 (mul_nonneg ht hs))
  linarith

theorem measurable_bernsteinG (β s : ℝ) : Measurable (bernsteinG β s) := by
  unfold bernsteinG
  exact (measurable_const.sub (Real.measurable_exp.comp (measurable_id.mul_const s).neg)).mul
    (measurable_id.pow_const _)

theorem bernsteinG_integrableOn {β s : ℝ} (hβ0 : 0 < β) (hβ1 : β < 1) (hs : 0 ≤ s) :
    IntegrableOn (bernsteinG β s) (Ioi 0) := by
  -- dominated by `s t^{-β}` near `0` (as `1 − e^{−ts} ≤ ts`) and by `t^{-1-β}` near `∞` (as `1 − e^{−ts} ≤ 1`)
  have dom : ∀ {S : Set ℝ} {g : ℝ → ℝ}, MeasurableSet S → S ⊆ Ioi 0 → IntegrableOn g S →
      (∀ t ∈ S, bernsteinG β s t ≤ g t) → IntegrableOn (bernsteinG β s) S := fun hS hpos hg hle =>
    Integrable.mono' hg (measurable_bernsteinG β s).aestronglyMeasurable
      (ae_restrict_of_forall_mem hS fun t ht => by
        rw [Real.norm_eq_abs, abs_of_nonneg (bernsteinG_nonneg hs (le_of_lt (hpos ht)))]; exact hle t ht)
  rw [← Ioc_union_Ioi_eq_Ioi zero_le_one]
  refine (dom (g := fun t => s * t ^ (-β)) measurableSet_Ioc Ioc_subset_Ioi_self (((intervalIntegrable_iff_integrableOn_Ioc_of_le zero_le_one).1
    (intervalIntegral.intervalIntegrable_rpow' (neg_lt_neg hβ1))).const_mul s) fun t ht => ?_).union
    (dom (g := fun t => t ^ (-1 - β)) measurableSet_Ioi (Ioi_subset_Ioi zero_le_one) (integrableOn_Ioi_rpow_of_lt (sub_lt_self _ hβ0) zero_lt_one)
      fun t ht => ?_)
  · have ht0 : 0 < t := ht.1
    have h1 : 1 - Real.exp (-(t * s)) ≤ t * s := sub_le_comm.1 (Real.one_sub_le_exp_neg _)
    calc bernsteinG β s t ≤ t * s * t ^ (-1 - β) :=
          mul_le_mul_of_nonneg_right h1 (Real.rpow_nonneg ht0.le _)
      _ = s * t ^ (-β) := by
          rw [sub_eq_add_neg, Real.rpow_add ht0, Real.rpow_neg_one, mul_comm t s, mul_assoc, mul_inv_cancel_left₀ ht0.ne']
  · have ht0 : (0:ℝ) < t := zero_lt_one.trans ht
    exact (mul_le_mul_of_nonneg_right (sub_le_self _ (Real.exp_pos _).le) (Real.rpow_nonneg ht0.le _)).trans_eq
      (one_mul _)

noncomputable def bernsteinI (β : ℝ) : ℝ := ∫ t in Ioi (0:ℝ), bernsteinG β 1 t

theorem bernsteinI_pos {β : ℝ} (hβ0 : 0 < β) (hβ1 : β < 1) : 0 < bernsteinI β := by
  -- a non-negative integrand that is positive on all of `(0, ∞)`
  have hpos : ∀ t ∈ Ioi (0:ℝ), 0 < bernsteinG β 1 t := fun t (ht : 0 < t) =>
    mul_pos (sub_pos.2 (Real.exp_lt_one_iff.2 (by linarith))) (Real.rpow_pos_of_pos ht _)
  unfold bernsteinI
  rw [setIntegral_pos_iff_support_of_nonneg_ae (ae_restrict_of_forall_mem measurableSet_Ioi fun t ht => (hpos t ht).le)
    (bernsteinG_integrableOn hβ0 hβ1 zero_le_one)]
  refine lt_of_lt_of_le ?_ (measure_mono fun t ht => ⟨(hpos t ht).ne', ht⟩)
  simp

theorem bernstein_integral {β s : ℝ} (hβ0 : 0 < β) (hs : 0 ≤ s) :
    ∫ t in Ioi (0:ℝ), bernsteinG β s t = s ^ β * bernsteinI β := by
  rcases hs.eq_or_lt with rfl | hs0
  · simp [bernsteinG, Real.zero_rpow hβ0.ne']
  · have h := integral_comp_mul_left_Ioi (fun u => bernsteinG β 1 u) 0 hs0
    simp only [mul_zero, smul_eq_mul] at h
    -- bernsteinG β 1 (s t) = s^(-1-β) · bernsteinG β s t  on t > 0
    have hcongr : ∫ t in Ioi (0:ℝ), bernsteinG β 1 (s * t) = ∫ t in Ioi (0:ℝ), s ^ (-1 - β) * bernsteinG β s t := by
      refine setIntegral_congr_fun measurableSet_Ioi fun t (ht : 0 < t) => ?_
      unfold bernsteinG
      rw [Real.mul_rpow hs0.le ht.le, mul_one, mul_comm s t]; ring
    rw [hcongr, integral_const_mul] at h
    refine mul_left_cancel₀ (Real.rpow_pos_of_pos hs0 (-1 - β)).ne' ?_
    rw [h, bernsteinI, ← mul_assoc, ← Real.rpow_add hs0, sub_add_cancel, Real.rpow_neg_one]

end bernstein

end GSV.Lemmas.Psd
