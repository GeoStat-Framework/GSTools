/-
  Lemmas behind C18 about the executable model `GSV.Model.Norm`.  At `ℝ` every normalizer is an increasing bijection with
  an explicit inverse (`IncrBij`), built from the Box–Cox core `T c l u = if c then log u else (u^l - 1)/l` on `(0,∞)`:
  directly, after `· + shift` or `exp`, or glued two-sidedly at `0` (`G`).  The bookkeeping of `Normalizer.fit` is on any carrier.
-/
import GSV.RealInst
import GSV.Model.Norm
import Mathlib.Analysis.SpecialFunctions.Pow.Deriv
import Mathlib.Analysis.SpecialFunctions.Log.Deriv
import Mathlib.Analysis.SpecialFunctions.ExpDeriv
import Mathlib.Analysis.Calculus.Deriv.Shift
import Mathlib.Tactic.NormNum.OfScientific
import Mathlib.Tactic.FieldSimp
import Mathlib.Tactic.Linarith
import Mathlib.Tactic.Ring

namespace GSV.Lemmas.Norm
open Real Set

/-! ### increasing bijections with an explicit inverse -/

/-- `f` maps `A` increasingly onto `B`, and `g` inverts it -/
structure IncrBij (A B : ℝ → Prop) (f g : ℝ → ℝ) : Prop where
  map : ∀ {x}, A x → B (f x)
  left_inv : ∀ {x}, A x → g (f x) = x
  inv_map : ∀ {y}, B y → A (g y)
  right_inv : ∀ {y}, B y → f (g y) = y
  lt : ∀ {x x'}, A x → A x' → x < x' → f x < f x'

section IncrBij
variable {A B A' B' : ℝ → Prop} {f g f' g' φ ψ : ℝ → ℝ}

theorem IncrBij.le (i : IncrBij A B f g) {x x' : ℝ} (hx : A x) (hx' : A x') (h : x ≤ x') : f x ≤ f x' := by
  rcases h.eq_or_lt with rfl | h
  · exact le_rfl
  · exact (i.lt hx hx' h).le

theorem IncrBij.symm (i : IncrBij A B f g) : IncrBij B A g f where
  map := i.inv_map
  left_inv := i.right_inv
  inv_map := i.map
  right_inv := i.left_inv
  lt hy hy' h := by
    refine lt_of_not_ge fun hge => h.not_ge ?_
    have := i.le (i.inv_map hy') (i.inv_map hy) hge
    rwa [i.right_inv hy', i.right_inv hy] at this

theorem IncrBij.comp (i : IncrBij A B f g) (j : IncrBij A' A φ ψ) : IncrBij A' B (fun x => f (φ x)) (fun y => ψ (g y)) where
  map hx := i.map (j.map hx)
  left_inv hx := by rw [i.left_inv (j.map hx), j.left_inv hx]
  inv_map hy := j.inv_map (i.inv_map hy)
  right_inv hy := by rw [j.right_inv (i.inv_map hy), i.right_inv hy]
  lt hx hx' hxx := i.lt (j.map hx) (j.map hx') (j.lt hx hx' hxx)

/-- the same bijection under other names; the inverse need only agree on the image -/
theorem IncrBij.congr (i : IncrBij A B f g) (hA : ∀ x, A' x ↔ A x) (hB : ∀ y, B' y ↔ B y) (hf : ∀ x, f' x = f x)
    (hg : ∀ y, B y → g' y = g y) : IncrBij A' B' f' g' where
  map hx := by rw [hB, hf]; exact i.map ((hA _).mp hx)
  left_inv hx := by rw [hf, hg _ (i.map ((hA _).mp hx)), i.left_inv ((hA _).mp hx)]
  inv_map hy := by rw [hA, hg _ ((hB _).mp hy)]; exact i.inv_map ((hB _).mp hy)
  right_inv hy := by rw [hf, hg _ ((hB _).mp hy), i.right_inv ((hB _).mp hy)]
  lt hx hx' hxx := by rw [hf, hf]; exact i.lt ((hA _).mp hx) ((hA _).mp hx') hxx

theorem incrBij_add (s : ℝ) : IncrBij (fun x => 0 < x + s) (0 < ·) (· + s) (· - s) :=
  ⟨id, fun _ => add_sub_cancel_right _ s, fun h => by rwa [sub_add_cancel], fun _ => sub_add_cancel _ s,
    fun _ _ h => by linarith⟩

theorem incrBij_exp : IncrBij (fun _ => True) (0 < ·) Real.exp Real.log :=
  ⟨fun _ => Real.exp_pos _, fun _ => Real.log_exp _, fun _ => trivial, Real.exp_log, fun _ _ h => Real.exp_lt_exp.mpr h⟩

end IncrBij

/-! ### the Box–Cox core -/

/-- `c` = "the code took the `isclose` branch" -/
noncomputable def T (c : Bool) (l u : ℝ) : ℝ := if c then Real.log u else (u ^ l - 1) / l
noncomputable def Tinv (c : Bool) (l y : ℝ) : ℝ := if c then Real.exp y else (1 + y * l) ^ (1 / l)
/-- the image of `T c l` on `(0,∞)` -/
def D (c : Bool) (l y : ℝ) : Prop := c = true ∨ 0 < 1 + y * l

theorem T_true (l : ℝ) : T true l = Real.log := by funext u; simp [T]
theorem T_false (l : ℝ) : T false l = fun u => (u ^ l - 1) / l := by funext u; simp [T]

theorem T_one (c : Bool) (l : ℝ) : T c l 1 = 0 := by
  cases c <;> simp [T]

theorem Tinv_zero (c : Bool) (l : ℝ) : Tinv c l 0 = 1 := by
  cases c <;> simp [Tinv]

theorem D_zero (c : Bool) (l : ℝ) : D c l 0 := Or.inr (by rw [zero_mul, add_zero]; exact one_pos)

theorem D_of_nonneg (c : Bool) {l y : ℝ} (hl : 0 ≤ l) (hy : 0 ≤ y) : D c l y :=
  Or.inr (add_pos_of_pos_of_nonneg one_pos (mul_nonneg hy hl))

/-- the power branch: `u ↦ (u^l - 1)/l` on `(0,∞)` -/
theorem incrBij_pow {l : ℝ} (hl : l ≠ 0) :
    IncrBij (0 < ·) (fun y => 0 < 1 + y * l) (fun u => (u ^ l - 1) / l) (fun y => (1 + y * l) ^ (1 / l)) where
  map hu := by rw [div_mul_cancel₀ _ hl, add_sub_cancel]; exact Real.rpow_pos_of_pos hu _
  left_inv hu := by
    rw [div_mul_cancel₀ _ hl, add_sub_cancel, ← Real.rpow_mul hu.le, mul_one_div_cancel hl, Real.rpow_one]
  inv_map hy := Real.rpow_pos_of_pos hy _
  right_inv hy := by
    rw [← Real.rpow_mul hy.le, one_div_mul_cancel hl, Real.rpow_one, add_sub_cancel_left, mul_div_cancel_right₀ _ hl]
  lt hu _ huv := by
    rcases lt_or_gt_of_ne hl with hneg | hpos
    · exact div_lt_div_of_neg_of_lt hneg (sub_lt_sub_right (Real.rpow_lt_rpow_of_neg hu huv hneg) 1)
    · exact div_lt_div_of_pos_right (sub_lt_sub_right (Real.rpow_lt_rpow hu.le huv hpos) 1) hpos

section T
variable {c : Bool} {l : ℝ} (h : c = false → l ≠ 0)
include h

theorem incrBij_T : IncrBij (0 < ·) (D c l) (T c l) (Tinv c l) := by
  cases c
  · exact (incrBij_pow (h rfl)).congr (fun _ => Iff.rfl) (fun _ => or_iff_right Bool.false_ne_true)
      (fun _ => if_neg Bool.false_ne_true) fun _ _ => if_neg Bool.false_ne_true
  · exact incrBij_exp.symm.congr (fun _ => Iff.rfl) (fun _ => iff_true_intro (Or.inl rfl)) (fun _ => if_pos rfl)
      fun _ _ => if_pos rfl

theorem T_lt {u v : ℝ} (hu : 0 < u) (huv : u < v) : T c l u < T c l v :=
  (incrBij_T h).lt hu (hu.trans huv) huv

/-! `T` vanishes at `1`, so it takes `[1,∞)` onto the non-negative part of its image (used for the two-sided transforms). -/

theorem T_pos {u : ℝ} (hu : 1 < u) : 0 < T c l u := by
  simpa only [T_one] using T_lt h one_pos hu

theorem T_nonneg {u : ℝ} (hu : 1 ≤ u) : 0 ≤ T c l u := by
  simpa only [T_one] using (incrBij_T h).le one_pos (one_pos.trans_le hu) hu

theorem one_le_Tinv {y : ℝ} (hy : D c l y) (h0 : 0 ≤ y) : 1 ≤ Tinv c l y := by
  simpa only [Tinv_zero] using (incrBij_T h).symm.le (D_zero c l) hy h0

theorem one_lt_Tinv {y : ℝ} (hy : D c l y) (h0 : 0 < y) : 1 < Tinv c l y := by
  simpa only [Tinv_zero] using (incrBij_T h).symm.lt (D_zero c l) hy h0

/-- the derivative reported by the code, `u^(l-1)`, is the derivative of `T` when the `isclose` branch is
    only taken at `l = 0` exactly -/
theorem T_hasDerivAt {u : ℝ} (e : c = true → l = 0) (hu : 0 < u) : HasDerivAt (T c l) (u ^ (l - 1)) u := by
  cases c with
  | true =>
    rw [T_true, e rfl, zero_sub, Real.rpow_neg_one]
    exact Real.hasDerivAt_log hu.ne'
  | false =>
    rw [T_false]
    have := ((Real.hasDerivAt_rpow_const (p := l) (Or.inl hu.ne')).sub_const 1).div_const l
    rwa [mul_div_cancel_left₀ _ (h rfl)] at this

end T

/-- inside the `isclose` band the code normalises with `log` but still reports `u^(l-1)`:
    reported = true derivative × `u^l` -/
theorem T_hasDerivAt_band {l u : ℝ} (hu : 0 < u) : HasDerivAt (T true l) (u ^ (l - 1) / u ^ l) u := by
  rw [T_true, Real.rpow_sub_one hu.ne', div_div_cancel_left' (Real.rpow_pos_of_pos hu l).ne']
  exact Real.hasDerivAt_log hu.ne'

/-! ### two-sided transforms (Yeo–Johnson, Modulus) -/

theorem hasDerivAt_ite {g h : ℝ → ℝ} {a x d : ℝ} (hgh : g a = h a) (hg : a ≤ x → HasDerivAt g d x)
    (hh : x ≤ a → HasDerivAt h d x) : HasDerivAt (fun z => if a ≤ z then g z else h z) d x := by
  have fh : ∀ z, z ≤ a → (if a ≤ z then g z else h z) = h z := fun z hz => by
    rcases hz.lt_or_eq with hz | rfl
    · exact if_neg (not_le.mpr hz)
    · rw [if_pos le_rfl, hgh]
  rcases lt_trichotomy x a with hx | rfl | hx
  · exact ((hh hx.le).hasDerivWithinAt (s := Iic a) |>.congr fh (fh x hx.le)).hasDerivAt (Iic_mem_nhds hx)
  · rw [← hasDerivWithinAt_univ, ← Iic_union_Ici (a := x)]
    exact ((hh le_rfl).hasDerivWithinAt.congr fh (fh x le_rfl)).union
      ((hg le_rfl).hasDerivWithinAt.congr (fun z hz => if_pos hz) (if_pos le_rfl))
  · exact ((hg hx.le).hasDerivWithinAt (s := Ici a) |>.congr (fun z hz => if_pos hz) (if_pos hx.le)).hasDerivAt
      (Ici_mem_nhds hx)

/-- `T c l (x+1)` on `x ≥ 0`, `-T c' l' (1-x)` on `x < 0` -/
noncomputable def G (c : Bool) (l : ℝ) (c' : Bool) (l' x : ℝ) : ℝ :=
  if 0 ≤ x then T c l (x + 1) else -T c' l' (1 - x)
noncomputable def Ginv (c : Bool) (l : ℝ) (c' : Bool) (l' y : ℝ) : ℝ :=
  if 0 ≤ y then Tinv c l y - 1 else 1 - Tinv c' l' (-y)
/-- the image of `G` -/
def GD (c : Bool) (l : ℝ) (c' : Bool) (l' y : ℝ) : Prop :=
  (0 ≤ y → D c l y) ∧ (y < 0 → D c' l' (-y))
/-- the derivative the code reports for `G` -/
noncomputable def G' (l l' x : ℝ) : ℝ := if 0 ≤ x then (x + 1) ^ (l - 1) else (1 - x) ^ (l' - 1)

theorem GD_of_nonneg (c c' : Bool) {l l' : ℝ} (hl : 0 ≤ l) (hl' : 0 ≤ l') (y : ℝ) : GD c l c' l' y :=
  ⟨D_of_nonneg c hl, fun hy => D_of_nonneg c' hl' (neg_nonneg.mpr hy.le)⟩

theorem G'_of_nonpos {l l' x : ℝ} (hx : x ≤ 0) : G' l l' x = (1 - x) ^ (l' - 1) := by
  rcases hx.lt_or_eq with hx | rfl
  · exact if_neg (not_le.mpr hx)
  · rw [G', if_pos le_rfl, zero_add, sub_zero, Real.one_rpow, Real.one_rpow]

theorem G'_pos (l l' x : ℝ) : 0 < G' l l' x := by
  unfold G'; split
  · exact Real.rpow_pos_of_pos (by linarith) _
  · exact Real.rpow_pos_of_pos (by linarith) _

section G
variable {c c' : Bool} {l l' : ℝ} (h : c = false → l ≠ 0) (h' : c' = false → l' ≠ 0)
include h h'

omit h' in
theorem G_nonneg {x : ℝ} (hx : 0 ≤ x) : 0 ≤ G c l c' l' x := by
  rw [G, if_pos hx]; exact T_nonneg h (le_add_of_nonneg_left hx)

omit h in
theorem G_neg {x : ℝ} (hx : x < 0) : G c l c' l' x < 0 := by
  rw [G, if_neg (not_le.mpr hx)]; exact neg_neg_of_pos (T_pos h' (by linarith))

theorem G_image (x : ℝ) : GD c l c' l' (G c l c' l' x) := by
  rcases le_or_gt 0 x with hx | hx
  · refine ⟨fun _ => ?_, fun hy => absurd (G_nonneg h hx) (not_le.mpr hy)⟩
    rw [G, if_pos hx]; exact (incrBij_T h).map (add_pos_of_nonneg_of_pos hx one_pos)
  · refine ⟨fun hy => absurd (G_neg h' hx) (not_lt.mpr hy), fun _ => ?_⟩
    rw [G, if_neg (not_le.mpr hx), neg_neg]; exact (incrBij_T h').map (sub_pos.mpr (hx.trans one_pos))

theorem Ginv_G (x : ℝ) : Ginv c l c' l' (G c l c' l' x) = x := by
  rcases le_or_gt 0 x with hx | hx
  · rw [Ginv, if_pos (G_nonneg h hx), G, if_pos hx, (incrBij_T h).left_inv (add_pos_of_nonneg_of_pos hx one_pos), add_sub_cancel_right]
  · rw [Ginv, if_neg (not_le.mpr (G_neg h' hx)), G, if_neg (not_le.mpr hx), neg_neg,
      (incrBij_T h').left_inv (sub_pos.mpr (hx.trans one_pos)), sub_sub_cancel]

theorem G_Ginv {y : ℝ} (hy : GD c l c' l' y) : G c l c' l' (Ginv c l c' l' y) = y := by
  rcases le_or_gt 0 y with h0 | h0
  · have hd := hy.1 h0
    rw [Ginv, if_pos h0, G, if_pos (sub_nonneg.mpr (one_le_Tinv h hd h0)), sub_add_cancel, (incrBij_T h).right_inv hd]
  · have hd := hy.2 h0
    rw [Ginv, if_neg (not_le.mpr h0), G, if_neg (not_le.mpr (sub_neg.mpr (one_lt_Tinv h' hd (neg_pos.mpr h0)))),
      sub_sub_cancel, (incrBij_T h').right_inv hd, neg_neg]

theorem G_strictMono : StrictMono (G c l c' l') := by
  intro x x' hxx
  rcases le_or_gt 0 x with hx | hx
  · rw [G, G, if_pos hx, if_pos (hx.trans hxx.le)]
    exact T_lt h (add_pos_of_nonneg_of_pos hx one_pos) (add_lt_add_left hxx 1)
  · rcases le_or_gt 0 x' with hx' | hx'
    · exact lt_of_lt_of_le (G_neg h' hx) (G_nonneg h hx')
    · rw [G, G, if_neg (not_le.mpr hx), if_neg (not_le.mpr hx')]
      exact neg_lt_neg (T_lt h' (sub_pos.mpr (hx'.trans one_pos)) (sub_lt_sub_left hxx 1))

theorem incrBij_G : IncrBij (fun _ => True) (GD c l c' l') (G c l c' l') (Ginv c l c' l') :=
  ⟨fun _ => G_image h h' _, fun _ => Ginv_G h h' _, fun _ => trivial, G_Ginv h h', fun _ _ hxx => G_strictMono h h' hxx⟩

/-- at `0` both one-sided derivatives are `1` -/
theorem G_hasDerivAt {x : ℝ} (e : 0 ≤ x → c = true → l = 0) (e' : x ≤ 0 → c' = true → l' = 0) :
    HasDerivAt (G c l c' l') (G' l l' x) x := by
  refine hasDerivAt_ite (g := fun z => T c l (z + 1)) (h := fun z => -T c' l' (1 - z))
    (by simp only [zero_add, sub_zero, T_one, neg_zero]) (fun hx => ?_) (fun hx => ?_)
  · rw [G', if_pos hx]
    exact HasDerivAt.comp_add_const x 1 (T_hasDerivAt h (e hx) (add_pos_of_nonneg_of_pos hx one_pos))
  · rw [G'_of_nonpos hx]
    have := (HasDerivAt.comp_const_sub 1 x (T_hasDerivAt h' (e' hx) (sub_pos.mpr (hx.trans_lt one_pos)))).neg
    rwa [neg_neg] at this

end G

/-! ### the model at `ℝ`: `isclose` bands, `np.sign`, range tests -/
open GSV.Model.Norm

theorem isclose_iff (a b : ℝ) : isclose a b = true ↔ |a - b| ≤ 1e-8 + 1e-5 * |b| := by
  simp [isclose]

theorem c0_iff (p : Par ℝ) : c0 p = true ↔ |p.lmbda| ≤ 1e-8 := by
  rw [c0, isclose_iff, Nat.cast_zero, sub_zero, abs_zero, mul_zero, add_zero]

/-- `1e-8 + 1e-5·|2|` -/
theorem c2_iff (p : Par ℝ) : c2 p = true ↔ |p.lmbda - 2| ≤ 1e-8 + 2e-5 := by
  rw [c2, isclose_iff, Nat.cast_ofNat, abs_two]; norm_num

theorem c0_of_eq {p : Par ℝ} (h : p.lmbda = 0) : c0 p = true := by
  rw [c0_iff, h]; norm_num

theorem c2_of_eq {p : Par ℝ} (h : p.lmbda = 2) : c2 p = true := by
  rw [c2_iff, h]; norm_num

theorem lmbda_ne_zero {p : Par ℝ} (h : c0 p = false) : p.lmbda ≠ 0 := by
  intro e; rw [c0_of_eq e] at h; cases h

theorem two_sub_lmbda_ne_zero {p : Par ℝ} (h : c2 p = false) : 2 - p.lmbda ≠ 0 := by
  intro e; have : p.lmbda = 2 := by linarith
  rw [c2_of_eq this] at h; cases h

theorem sgn_pos {x : ℝ} (h : 0 < x) : sgn x = 1 := by simp [sgn, h]
theorem sgn_neg {x : ℝ} (h : x < 0) : sgn x = -1 := by simp [sgn, h, not_lt.mpr h.le]
theorem sgn_zero : sgn (0:ℝ) = 0 := by simp [sgn]

/-- `sgn x · F |x|` is the odd extension of `F` -/
theorem sgn_mul_abs {F : ℝ → ℝ} (h0 : F 0 = 0) (x : ℝ) : sgn x * F |x| = if 0 ≤ x then F x else -F (-x) := by
  rcases lt_trichotomy x 0 with hx | rfl | hx
  · rw [sgn_neg hx, if_neg (not_le.mpr hx), abs_of_neg hx, neg_one_mul]
  · rw [sgn_zero, zero_mul, if_pos le_rfl, h0]
  · rw [sgn_pos hx, if_pos hx.le, abs_of_pos hx, one_mul]

theorem valid_real (r : Rng ℝ) (x : ℝ) :
    valid r x = true ↔ (∀ l, r.lo = some l → l < x) ∧ (∀ h, r.hi = some h → x < h) := by
  rcases r with ⟨_ | l, _ | h⟩ <;> simp [valid, inRange, isinf]

theorem valid_full (x : ℝ) : valid (⟨none, none⟩ : Rng ℝ) x = true := by simp [valid_real]
theorem valid_lo (l x : ℝ) : valid ⟨some l, none⟩ x = true ↔ l < x := by simp [valid_real]
theorem valid_hi (h x : ℝ) : valid ⟨none, some h⟩ x = true ↔ x < h := by simp [valid_real]

/-- the `denormalize_range` text that BoxCox, BoxCoxShift and Manly share describes exactly `D` -/
theorem valid_denorm {k : Kind} (hk : k = .boxCox ∨ k = .boxCoxShift ∨ k = .manly) (p : Par ℝ) (y : ℝ) :
    valid (denormRange k p) y = true ↔ D (c0 p) p.lmbda y := by
  have hr : denormRange k p = denormRange .boxCox p := by
    rcases hk with rfl | rfl | rfl <;> rfl
  rw [hr, denormRange, D, Nat.cast_zero, Nat.cast_one, ← neg_div]
  cases hc : c0 p
  · rw [if_neg Bool.false_ne_true, or_iff_right Bool.false_ne_true]
    rcases lt_or_gt_of_ne (lmbda_ne_zero hc) with hneg | hpos
    · rw [if_pos hneg, valid_hi, lt_div_iff_of_neg hneg, neg_lt_iff_pos_add']
    · rw [if_neg hpos.not_gt, valid_lo, div_lt_iff₀ hpos, neg_lt_iff_pos_add']
  · exact iff_of_true (valid_full y) (Or.inl rfl)

/-! ### the classes in terms of `T` / `Tinv` (after `· + shift` for BoxCoxShift, after `exp` for Manly) and of `G` / `Ginv`

`_normalize`, `_denormalize`, `_derivative` and the valid input range, class by class. -/

theorem normRaw_identity (p : Par ℝ) (x : ℝ) : normRaw .identity p x = x := rfl
theorem denormRaw_identity (p : Par ℝ) (x : ℝ) : denormRaw .identity p x = x := rfl
theorem derivRaw_identity (p : Par ℝ) (x : ℝ) : derivRaw .identity p x = 1 := by
  simp only [derivRaw]; norm_num

theorem normRaw_logNormal (p : Par ℝ) (x : ℝ) : normRaw .logNormal p x = T true 0 x := by
  rw [T_true]; rfl
theorem denormRaw_logNormal (p : Par ℝ) (y : ℝ) : denormRaw .logNormal p y = Tinv true 0 y := by
  rw [Tinv, if_pos rfl]; rfl
theorem derivRaw_logNormal (p : Par ℝ) (x : ℝ) : derivRaw .logNormal p x = x ^ ((0:ℝ) - 1) := by simp [derivRaw]
theorem valid_norm_logNormal (p : Par ℝ) (x : ℝ) : valid (normRange .logNormal p) x = true ↔ 0 < x := by
  simp [normRange, valid_real]

theorem normRaw_boxCox (p : Par ℝ) (x : ℝ) : normRaw .boxCox p x = T (c0 p) p.lmbda x := by
  simp only [normRaw, T, Nat.cast_one, rpow_real, log_real]
theorem denormRaw_boxCox (p : Par ℝ) (y : ℝ) : denormRaw .boxCox p y = Tinv (c0 p) p.lmbda y := by
  simp only [denormRaw, Tinv, Nat.cast_one, rpow_real, exp_real]
theorem derivRaw_boxCox (p : Par ℝ) (x : ℝ) : derivRaw .boxCox p x = x ^ (p.lmbda - 1) := by simp [derivRaw]
theorem valid_norm_boxCox (p : Par ℝ) (x : ℝ) : valid (normRange .boxCox p) x = true ↔ 0 < x := by
  simp [normRange, valid_real]

theorem normRaw_boxCoxShift (p : Par ℝ) (x : ℝ) :
    normRaw .boxCoxShift p x = T (c0 p) p.lmbda (x + p.shift) := by
  simp only [normRaw, T, Nat.cast_one, rpow_real, log_real]
theorem denormRaw_boxCoxShift (p : Par ℝ) (y : ℝ) :
    denormRaw .boxCoxShift p y = Tinv (c0 p) p.lmbda y - p.shift := by
  simp only [denormRaw, Tinv, ite_sub, Nat.cast_one, rpow_real, exp_real]
theorem derivRaw_boxCoxShift (p : Par ℝ) (x : ℝ) :
    derivRaw .boxCoxShift p x = (x + p.shift) ^ (p.lmbda - 1) := by simp [derivRaw]
theorem valid_norm_boxCoxShift (p : Par ℝ) (x : ℝ) :
    valid (normRange .boxCoxShift p) x = true ↔ 0 < x + p.shift :=
  (valid_lo _ x).trans neg_lt_iff_pos_add

theorem normRaw_manly (p : Par ℝ) (x : ℝ) : normRaw .manly p x = T (c0 p) p.lmbda (Real.exp x) := by
  rw [T, Real.log_exp, ← Real.exp_mul]
  simp only [normRaw, Nat.cast_one, exp_real]

/-- only on the image: outside it the code's `log(1 + yλ)/λ` is not `log` of the Box–Cox inverse -/
theorem denormRaw_manly {p : Par ℝ} {y : ℝ} (hy : D (c0 p) p.lmbda y) :
    denormRaw .manly p y = Real.log (Tinv (c0 p) p.lmbda y) := by
  rcases hy with hc | h
  · simp [denormRaw, Tinv, hc]
  · cases hc : c0 p <;> simp [denormRaw, Tinv, hc, Real.log_rpow h, div_eq_inv_mul]

/-- the derivative the code reports, `exp(xλ)`, is the chain rule for `T c λ ∘ exp` -/
theorem derivRaw_manly (p : Par ℝ) (x : ℝ) :
    derivRaw .manly p x = Real.exp x ^ (p.lmbda - 1) * Real.exp x := by
  rw [← Real.rpow_add_one (Real.exp_pos x).ne', sub_add_cancel, ← Real.exp_mul]; rfl

theorem normRaw_yeoJohnson (p : Par ℝ) (x : ℝ) :
    normRaw .yeoJohnson p x = G (c0 p) p.lmbda (c2 p) (2 - p.lmbda) x := by
  simp only [normRaw, G, T, neg_ite, ← neg_div, ge_iff_le, Nat.cast_zero, Nat.cast_one, Nat.cast_ofNat, rpow_real, log_real,
    add_comm 1 x, ← sub_eq_add_neg, neg_add_eq_sub]

theorem denormRaw_yeoJohnson (p : Par ℝ) (y : ℝ) :
    denormRaw .yeoJohnson p y = Ginv (c0 p) p.lmbda (c2 p) (2 - p.lmbda) y := by
  rw [Ginv, Tinv, Tinv, show 1 + -y * (2 - p.lmbda) = -(2 - p.lmbda) * y + 1 by ring]
  simp only [denormRaw, ite_sub, sub_ite, add_comm 1 (y * p.lmbda), neg_sub, ge_iff_le, Nat.cast_zero, Nat.cast_one,
    Nat.cast_ofNat, rpow_real, exp_real]

theorem derivRaw_yeoJohnson (p : Par ℝ) (x : ℝ) :
    derivRaw .yeoJohnson p x = G' p.lmbda (2 - p.lmbda) x := by
  simp only [derivRaw, G', rpow_real, fabs_real, Nat.cast_one]
  rcases lt_trichotomy x 0 with hx | rfl | hx
  · rw [sgn_neg hx, if_neg (not_le.mpr hx), abs_of_neg hx]; congr 1 <;> ring
  · simp [sgn_zero]
  · rw [sgn_pos hx, if_pos hx.le, abs_of_pos hx]; congr 1; ring

/-- Modulus is `sgn x · T(|x| + 1)`, i.e. the two-sided transform with the same core on both sides -/
theorem normRaw_modulus (p : Par ℝ) (x : ℝ) :
    normRaw .modulus p x = G (c0 p) p.lmbda (c0 p) p.lmbda x := by
  rw [G, ← neg_add_eq_sub, ← sgn_mul_abs (F := fun u => T (c0 p) p.lmbda (u + 1)) (by simp only [zero_add, T_one])]
  simp only [normRaw, T, mul_ite, ← mul_div_assoc, Nat.cast_one, rpow_real, log_real, fabs_real, add_comm 1 |x|]

theorem denormRaw_modulus (p : Par ℝ) (y : ℝ) :
    denormRaw .modulus p y = Ginv (c0 p) p.lmbda (c0 p) p.lmbda y := by
  rw [Ginv, ← neg_sub (Tinv _ _ (-y)) 1,
    ← sgn_mul_abs (F := fun u => Tinv (c0 p) p.lmbda u - 1) (by simp only [Tinv_zero, sub_self])]
  simp only [denormRaw, Tinv, ite_sub, mul_ite, mul_comm |y|, Nat.cast_one, rpow_real, exp_real, fabs_real]

theorem derivRaw_modulus (p : Par ℝ) (x : ℝ) :
    derivRaw .modulus p x = G' p.lmbda p.lmbda x := by
  simp only [derivRaw, G', rpow_real, fabs_real, Nat.cast_one]
  rcases le_or_gt 0 x with hx | hx
  · rw [if_pos hx, abs_of_nonneg hx]
  · rw [if_neg (not_le.mpr hx), abs_of_neg hx]; congr 1; ring

/-! ### sums, mean, variance, Gaussian log-likelihood -/

theorem sum_eq (l : List ℝ) : Model.Norm.sum l = l.sum := by
  rw [Model.Norm.sum, Nat.cast_zero]; exact List.sum_eq_foldl.symm

theorem mean_eq (l : List ℝ) : Model.Norm.mean l = l.sum / l.length := by
  simp [Model.Norm.mean, sum_eq]

theorem var_eq (l : List ℝ) :
    Model.Norm.var l = (l.map fun y => (y - l.sum / l.length) ^ 2).sum / l.length := by
  simp only [Model.Norm.var, sum_eq, mean_eq]
  congr 2; apply List.map_congr_left; intro y _; ring

theorem fmax_of_le {a b : ℝ} (h : a ≤ b) : fmax a b = b := by
  unfold fmax; split
  · rfl
  · exact le_antisymm h (not_lt.mp ‹_›)

theorem length_ne {ι : Type} {d : List ι} (hn : d ≠ []) : (d.length : ℝ) ≠ 0 :=
  Nat.cast_ne_zero.mpr (mt List.length_eq_zero_iff.mp hn)

theorem sum_gauss {ι : Type} (d : List ι) (f h : ι → ℝ) (c μ v : ℝ) :
    (d.map fun x => (c - (f x - μ) ^ 2 / (2 * v)) + h x).sum =
      (d.length : ℝ) * c - (d.map fun x => (f x - μ) ^ 2).sum / (2 * v) + (d.map h).sum := by
  induction d with
  | nil => simp
  | cons x t ih => simp only [List.map_cons, List.sum_cons, List.length_cons, ih, Nat.cast_succ]; ring

theorem sum_sq_dev {ι : Type} (d : List ι) (f : ι → ℝ) (μ : ℝ) :
    (d.map fun x => (f x - μ) ^ 2).sum =
      (d.map fun x => f x ^ 2).sum - 2 * μ * (d.map f).sum + d.length * μ ^ 2 := by
  induction d with
  | nil => simp
  | cons x t ih => simp only [List.map_cons, List.sum_cons, List.length_cons, ih, Nat.cast_succ]; ring

/-- the sample mean minimises the sum of squared deviations -/
theorem sum_sq_dev_mean {ι : Type} (d : List ι) (f : ι → ℝ) (μ : ℝ) (hn : d ≠ []) :
    (d.map fun x => (f x - μ) ^ 2).sum =
      (d.map fun x => (f x - Model.Norm.mean (d.map f)) ^ 2).sum + d.length * (Model.Norm.mean (d.map f) - μ) ^ 2 := by
  have hs : (d.map f).sum = d.length * Model.Norm.mean (d.map f) := by
    rw [mean_eq, List.length_map, mul_div_cancel₀ _ (length_ne hn)]
  rw [sum_sq_dev d f μ, sum_sq_dev d f (Model.Norm.mean (d.map f))]
  linear_combination (2 * Model.Norm.mean (d.map f) - 2 * μ) * hs

/-- among the Gaussian log-likelihoods `n·(−½ log 2πv) − S/(2v)` of `n` values whose squared deviations sum to `S ≥ nV`, the one with
    `v = V`, `S = nV` is largest: `log t ≤ t − 1` at `t = V/v` -/
theorem gauss_profile_le {n V v S : ℝ} (hn : 0 ≤ n) (hV : 0 < V) (hv : 0 < v) (hS : n * V ≤ S) :
    n * (-(1 / 2) * Real.log (2 * π * v)) - S / (2 * v) ≤ n * (-(1 / 2) * Real.log (2 * π * V)) - n * V / (2 * V) := by
  have hlog := mul_le_mul_of_nonneg_left (Real.log_le_sub_one_of_pos (div_pos hV hv)) (div_nonneg hn zero_le_two)
  rw [Real.log_div hV.ne' hv.ne'] at hlog
  rw [Real.log_mul two_pi_pos.ne' hv.ne', Real.log_mul two_pi_pos.ne' hV.ne', mul_div_mul_right _ _ hV.ne']
  linear_combination hlog + 1 / (2 * v) * hS

/-! ### bookkeeping of `Normalizer.fit` (law-free: any carrier, also `Float`) -/

section Fit
open GSV.Model.Norm
variable {α : Type}

theorem setAttr_same (s : Attrs α) (n : String) (v : α) : setAttr s n v n = v := by simp [setAttr]

theorem setAttr_other (s : Attrs α) {n m : String} (v : α) (h : m ≠ n) : setAttr s n v m = s m := by
  simp [setAttr, h]

theorem writeBack_nil (s : Attrs α) (x : List α) : writeBack s [] x = s := by simp [writeBack]

theorem writeBack_nil_right (s : Attrs α) (names : List String) : writeBack s names [] = s := by
  simp [writeBack]

theorem writeBack_cons (s : Attrs α) (n : String) (ns : List String) (v : α) (vs : List α) :
    writeBack s (n :: ns) (v :: vs) = writeBack (setAttr s n v) ns vs := by
  simp [writeBack]

theorem writeBack_of_not_mem {s : Attrs α} {names : List String} {x : List α} {m : String} (h : m ∉ names) :
    writeBack s names x m = s m := by
  induction names generalizing s x with
  | nil => rw [writeBack_nil]
  | cons n ns ih =>
    cases x with
    | nil => rw [writeBack_nil_right]
    | cons v vs =>
      rw [writeBack_cons, ih fun hm => h (List.mem_cons_of_mem _ hm)]
      exact setAttr_other s v (fun e => h (e ▸ List.mem_cons_self))

theorem writeBack_get (s : Attrs α) {names : List String} {x : List α} (hnd : names.Nodup)
    (hlen : x.length = names.length) {i : Nat} (hi : i < names.length) :
    writeBack s names x names[i] = x[i]'(hlen ▸ hi) := by
  induction names generalizing s x i with
  | nil => exact absurd hi (Nat.not_lt_zero _)
  | cons n ns ih =>
    cases x with
    | nil => simp at hlen
    | cons v vs =>
      rw [writeBack_cons]
      have hnd' := List.nodup_cons.mp hnd
      cases i with
      | zero =>
        simp only [List.getElem_cons_zero]
        rw [writeBack_of_not_mem hnd'.1, setAttr_same]
      | succ j =>
        simp only [List.getElem_cons_succ]
        exact ih _ hnd'.2 (by simpa using hlen) (by simpa using hi)

/-- writing the values of `b` at the names makes the object agree with `b` there (duplicates allowed) -/
theorem writeBack_map (s b : Attrs α) (names : List String) {m : String} (h : m ∈ names) :
    writeBack s names (names.map b) m = b m := by
  induction names generalizing s with
  | nil => exact absurd h List.not_mem_nil
  | cons n ns ih =>
    rw [List.map_cons, writeBack_cons]
    by_cases hm : m ∈ ns
    · exact ih _ hm
    · rw [writeBack_of_not_mem hm, (List.mem_cons.mp h).resolve_right hm, setAttr_same]

/-- a full-length vector overwrites every name: the result does not depend on the previous values at the names -/
theorem writeBack_congr {a b : Attrs α} {names : List String} {x : List α} (hlen : names.length ≤ x.length)
    (h : ∀ m, m ∉ names → a m = b m) : writeBack a names x = writeBack b names x := by
  induction names generalizing a b x with
  | nil => rw [writeBack_nil, writeBack_nil]; funext m; exact h m List.not_mem_nil
  | cons n ns ih =>
    cases x with
    | nil => simp at hlen
    | cons v vs =>
      rw [writeBack_cons, writeBack_cons]
      refine ih (by simpa using hlen) (fun m hm => ?_)
      by_cases e : m = n
      · rw [e, setAttr_same, setAttr_same]
      · rw [setAttr_other _ _ e, setAttr_other _ _ e]
        exact h m (fun hc => (List.mem_cons.mp hc).elim e hm)

theorem afterTrials_of_not_mem {s : Attrs α} {free : List String} {trials : List (List α)} {m : String}
    (h : m ∉ free) : afterTrials s free trials m = s m := by
  induction trials generalizing s with
  | nil => rfl
  | cons t ts ih =>
    show afterTrials (writeBack s free t) free ts m = s m
    rw [ih, writeBack_of_not_mem h]

theorem seenStates_of_not_mem {s : Attrs α} {free : List String} {trials : List (List α)} {m : String}
    (h : m ∉ free) : ∀ a ∈ seenStates s free trials, a m = s m := by
  induction trials generalizing s with
  | nil => intro a ha; exact absurd ha List.not_mem_nil
  | cons t ts ih =>
    intro a ha
    rcases List.mem_cons.mp ha with e | e
    · rw [e, writeBack_of_not_mem h]
    · rw [ih a e, writeBack_of_not_mem h]

theorem mem_paraNames {all skip : List String} {n : String} : n ∈ paraNames all skip ↔ n ∈ all ∧ n ∉ skip := by
  simp [paraNames, List.mem_filter]

theorem insertName_perm (n : String) (l : List String) : (insertName n l).Perm (n :: l) := by
  induction l with
  | nil => exact List.Perm.refl _
  | cons m ms ih =>
    unfold insertName
    split
    · exact ((List.Perm.cons m ih).trans (List.Perm.swap n m ms))
    · exact List.Perm.refl _

theorem sortNames_perm (l : List String) : (sortNames l).Perm l := by
  induction l with
  | nil => exact List.Perm.refl _
  | cons n ns ih =>
    show (insertName n (sortNames ns)).Perm (n :: ns)
    exact (insertName_perm n _).trans (List.Perm.cons n ih)

theorem mem_sortNames {l : List String} {n : String} : n ∈ sortNames l ↔ n ∈ l := (sortNames_perm l).mem_iff

theorem paraNames_nodup {defaults skip : List String} (h : defaults.Nodup) :
    (paraNames (sortNames defaults) skip).Nodup :=
  List.Nodup.filter _ ((sortNames_perm defaults).nodup_iff.mpr h)

theorem fit_of_nil [Arith α] {defaults skip : List String} {s : Attrs α} {ub : Option (α × α)}
    {ux : Option (List α)} {run : OptRun α} (h : paraNames (sortNames defaults) skip = []) :
    fit defaults s skip ub ux run
      = { attrs := s, ret := [], warned := true, route := 0, bracket := none, x0 := none, seen := [] } := by
  simp only [fit, h, List.isEmpty_nil, if_true]

theorem fit_of_ne_nil [Arith α] {defaults skip : List String} {s : Attrs α} {ub : Option (α × α)}
    {ux : Option (List α)} {run : OptRun α} {free : List String} (hf : paraNames (sortNames defaults) skip = free)
    (h : free ≠ []) :
    fit defaults s skip ub ux run
      = { attrs := writeBack (afterTrials s free run.trials) free run.x
          ret := (sortNames defaults).map fun n => (n, writeBack (afterTrials s free run.trials) free run.x n)
          warned := false
          route := if free.length = 1 then 1 else 2
          bracket := if free.length = 1 then some (ub.getD (-((2:Nat):α), ((2:Nat):α))) else none
          x0 := if free.length = 1 then none else some (ux.getD (free.map s))
          seen := seenStates s free run.trials } := by
  subst hf
  simp only [fit, List.isEmpty_eq_false_iff.mpr h, Bool.false_eq_true, if_false]

end Fit

end GSV.Lemmas.Norm
